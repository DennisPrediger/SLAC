/-
  SlacProofs.F64Near — correct rounding, the half the display round trip needs (being near SUFFICES; SlacProofs.F64SemNear
  has the converse, that the result IS the nearest): a value within relative 2^-54 of a finite double
  x = mx·2^ex (canonical) is rounded to x by core's `roundWithAccuracy` (`rwaFrac_near`).  `rwaFrac_eq` has three
  outcomes (`rwaFrac_zero`, `rwaFrac_fit`, `rwaFrac_carry`); a near value fits at the exponent of x, except just below
  a power of two, where it is rounded in the binade below with one more bit, reaches 2^53 and is renormalised.
-/
import SlacProofs.F64Sci
set_option autoImplicit false
namespace Slac
namespace F64
open Float.Model Float.Model.UnpackedFloat

/-- a fraction within half a unit of the integer mx (strictly) rounds to mx: `rne_bounds` leaves no other integer -/
theorem rne_near (A B mx : Nat) (hB : 0 < B)
    (h1 : 2 * A < 2 * (mx * B) + B) (h2 : 2 * (mx * B) < 2 * A + B) : rneFrac A B = mx := by
  obtain ⟨b1, b2, _⟩ := rne_bounds A B hB
  rcases Nat.lt_trichotomy (rneFrac A B) mx with h | h | h
  · have := Nat.mul_le_mul_right B (show rneFrac A B + 1 ≤ mx from h)
    rw [Nat.add_mul, Nat.one_mul] at this; omega
  · exact h
  · have := Nat.mul_le_mul_right B (show mx + 1 ≤ rneFrac A B from h)
    rw [Nat.add_mul, Nat.one_mul] at this; omega

theorem log2_div (A B n : Nat) (hB : 0 < B) (h1 : 2^n * B ≤ A) (h2 : A < 2^(n + 1) * B) : (A / B).log2 = n :=
  log2_eq_of _ _ ((Nat.le_div_iff_mul_le hB).2 h1) ((Nat.div_lt_iff_lt_mul hB).2 h2)

theorem tgt_of_log2 (Q : Nat) (e : Int) (n : Nat) (hQ : Q.log2 = n) :
    tgt Q e = max ((n : Int) + 1 + e - 53) (-1074) := by unfold tgt; rw [hQ]

theorem tgt_like_canon {mx : Nat} {ex : Int} (hc : Canon mx ex) (Q : Nat) (e : Int) (n : Nat) (hQ : Q.log2 = n)
    (hn : (n : Int) + e = mx.log2 + ex) : tgt Q e = ex := by
  have := hc.tgt_eq
  unfold tgt at this
  rw [tgt_of_log2 Q e n hQ]; omega

/-! ### the three outcomes of `rwaFrac_eq`: T is the target exponent, r the mantissa rounded there -/

theorem rwaFrac_zero (s : Sign) (A B : Nat) (e T : Int) (hB : 0 < B) (hT : tgt (A / B) e = T)
    (hr : rneFrac A (B * 2^(T - e).toNat) = 0) : rwaFrac s A B e = .zero s := by
  rw [rwaFrac_eq s A B e hB]
  simp only [hT, hr]
  rw [dif_pos (Nat.zero_div _)]

theorem rwaFrac_fit (s : Sign) (A B : Nat) (e T : Int) (r : Nat) (hB : 0 < B) (hT : tgt (A / B) e = T) (hTe : e ≤ T)
    (hr : rneFrac A (B * 2^(T - e).toNat) = r) (hr0 : 0 < r) (hfit : tgt r T = T) :
    rwaFrac s A B e = .finite s r T hr0 := by
  have he1 : e + (((T - e).toNat : Nat) : Int) = T := by omega
  rw [rwaFrac_eq s A B e hB]
  simp only [hT, hr, he1, hfit, Int.sub_self, Int.toNat_zero, Nat.pow_zero, Nat.div_one]
  rw [dif_neg (by omega)]
  congr 1; omega

theorem rwaFrac_carry (s : Sign) (A B : Nat) (e T : Int) (hB : 0 < B) (hT : tgt (A / B) e = T) (hTe : e ≤ T)
    (hr : rneFrac A (B * 2^(T - e).toNat) = 2^53) :
    rwaFrac s A B e = .finite s (2^52) (T + 1) (by decide) := by
  have he1 : e + (((T - e).toNat : Nat) : Int) = T := by omega
  have hT0 : -1074 ≤ T := by rw [← hT]; unfold tgt; omega
  have ht2 : tgt (2^53) T = T + 1 := by unfold tgt; rw [Nat.log2_two_pow]; omega
  have hj2 : (T + 1 - T).toNat = 1 := by omega
  rw [rwaFrac_eq s A B e hB]
  simp only [hT, hr, he1, ht2, hj2]
  rw [dif_neg (by decide)]
  congr 1

/-- A is within half a unit of mx·D, where mx has l + 1 bits: A/D has l + 1 bits too, unless mx = 2^l and A lies
    just below — within a quarter of a unit there -/
def NearMantissa (mx l D A : Nat) : Prop :=
  (2 * A < 2 * (mx * D) + D ∧ 2 * (mx * D) < 2 * A + D) ∧ A < 2^(l + 1) * D ∧
  (2^l * D ≤ A ∨ (mx = 2^l ∧ 2^l * D ≤ 2 * A ∧ A < 2^l * D ∧ 4 * (mx * D) < 4 * A + D))

theorem near_bounds (mx D A l : Nat) (hD : 0 < D) (hmx : mx < 2^53) (hl1 : 2^l ≤ mx) (hl2 : mx < 2^(l + 1))
    (H1 : A * 2^54 < mx * D * 2^54 + mx * D) (H2 : mx * D * 2^54 < A * 2^54 + mx * D) : NearMantissa mx l D A := by
  unfold NearMantissa
  have hPlt : mx * D < 2^53 * D := Nat.mul_lt_mul_of_pos_right hmx hD
  have hP1 : 2^l * D ≤ mx * D := Nat.mul_le_mul_right _ hl1
  have hP2 : mx * D + D ≤ 2^(l + 1) * D := by rw [← Nat.succ_mul]; exact Nat.mul_le_mul_right _ hl2
  have hmxl : (mx = 2^l ∧ mx * D ≤ 2^52 * D) ∨ 2^l * D + D ≤ mx * D := by
    rcases Nat.lt_or_ge (2^l) mx with h | h
    · right; rw [← Nat.succ_mul]; exact Nat.mul_le_mul_right _ h
    · have hl : l < 53 := (Nat.pow_lt_pow_iff_right (by decide)).1 (Nat.lt_of_le_of_lt hl1 hmx)
      have heq : mx = 2^l := by omega
      exact Or.inl ⟨heq, Nat.mul_le_mul_right _ (by rw [heq]; exact Nat.pow_le_pow_right (by decide) (by omega))⟩
  generalize mx * D = P at *
  generalize 2^l * D = L at *
  generalize 2^(l + 1) * D = U at *
  refine ⟨⟨by omega, by omega⟩, by omega, ?_⟩
  rcases hmxl with ⟨h, h52⟩ | h
  · by_cases hA : L ≤ A
    · exact Or.inl hA
    · exact Or.inr ⟨h, by omega, by omega, by omega⟩
  · exact Or.inl (by omega)

/-- with g + 1 guard bits (D = B·2^(g+1) is the denominator at exponent ex) such a fraction rounds to mx at ex,
    through the binade below if A lies under the power of two mx -/
theorem rwaFrac_of_bounds (s : Sign) (mx : Nat) (ex : Int) (hc : Canon mx ex) (A B : Nat) (e : Int) (hB : 0 < B)
    (g : Nat) (hg : ex - e = (g : Int) + 1) (h : NearMantissa mx mx.log2 (B * 2^(g + 1)) A) :
    rwaFrac s A B e = .finite s mx ex hc.pos := by
  obtain ⟨⟨h1, h2⟩, hub, hlb⟩ := h
  have hgt : (ex - e).toNat = g + 1 := by omega
  have hpow : ∀ n : Nat, 2^(n + g + 1) * B = 2^n * (B * 2^(g + 1)) := fun n => by
    rw [Nat.add_assoc, Nat.pow_add]; ac_rfl
  have hB' : 0 < B * 2^(g + 1) := Nat.mul_pos hB (Nat.two_pow_pos _)
  have hrne : rneFrac A (B * 2^(ex - e).toNat) = mx := by rw [hgt]; exact rne_near A _ mx hB' h1 h2
  have hee : e ≤ ex := by omega
  rcases hlb with hcase | ⟨hmxl, hcase, hcase', hclose⟩
  · -- the integer part has the binary exponent of mx·2^(g+1)
    have hlog : (A / B).log2 = mx.log2 + g + 1 := log2_div A B _ hB (by rw [hpow]; exact hcase) (by
      rw [show mx.log2 + g + 1 + 1 = mx.log2 + 1 + g + 1 by omega, hpow]; exact hub)
    have hT : tgt (A / B) e = ex := tgt_like_canon hc _ _ _ hlog (by omega)
    exact rwaFrac_fit s A B e ex mx hB hT hee hrne hc.pos hc.tgt_eq
  · -- just below a power of two: mx = 2^l, and the integer part has one bit less
    have hB₁ : B * 2^(g + 1) = 2 * (B * 2^g) := by rw [Nat.pow_succ]; ac_rfl
    have hlog : (A / B).log2 = mx.log2 + g := log2_div A B _ hB (by
      rw [Nat.pow_add, Nat.mul_assoc, Nat.mul_comm _ B]; rw [hB₁] at hcase
      exact Nat.le_of_mul_le_mul_left (by rw [Nat.mul_left_comm]; exact hcase) (by decide : 0 < 2)) (by
      rw [hpow]; exact hcase')
    have hT := tgt_of_log2 _ e _ hlog
    rcases hc.normal_or_sub with ⟨_, _, hl, hge⟩ | ⟨_, hl, hex⟩
    · by_cases hmin : ex = -1074
      · -- smallest normal: the target exponent is still ex = -1074
        exact rwaFrac_fit s A B e ex mx hB (by rw [hT]; omega) hee hrne hc.pos hc.tgt_eq
      · -- the value lies in the binade below: one more bit, rounds up to 2^53, renormalised
        have h53 : mx * (B * 2^(g + 1)) = 2^53 * (B * 2^g) := by
          rw [hmxl, hl, hB₁, show (2:Nat)^53 = 2^52 * 2 by decide, Nat.mul_assoc]
        rw [h53, hB₁] at hclose
        rw [← hmxl, h53] at hcase'
        have hr : rneFrac A (B * 2^g) = 2^53 :=
          rne_near A _ (2^53) (Nat.mul_pos hB (Nat.two_pow_pos g)) (by omega) (by omega)
        have hT' : tgt (A / B) e = ex - 1 := by rw [hT]; omega
        have hgj : (ex - 1 - e).toNat = g := by omega
        rw [rwaFrac_carry s A B e (ex - 1) hB hT' (by omega) (by rw [hgj]; exact hr)]
        exact finite_congr _ _ _ _ _ _ _ (by rw [hmxl, hl]) (by omega)
    · -- subnormal: the target exponent is ex = -1074
      exact rwaFrac_fit s A B e ex mx hB (by rw [hT]; omega) hee hrne hc.pos hc.tgt_eq

/-- **a value within relative 2^-54 of a finite double rounds to that double.**
    x = mx·2^ex canonical; the value is A·2^e/B with e ≤ ex - 1; B' = B·2^(ex-e) is the common denominator:
    |A - mx·B'|·2^54 < mx·B'. -/
theorem rwaFrac_near (s : Sign) (mx : Nat) (ex : Int) (hc : Canon mx ex) (A B : Nat) (e : Int) (hB : 0 < B)
    (he1 : e ≤ ex - 1)
    (H1 : A * 2^54 < mx * (B * 2^(ex - e).toNat) * 2^54 + mx * (B * 2^(ex - e).toNat))
    (H2 : mx * (B * 2^(ex - e).toNat) * 2^54 < A * 2^54 + mx * (B * 2^(ex - e).toNat)) :
    rwaFrac s A B e = .finite s mx ex hc.pos := by
  have hmx0 : mx ≠ 0 := Nat.pos_iff_ne_zero.1 hc.pos
  obtain ⟨g, hg⟩ : ∃ g : Nat, (ex - e).toNat = g + 1 := ⟨(ex - e).toNat - 1, by omega⟩
  rw [hg] at H1 H2
  exact rwaFrac_of_bounds s mx ex hc A B e hB g (by omega)
    (near_bounds mx _ A mx.log2 (Nat.mul_pos hB (Nat.two_pow_pos _)) hc.lt (Nat.log2_self_le hmx0) Nat.lt_log2_self H1 H2)

end F64
end Slac
