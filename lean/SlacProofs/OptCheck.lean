/-
  SlacProofs.OptCheck — acceptance by `check_variables_and_functions` (`checkVF`, SlacModel.Validate) is kept by
  both optimizer passes (`transform`, `fold`; SlacModel.Optimizer).  The environment `env` that `fold` executes
  against and the environment `env'` that validates may differ (nothing about `env` is used).
-/
import SlacProofs.OptMu
import SlacProofs.ValidateLemmas
set_option autoImplicit false
set_option linter.unusedSectionVars false
namespace Slac.Opt
variable {N : Type} [NumOps N]

/-- `transform` keeps acceptance: a three-argument `if_then` call becomes a conditional over the same three
    arguments (the requirement that `if_then` exists is dropped, those on the arguments stay); a call that is kept
    keeps its name and its number of arguments. -/
theorem checkVF_transform (env : Env N) (e : Expr N) : checkVF env e = .ok () → checkVF env (transform e) = .ok () := by
  refine (transform_ind (Q := fun e e' => checkVF env e = .ok () → checkVF env e' = .ok ())
    (QL := fun es es' => es'.length = es.length ∧ (checkVFList env es = .ok () → checkVFList env es' = .ok ()))
    ?_ ?_ ?_ ?_ ?_ ?_ ?_ ?_ ?_ ?_).1 e
  · intro v h; exact h
  · intro n h; exact h
  · intro a b c h
    simp only [checkVF_call, checkVFList_cons, checkVFList_nil, and_true] at h
    rw [checkVF_ternary]; exact h.2
  · intro r r' op ih h; simp only [checkVF_unary] at h ⊢; exact ih h
  · intro l l' r r' op ihl ihr h; simp only [checkVF_binary] at h ⊢; exact ⟨ihl h.1, ihr h.2⟩
  · intro l l' m m' r r' op ihl ihm ihr h; simp only [checkVF_ternary] at h ⊢; exact ⟨ihl h.1, ihm h.2.1, ihr h.2.2⟩
  · intro es es' ih h; simp only [checkVF_array] at h ⊢; exact ih.2 h
  · intro n ps ps' _ ih h; rw [checkVF_call] at h ⊢; rw [ih.1]; exact ⟨h.1, ih.2 h.2⟩
  · exact ⟨rfl, fun h => h⟩
  · intro e e' es es' ihe ihes
    refine ⟨by simp only [List.length_cons, ihes.1], fun h => ?_⟩
    simp only [checkVFList_cons] at h ⊢; exact ⟨ihe h.1, ihes.2 h.2⟩

/-- `fold` keeps acceptance, also in the partially rewritten tree an aborted pass leaves behind: a node is replaced
    by a literal, a literal-condition conditional by one of its branches, or the children are rewritten (a call
    keeping its name and its number of arguments). -/
theorem checkVF_fold (env env' : Env N) (e : Expr N) :
    checkVF env' e = .ok () → checkVF env' (fold env e).tree = .ok () := by
  refine (fold_ind env (Q := fun e e' => checkVF env' e = .ok () → checkVF env' e' = .ok ())
    (QL := fun es es' => es'.length = es.length ∧ (checkVFList env' es = .ok () → checkVFList env' es' = .ok ()))
    ?_ ?_ ?_ ?_ ?_ ?_ ?_ ?_ ?_ ?_).1 e
  · intro e h; exact h
  · intro e v _ _ _; exact checkVF_lit env' v
  · intro c m r h
    simp only [checkVF_ternary] at h
    split
    · exact h.2.1
    · exact h.2.2
  · intro r r' op ih h; simp only [checkVF_unary] at h ⊢; exact ih h
  · intro l l' r r' op ihl ihr h; simp only [checkVF_binary] at h ⊢; exact ⟨ihl h.1, ihr h.2⟩
  · intro l l' m m' r r' op ihl ihm ihr h; simp only [checkVF_ternary] at h ⊢; exact ⟨ihl h.1, ihm h.2.1, ihr h.2.2⟩
  · intro es es' ih h; simp only [checkVF_array] at h ⊢; exact ih.2 h
  · intro n ps ps' ih h; rw [checkVF_call] at h ⊢; rw [ih.1]; exact ⟨h.1, ih.2 h.2⟩
  · exact ⟨rfl, fun h => h⟩
  · intro e e' es es' ihe ihes
    refine ⟨by simp only [List.length_cons, ihes.1], fun h => ?_⟩
    simp only [checkVFList_cons] at h ⊢; exact ⟨ihe h.1, ihes.2 h.2⟩

/-- the tree the caller holds after `optimize env` returned — `Ok` or `Err` — is accepted by every environment
    `env'` that accepted the original -/
theorem checkVF_optimize (env env' : Env N) :
    ∀ (fuel : Nat) (e e' : Expr N), checkVF env' e = .ok () → (optimize env fuel e).tree? = some e' →
      checkVF env' e' = .ok () :=
  optimize_ind env fun e h => checkVF_fold env env' _ (checkVF_transform env' e h)

end Slac.Opt
