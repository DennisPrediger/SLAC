/-
  SlacProofs.F64Tests — kernel-evaluated (`decide +kernel`) facts about the driver's doubles on concrete inputs:
  TESTS on finite samples, not theorems about all numbers.  Used as non-vacuity witnesses by C17.
-/
import SlacProofs.F64Parse
import SlacModel.Registry
set_option autoImplicit false
namespace Slac
namespace F64Tests
open F64 Stdlib

/-- the boundary values of the C17 round-trip test list -/
def samples : List Float :=
  [ Float.ofBits 0, Float.ofBits 0x8000000000000000, 1, -1, 0.1, -0.1, 5e-324, -5e-324,
    1.7976931348623157e308, -1.7976931348623157e308, F64.ofInt (2^53 + 1), F64.ofInt (2^53 + 2), 9007199254740993,
    0.30000000000000004, 0.3, 1e21, 1e22, 1e23, 1e-7, 123456789.125, 2.2250738585072014e-308, 2.225073858507201e-308,
    4.9406564584124654e-324, 1e300, 0.5, 255, 65.5, 3735928559.1234, F64.inf, -F64.inf, F64.nan ]

theorem display_texts :
    display 0.1 = ['0','.','1'] ∧ display 1 = ['1'] ∧ display (-1.5) = ['-','1','.','5'] ∧
    display 0.30000000000000004 = ['0','.','3','0','0','0','0','0','0','0','0','0','0','0','0','0','0','0','4'] ∧
    display 1e21 = ['1','0','0','0','0','0','0','0','0','0','0','0','0','0','0','0','0','0','0','0','0','0'] ∧
    display 5e-324 = ['0','.'] ++ List.replicate 323 '0' ++ ['5'] ∧
    display 123456789.125 = ['1','2','3','4','5','6','7','8','9','.','1','2','5'] := by decide +kernel

/-- round: ties away from zero; the largest double below 0.5 rounds to 0 -/
theorem round_ties :
    round 0.5 = 1 ∧ round 1.5 = 2 ∧ round 2.5 = 3 ∧ round (-0.5) = -1 ∧ round (-2.5) = -3 ∧
    round 0.49999999999999994 = Float.ofBits 0 ∧ round (-0.49999999999999994) = Float.ofBits 0x8000000000000000 ∧
    round 10.4 = 10 ∧ round 10.5 = 11 ∧ round (-10.4) = -10 ∧ round (-10.5) = -11 ∧
    round 4503599627370495.5 = 4503599627370496 ∧ round 4503599627370497 = 4503599627370497 := by decide +kernel

/-- even/odd beyond the integers: `floor` first (so -2.5 ↦ -3 is odd), huge doubles are even, NaN/inf are "odd" -/
theorem even_samples :
    isEven (2.5 : Float) = true ∧ isEven (-2.5 : Float) = false ∧ isEven (1e300 : Float) = true ∧
    isEven (F64.ofInt (2^53 + 2)) = true ∧ isEven (F64.ofInt (2^60)) = true ∧ isEven (9007199254740994 : Float) = true ∧
    isEven (F64.nan) = false ∧ isEven (F64.inf) = false ∧ isEven (-F64.inf) = false ∧
    isEven (Float.ofBits 0x8000000000000000) = true ∧ isEven (0.5 : Float) = true ∧ isEven (-0.5 : Float) = false := by
  decide +kernel

theorem hex_samples :
    NumX.toI64 (NumOps.trunc (3735928559.1234 : Float)) = 3735928559 ∧
    upperHexDigits 3735928559 = ['D','E','A','D','B','E','E','F'] ∧
    NumX.toI64 (NumOps.trunc (-1 : Float)) = -1 ∧
    upperHexDigits ((2:Int)^64 + -1).toNat = List.replicate 16 'F' ∧
    NumX.toI64 (NumOps.trunc (F64.nan)) = 0 ∧ NumX.toI64 (NumOps.trunc (1e300 : Float)) = 2^63 - 1 ∧
    NumX.toI64 (NumOps.trunc (-1e300 : Float)) = -(2^63) ∧ NumX.toI64 (NumOps.trunc (12345 : Float)) = 12345 ∧
    upperHexDigits 12345 = ['3','0','3','9'] := by decide +kernel

theorem chr_samples :
    NumX.inAscii (65.5 : Float) = true ∧ NumX.toU32 (65.5 : Float) = 65 ∧
    NumX.inAscii (127.5 : Float) = false ∧ NumX.inAscii (-0.5 : Float) = false ∧
    NumX.inAscii (Float.ofBits 0x8000000000000000) = true ∧ NumX.inAscii F64.nan = false ∧
    NumX.inAscii (128 : Float) = false ∧ NumX.inAscii (127 : Float) = true ∧ NumX.inAscii (0.99 : Float) = true ∧
    NumX.toU32 (0.99 : Float) = 0 := by decide +kernel

theorem trunc_frac_samples :
    trunc (2.75 : Float) = 2 ∧ fract (2.75 : Float) = 0.75 ∧ trunc (-2.75 : Float) = -2 ∧ fract (-2.75 : Float) = -0.75 ∧
    trunc (0.1 : Float) + fract (0.1 : Float) = 0.1 ∧ trunc (1e300 : Float) = 1e300 ∧ fract (1e300 : Float) = Float.ofBits 0 := by
  decide +kernel

/-- the shortest-digits search succeeds on these boundary values (`F64.displaySearchOk` proves it for every finite non-zero double) -/
theorem searchOk_samples : ∀ x ∈ [(0.1 : Float), 5e-324, 1.7976931348623157e308, 0.30000000000000004, -1.5, 1e21,
    F64.ofInt (2^53 + 1), 2.2250738585072014e-308], DisplaySearchOk x := by decide +kernel

end F64Tests
end Slac
