/-
  SlacProofs.DebugFmtTests — TESTS (kernel-evaluated examples) for SlacModel.DebugFmt.  The expected texts are the
  output of a Rust program's `format!("{:?}", …)` on the same values; the standing comparison with the crate is the
  correspondence stream.  Nothing here is a property theorem.
-/
import SlacProofs.DebugFmt
set_option autoImplicit false
namespace Slac
namespace DebugFmt

/-- the threshold constants are the f64 literals `1e-4` and `1e+16` -/
example : F64.bits (1e-4 : Float) = bits1em4 := by decide +kernel
example : F64.bits (1e16 : Float) = bits1e16 := by decide +kernel

example : debugF64 1 = "1.0".toList := eq_lit (by decide +kernel)
example : debugF64 1.5 = "1.5".toList := eq_lit (by decide +kernel)
example : debugF64 1e16 = "1e16".toList := eq_lit (by decide +kernel)
example : debugF64 9999999999999998 = "9999999999999998.0".toList := eq_lit (by decide +kernel)
example : debugF64 1e-5 = "1e-5".toList := eq_lit (by decide +kernel)
example : debugF64 0.0001 = "0.0001".toList := eq_lit (by decide +kernel)
example : debugF64 0.00009999999999999999 = "9.999999999999999e-5".toList := eq_lit (by decide +kernel)
example : debugF64 0 = "0.0".toList := eq_lit (by decide +kernel)
example : debugF64 (-0.0) = "-0.0".toList := eq_lit (by decide +kernel)
example : debugF64 (0.0 / 0.0) = "NaN".toList := eq_lit (by decide +kernel)
example : debugF64 (-(0.0 / 0.0)) = "NaN".toList := eq_lit (by decide +kernel)
example : debugF64 (1.0 / 0.0) = "inf".toList := eq_lit (by decide +kernel)
example : debugF64 (-1.0 / 0.0) = "-inf".toList := eq_lit (by decide +kernel)
example : debugF64 1e300 = "1e300".toList := eq_lit (by decide +kernel)
example : debugF64 5e-324 = "5e-324".toList := eq_lit (by decide +kernel)
example : debugF64 123456789012345680 = "1.2345678901234568e17".toList := eq_lit (by decide +kernel)
example : debugF64 123456.789 = "123456.789".toList := eq_lit (by decide +kernel)
example : debugF64 0.1 = "0.1".toList := eq_lit (by decide +kernel)
example : debugF64 100 = "100.0".toList := eq_lit (by decide +kernel)
example : debugF64 (-1.5e-7) = "-1.5e-7".toList := eq_lit (by decide +kernel)
example : debugF64 1.7976931348623157e308 = "1.7976931348623157e308".toList := eq_lit (by decide +kernel)

/-- `Display` and `Debug` use the same digits -/
example : F64.display 123456789012345680 = "123456789012345680".toList := eq_lit (by decide +kernel)
example : F64.display 1e16 = "10000000000000000".toList := eq_lit (by decide +kernel)

example : debugStr [] = ['"', '"'] := by decide
example : debugStr "it's".toList = "\"it's\"".toList := eq_lit (by decide +kernel)
example : debugStr "a\"b".toList = ['"', 'a', '\\', '"', 'b', '"'] := by decide +kernel
example : debugStr ['x', '\n', '\t', '\r', '\\', Char.ofNat 0] =
    ['"', 'x', '\\', 'n', '\\', 't', '\\', 'r', '\\', '\\', '\\', '0', '"'] := by decide +kernel
/-- combining acute accent (Grapheme_Extend) is escaped, the emoji is not -/
example : debugStr ['e', Char.ofNat 0x301, Char.ofNat 0x1F600] =
    ['"', 'e', '\\', 'u', '{', '3', '0', '1', '}', Char.ofNat 0x1F600, '"'] := by decide +kernel
/-- DEL, a C1 control, no-break space (escaped), soft hyphen (escaped), ä (printable) -/
example : debugStr [Char.ofNat 0x7F, Char.ofNat 0x85, Char.ofNat 0xA0, Char.ofNat 0xAD, Char.ofNat 0xE4] =
    "\"\\u{7f}\\u{85}\\u{a0}\\u{ad}".toList ++ [Char.ofNat 0xE4, '"'] := by decide +kernel
example : debugStr [Char.ofNat 0x10FFFF, Char.ofNat 1] = "\"\\u{10ffff}\\u{1}\"".toList := eq_lit (by decide +kernel)

example : strOfValue (.arr []) = "[]".toList := eq_lit (by decide +kernel)
example : debugValue (.arr []) = "Array([])".toList := eq_lit (by decide +kernel)
example : strOfValue (.arr [.num 1, .str "a\"b".toList, .arr [], .arr [.bool true, .bool false, .arr [.num (-0.0)]], .num 1e16]) =
    "[Number(1.0), String(\"a\\\"b\"), Array([]), Array([Boolean(true), Boolean(false), Array([Number(-0.0)])]), Number(1e16)]".toList :=
  eq_lit (by decide +kernel)
example : strOfValue (.arr [.num (0.0 / 0.0), .num 1e-5, .num 5e-324]) = "[Number(NaN), Number(1e-5), Number(5e-324)]".toList :=
  eq_lit (by decide +kernel)
/-- non-arrays are printed by `Display`, not `Debug` -/
example : strOfValue (.num 1) = "1".toList := eq_lit (by decide +kernel)
example : strOfValue (.num 1e16) = "10000000000000000".toList := eq_lit (by decide +kernel)
example : strOfValue (.str "a\"b".toList) = "a\"b".toList := eq_lit (by decide +kernel)
example : strOfValue (.bool true) = "true".toList := eq_lit (by decide +kernel)

end DebugFmt
end Slac
