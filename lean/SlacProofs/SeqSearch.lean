/-
  SlacProofs.SeqSearch — the search family of SlacModel.Seq (`splitOn`, `countOcc`, `containsSeq`, `findSeq`,
  `replaceSeq`, `intercalate`) against the independent meanings of SlacProofs.SeqSpec.
  Method: the accumulator/skip loop `splitAux` is reduced to two recursion equations for `splitOn`
  (`splitOn_nil`, `splitOn_cons`); everything else is induction over the haystack with these.
-/
import SlacModel.Seq
import SlacProofs.SeqSpec
set_option autoImplicit false
set_option linter.unusedSectionVars false
namespace Slac.Seq
open Slac.SeqSpec
variable {α : Type} [DecidableEq α]

theorem isPrefix_iff (n h : List α) : isPrefix n h = true ↔ n <+: h := by
  induction n generalizing h with
  | nil => simp [isPrefix]
  | cons a as ih =>
    cases h with
    | nil => simp [isPrefix]
    | cons b bs => simp [isPrefix, List.cons_prefix_cons, ih]

/-- put `p` in front of the first piece -/
def headApp (p : List α) : List (List α) → List (List α)
  | [] => [p]
  | q :: qs => (p ++ q) :: qs

theorem headApp_nil (l : List (List α)) (h : l ≠ []) : headApp [] l = l := by
  cases l with
  | nil => exact absurd rfl h
  | cons q qs => rfl

theorem headApp_headApp (p q : List α) (l : List (List α)) (h : l ≠ []) :
    headApp p (headApp q l) = headApp (p ++ q) l := by
  cases l with
  | nil => exact absurd rfl h
  | cons r rs => simp [headApp]

theorem headApp_ne_nil (p : List α) (l : List (List α)) : headApp p l ≠ [] := by
  cases l <;> simp [headApp]

theorem length_headApp (p : List α) (l : List (List α)) (h : l ≠ []) : (headApp p l).length = l.length := by
  cases l with
  | nil => exact absurd rfl h
  | cons r rs => rfl

theorem splitAux_ne_nil (n cur : List α) (k : Nat) (h : List α) : splitAux n cur k h ≠ [] := by
  induction h generalizing cur k with
  | nil => unfold splitAux; split <;> simp
  | cons c t ih =>
    cases k with
    | succ k => rw [splitAux]; exact ih _ _
    | zero =>
      rw [splitAux.eq_def]; simp only
      split
      · split <;> simp
      · exact ih _ _

theorem splitAux_nil_hay (n cur : List α) (k : Nat) : splitAux n cur k [] = splitAux n cur 0 [] := by
  cases k <;> simp [splitAux]

theorem splitAux_skip (n cur : List α) (k : Nat) (h : List α) :
    splitAux n cur k h = splitAux n cur 0 (h.drop k) := by
  induction k generalizing h with
  | zero => simp
  | succ k ih =>
    cases h with
    | nil => simp [splitAux]
    | cons c t => rw [splitAux]; simpa using ih t

theorem splitAux_cur (n cur : List α) (h : List α) :
    splitAux n cur 0 h = headApp cur.reverse (splitAux n [] 0 h) := by
  induction h generalizing cur with
  | nil => unfold splitAux; split <;> simp [headApp]
  | cons c t ih =>
    rw [splitAux.eq_def]; simp only
    conv => rhs; rw [splitAux.eq_def]; simp only
    split
    · cases n <;> simp [headApp]
    · rw [ih (c :: cur), ih [c], headApp_headApp _ _ _ (splitAux_ne_nil _ _ _ _)]
      simp

theorem splitOn_ne_nil (n h : List α) : splitOn n h ≠ [] := splitAux_ne_nil _ _ _ _

theorem splitOn_nil (n : List α) : splitOn n [] = if n = [] then [[], []] else [[]] := by
  cases n <;> simp [splitOn, splitAux]

theorem splitOn_cons (n : List α) (c : α) (t : List α) :
    splitOn n (c :: t) =
      if n <+: c :: t then
        [] :: (if n = [] then headApp [c] (splitOn n t) else splitOn n ((c :: t).drop n.length))
      else headApp [c] (splitOn n t) := by
  unfold splitOn
  rw [splitAux.eq_def]; simp only
  by_cases hp : n <+: c :: t
  · rw [if_pos ((isPrefix_iff _ _).2 hp), if_pos hp]
    cases n with
    | nil => simp [splitAux_cur [] [c] t]
    | cons a nt =>
      simp only [List.reverse_nil, List.length_cons, List.drop_succ_cons, reduceCtorEq, if_false]
      rw [splitAux_skip]
  · rw [if_neg (fun h => hp ((isPrefix_iff _ _).1 h)), if_neg hp, splitAux_cur]
    simp

/-- induction along the scan of `splitOn x`; `SeqSpec.replaceAll` recurses in exactly this way, which gives the principle -/
theorem splitOn_induction (x : List α) {motive : List α → Prop} (nil : motive [])
    (hitNil : x = [] → ∀ c t, motive t → motive (c :: t))
    (hit : x ≠ [] → ∀ c t, x <+: c :: t → motive ((c :: t).drop x.length) → motive (c :: t))
    (miss : ∀ c t, ¬ x <+: c :: t → motive t → motive (c :: t)) (s : List α) : motive s := by
  fun_induction replaceAll x x s with
  | case1 | case2 => exact nil
  | case3 c t hn ih => exact hitNil hn c t ih
  | case4 c t hn hp ih => exact hit hn c t hp ih
  | case5 c t hn hp ih => exact miss c t hp ih

theorem findSeq_nil (n : List α) : findSeq n [] = if n = [] then some 0 else none := by
  unfold findSeq; rw [splitOn_nil]
  by_cases hn : n = [] <;> simp [hn]

theorem findSeq_cons (n : List α) (c : α) (t : List α) :
    findSeq n (c :: t) = if n <+: c :: t then some 0 else (findSeq n t).map (· + 1) := by
  unfold findSeq; rw [splitOn_cons]
  by_cases hp : n <+: c :: t
  · have hr : ∀ r : List (List α), r ≠ [] → (match [] :: r with | p :: _ :: _ => some p.length | _ => none) = some 0 := by
      intro r hr; cases r with | nil => exact absurd rfl hr | cons _ _ => rfl
    rw [if_pos hp, if_pos hp]
    by_cases hn : n = []
    · rw [if_pos hn]; exact hr _ (headApp_ne_nil _ _)
    · rw [if_neg hn]; exact hr _ (splitOn_ne_nil _ _)
  · obtain ⟨p, ps, e⟩ := List.exists_cons_of_ne_nil (splitOn_ne_nil n t)
    rw [if_neg hp, if_neg hp, e]; cases ps <;> rfl

theorem firstOcc_zero (x s : List α) (h : x <+: s) : FirstOcc x s 0 :=
  ⟨by simpa using h, Nat.zero_le _, fun j hj => absurd hj (Nat.not_lt_zero _)⟩

theorem firstOcc_succ (x : List α) (c : α) (s : List α) (i : Nat) (hp : ¬ x <+: c :: s)
    (h : FirstOcc x s i) : FirstOcc x (c :: s) (i + 1) := by
  obtain ⟨h1, h2, h3⟩ := h
  refine ⟨by simpa using h1, by simpa using h2, ?_⟩
  intro j hj
  cases j with
  | zero => simpa using hp
  | succ j => simpa using h3 j (by omega)

theorem firstOcc_of_succ (x : List α) (c : α) (s : List α) (i : Nat)
    (h : FirstOcc x (c :: s) (i + 1)) : ¬ x <+: c :: s ∧ FirstOcc x s i := by
  obtain ⟨h1, h2, h3⟩ := h
  refine ⟨by simpa using h3 0 (Nat.succ_pos _), by simpa using h1, by simpa using h2, ?_⟩
  intro j hj
  simpa using h3 (j + 1) (by omega)

theorem findSeq_eq_some_iff (n h : List α) (i : Nat) : findSeq n h = some i ↔ FirstOcc n h i := by
  induction h generalizing i with
  | nil =>
    rw [findSeq_nil]
    unfold FirstOcc
    by_cases hn : n = []
    · subst hn
      simp only [if_true, Option.some.injEq, List.drop_nil, List.prefix_rfl, List.length_nil, true_and]
      constructor
      · intro h; subst h; exact ⟨Nat.le_refl _, fun j hj => absurd hj (Nat.not_lt_zero _)⟩
      · intro h; omega
    · simp [hn]
  | cons c t ih =>
    rw [findSeq_cons]
    by_cases hp : n <+: c :: t
    · rw [if_pos hp, Option.some.injEq]
      constructor
      · rintro rfl; exact firstOcc_zero n _ hp
      · intro hf
        cases i with
        | zero => rfl
        | succ i => exact absurd hp (firstOcc_of_succ n c t i hf).1
    · rw [if_neg hp, Option.map_eq_some_iff]
      constructor
      · rintro ⟨j, hj, rfl⟩; exact firstOcc_succ n c t j hp ((ih j).1 hj)
      · intro hf
        cases i with
        | zero => exact absurd (by simpa using hf.1) hp
        | succ i => exact ⟨i, (ih i).2 (firstOcc_of_succ n c t i hf).2, rfl⟩

theorem findSeq_isSome_iff (n h : List α) : (findSeq n h).isSome = true ↔ n <:+: h := by
  induction h with
  | nil =>
    rw [findSeq_nil]
    by_cases hn : n = [] <;> simp [hn]
  | cons c t ih =>
    rw [findSeq_cons, List.infix_cons_iff]
    by_cases hp : n <+: c :: t
    · simp [hp]
    · rw [if_neg hp, Option.isSome_map, ih]; simp [hp]

theorem findSeq_eq_none_iff (n h : List α) : findSeq n h = none ↔ ¬ n <:+: h := by
  rw [← findSeq_isSome_iff]; cases findSeq n h <;> simp

theorem exists_firstOcc {n h : List α} (hi : n <:+: h) : ∃ i, FirstOcc n h i := by
  cases hf : findSeq n h with
  | none => exact absurd hi ((findSeq_eq_none_iff n h).1 hf)
  | some i => exact ⟨i, (findSeq_eq_some_iff n h i).1 hf⟩

theorem containsSeq_eq_isSome (n h : List α) : containsSeq n h = (findSeq n h).isSome := by
  unfold containsSeq countOcc findSeq
  obtain ⟨p, ps, e⟩ := List.exists_cons_of_ne_nil (splitOn_ne_nil n h)
  rw [e]; cases ps <;> simp

theorem containsSeq_iff (n h : List α) : containsSeq n h = true ↔ n <:+: h := by
  rw [containsSeq_eq_isSome, findSeq_isSome_iff]

theorem length_splitOn (n h : List α) : (splitOn n h).length = countOcc n h + 1 := by
  have := List.length_pos_iff.2 (splitOn_ne_nil n h)
  unfold countOcc; omega

theorem countOcc_nil (n : List α) : countOcc n [] = if n = [] then 1 else 0 := by
  unfold countOcc; rw [splitOn_nil]; split <;> rfl

theorem countOcc_cons (n : List α) (c : α) (t : List α) :
    countOcc n (c :: t) =
      if n <+: c :: t then 1 + countOcc n ((c :: t).drop (max n.length 1)) else countOcc n t := by
  have e1 := length_splitOn n (c :: t)
  rw [splitOn_cons] at e1
  by_cases hp : n <+: c :: t
  · rw [if_pos hp] at e1 ⊢
    by_cases hn : n = []
    · subst hn
      rw [if_pos rfl, List.length_cons, length_headApp _ _ (splitOn_ne_nil _ _), length_splitOn] at e1
      simp only [List.length_nil, Nat.zero_max, List.drop_succ_cons, List.drop_zero]
      omega
    · rw [if_neg hn, List.length_cons, length_splitOn] at e1
      have : max n.length 1 = n.length := by
        have : n.length ≠ 0 := fun h => hn (List.length_eq_zero_iff.1 h)
        omega
      rw [this]; omega
  · rw [if_neg hp] at e1 ⊢
    rw [length_headApp _ _ (splitOn_ne_nil _ _), length_splitOn] at e1
    omega

theorem countOcc_eq_occCount (n h : List α) : countOcc n h = occCount n h := by
  fun_induction occCount n h with
  | case1 hn => rw [countOcc_nil, if_pos hn]
  | case2 hn => rw [countOcc_nil, if_neg hn]
  | case3 c t hp ih => rw [countOcc_cons, if_pos hp, ih]
  | case4 c t hp ih => rw [countOcc_cons, if_neg hp, ih]

theorem occCount_le (n h : List α) : occCount n h ≤ h.length + 1 := by
  fun_induction occCount n h with
  | case1 hn => simp
  | case2 hn => simp
  | case3 c t hp ih =>
    simp only [List.length_drop, List.length_cons] at ih ⊢
    omega
  | case4 c t hp ih => simp only [List.length_cons]; omega

theorem countOcc_le (n h : List α) : countOcc n h ≤ h.length + 1 := by
  rw [countOcc_eq_occCount]; exact occCount_le n h

theorem intercalate_eq_join (sep : List α) (ps : List (List α)) : intercalate sep ps = join sep ps := by
  induction ps with
  | nil => rfl
  | cons p ps ih =>
    cases ps with
    | nil => rfl
    | cons q qs => simp only [intercalate, join, ih]

theorem join_headApp (sep p : List α) (l : List (List α)) (h : l ≠ []) :
    join sep (headApp p l) = p ++ join sep l := by
  cases l with
  | nil => exact absurd rfl h
  | cons q qs => cases qs <;> simp [headApp, join]

theorem join_nil_cons (sep : List α) (l : List (List α)) (h : l ≠ []) :
    join sep ([] :: l) = sep ++ join sep l := by
  cases l with
  | nil => exact absurd rfl h
  | cons q qs => simp [join]

theorem replaceSeq_eq_replaceAll (frm to hay : List α) : replaceSeq frm to hay = replaceAll frm to hay := by
  unfold replaceSeq; rw [intercalate_eq_join]
  fun_induction replaceAll frm to hay with
  | case1 hn => rw [splitOn_nil, if_pos hn]; simp [join]
  | case2 hn => rw [splitOn_nil, if_neg hn]; simp [join]
  | case3 c t hn ih =>
    subst hn
    rw [splitOn_cons, if_pos (List.nil_prefix), if_pos rfl, join_nil_cons _ _ (headApp_ne_nil _ _),
      join_headApp _ _ _ (splitOn_ne_nil _ _), ih]
    simp
  | case4 c t hn hp ih =>
    rw [splitOn_cons, if_pos hp, if_neg hn, join_nil_cons _ _ (splitOn_ne_nil _ _), ih]
  | case5 c t hn hp ih =>
    rw [splitOn_cons, if_neg hp, join_headApp _ _ _ (splitOn_ne_nil _ _), ih]
    simp

theorem join_splitOn (sep hay : List α) : join sep (splitOn sep hay) = hay := by
  refine splitOn_induction sep (motive := fun h => join sep (splitOn sep h) = h) ?_
    (fun hn c t ih => ?_) (fun hn c t hp ih => ?_) (fun c t hp ih => ?_) hay
  · rw [splitOn_nil]; split <;> simp [join, *]
  · subst hn
    rw [splitOn_cons, if_pos List.nil_prefix, if_pos rfl, join_nil_cons _ _ (headApp_ne_nil _ _),
      join_headApp _ _ _ (splitOn_ne_nil _ _), ih]
    rfl
  · rw [splitOn_cons, if_pos hp, if_neg hn, join_nil_cons _ _ (splitOn_ne_nil _ _), ih]
    exact List.prefix_iff_eq_append.1 hp
  · rw [splitOn_cons, if_neg hp, join_headApp _ _ _ (splitOn_ne_nil _ _), ih]
    rfl

theorem intercalate_splitOn (sep hay : List α) : intercalate sep (splitOn sep hay) = hay := by
  rw [intercalate_eq_join, join_splitOn]

end Slac.Seq
