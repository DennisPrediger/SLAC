/-
  SlacProofs.ParserTotal — basic facts about the Pratt-parser model (SlacModel.Parser):
    * unfolding lemmas,
    * `stable`  : once a run ends in `ok`/`err`, more fuel does not change its outcome (fuel monotonicity),
    * `ok_induction` : induction over the successful runs of the five functions; instances: `shrink` (successful calls consume
                  tokens: every recursive call works on a shorter or equal suffix) and `suffix`,
    * `enough`  : fuel `3 * length + c` always suffices, i.e. the call tree of the parser is at most that deep.
-/
import SlacModel.Parser
set_option autoImplicit false
namespace Slac.Parser
variable {N : Type}

/-- the outcome is a value of the Rust function (`Ok` or `Err`), not a crash of the model -/
def Fine {α : Type} : COut N α → Prop
  | .ok _ => True
  | .err _ => True
  | .outOfFuel => False
  | .panic => False

section andThen
variable {α β : Type}

@[simp] theorem andThen_ok (a : α) (k : α → COut N β) : andThen (.ok a) k = k a := rfl
@[simp] theorem andThen_err (e : CErr N) (k : α → COut N β) : andThen (.err e) k = .err e := rfl
@[simp] theorem andThen_oof (k : α → COut N β) : andThen .outOfFuel k = .outOfFuel := rfl
@[simp] theorem andThen_panic (k : α → COut N β) : andThen .panic k = .panic := rfl

theorem andThen_eq_ok {x : COut N α} {k : α → COut N β} {b : β} :
    andThen x k = .ok b ↔ ∃ a, x = .ok a ∧ k a = .ok b := by
  cases x <;> simp

theorem fine_andThen {x : COut N α} {k : α → COut N β} (hx : Fine x) (hk : ∀ a, x = .ok a → Fine (k a)) :
    Fine (andThen x k) := by
  cases x with
  | ok a => exact hk a rfl
  | err e => trivial
  | _ => exact hx

theorem andThen_stable {x x' : COut N α} {k k' : α → COut N β}
    (hx : Fine x → x' = x) (hk : ∀ a, Fine (k a) → k' a = k a) (h : Fine (andThen x k)) :
    andThen x' k' = andThen x k := by
  cases x with
  | ok a => rw [hx trivial]; exact hk a h
  | err e => rw [hx trivial]; rfl
  | _ => exact h.elim

theorem ite_stable {c : Prop} [Decidable c] {x x' y y' : COut N α} (hx : Fine x → x' = x) (hy : Fine y → y' = y)
    (h : Fine (if c then x else y)) : (if c then x' else y') = if c then x else y := by
  split <;> rename_i hc
  · rw [if_pos hc] at h; exact hx h
  · rw [if_neg hc] at h; exact hy h

end andThen

theorem parsePrec_zero (p : Nat) (toks : List (Token N)) : parsePrec 0 p toks = .outOfFuel := rfl
theorem parsePrec_nil (f p : Nat) : parsePrec (f+1) p ([] : List (Token N)) = .err .eof := rfl
theorem parsePrec_cons (f p : Nat) (t : Token N) (r : List (Token N)) :
    parsePrec (f+1) p (t :: r) = andThen (doPrefix f t r) fun x => infixLoop f p x.1 x.2 := rfl

theorem doPrefix_zero (t : Token N) (rest : List (Token N)) : doPrefix 0 t rest = .outOfFuel := rfl
theorem doPrefix_succ (f : Nat) (t : Token N) (rest : List (Token N)) :
    doPrefix (f+1) t rest =
      (match t with
      | .literal v => .ok (.lit v, rest)
      | .identifier s => .ok (.var s, rest)
      | .leftParen => andThen (parsePrec f 1 rest) fun x => chompParen x.1 x.2
      | .leftBracket => andThen (exprList f false rest) fun x => .ok (.array x.1, x.2)
      | .not => andThen (parsePrec f 8 rest) fun x => .ok (.unary x.1 .not, x.2)
      | .minus => andThen (parsePrec f 8 rest) fun x => .ok (.unary x.1 .minus, x.2)
      | _ => .err (.noValidPrefixToken t)) := rfl

theorem infixLoop_zero (p : Nat) (l : Expr N) (toks : List (Token N)) : infixLoop 0 p l toks = .outOfFuel := rfl
theorem infixLoop_nil (f p : Nat) (l : Expr N) : infixLoop (f+1) p l ([] : List (Token N)) = .ok (l, []) := rfl
theorem infixLoop_cons (f p : Nat) (l : Expr N) (t : Token N) (rest : List (Token N)) :
    infixLoop (f+1) p l (t :: rest) =
      if p ≤ Token.prec t then andThen (doInfix f t l rest) fun x => infixLoop f p x.1 x.2
      else .ok (l, t :: rest) := rfl

theorem doInfix_zero (t : Token N) (l : Expr N) (rest : List (Token N)) : doInfix 0 t l rest = .outOfFuel := rfl
theorem doInfix_succ (f : Nat) (t : Token N) (left : Expr N) (rest : List (Token N)) :
    doInfix (f+1) t left rest =
      (match Token.binOp? t with
      | some op => andThen (parsePrec f (nextPrec (Token.prec t)) rest) fun x => .ok (.binary left x.1 op, x.2)
      | none =>
        match t with
        | .leftParen =>
          match left with
          | .var name => andThen (exprList f true rest) fun x => .ok (.call name x.1, x.2)
          | _ => .err (.callNotOnVariable t)
        | _ => .err (.noValidInfixToken t)) := rfl

theorem exprList_zero (b : Bool) (toks : List (Token N)) : exprList 0 b toks = .outOfFuel := rfl
theorem exprList_nil (f : Nat) (b : Bool) : exprList (f+1) b ([] : List (Token N)) = .err .eof := rfl
theorem exprList_cons (f : Nat) (b : Bool) (t : Token N) (rest : List (Token N)) :
    exprList (f+1) b (t :: rest) =
      if isClose b t then .ok ([], rest)
      else andThen (parsePrec f 1 (t :: rest)) fun x =>
        andThen (exprList f b (dropComma x.2)) fun y => .ok (x.1 :: y.1, y.2) := rfl

/-- the binary operators sit on the levels Or … Factor, so the right operand is parsed one level up without wrapping -/
theorem prec_binOp_le {t : Token N} {op : Op} (h : Token.binOp? t = some op) : 1 ≤ Token.prec t ∧ Token.prec t ≤ 7 := by
  cases t <;> first | exact ⟨Nat.le_of_ble_eq_true rfl, Nat.le_of_ble_eq_true rfl⟩ | cases h

theorem nextPrec_binOp {t : Token N} {op : Op} (h : Token.binOp? t = some op) : nextPrec (Token.prec t) = Token.prec t + 1 :=
  if_neg (by have := (prec_binOp_le h).2; omega)

theorem stable (f : Nat) :
    (∀ p (toks : List (Token N)), Fine (parsePrec f p toks) → parsePrec (f+1) p toks = parsePrec f p toks) ∧
    (∀ (t : Token N) rest, Fine (doPrefix f t rest) → doPrefix (f+1) t rest = doPrefix f t rest) ∧
    (∀ p (l : Expr N) toks, Fine (infixLoop f p l toks) → infixLoop (f+1) p l toks = infixLoop f p l toks) ∧
    (∀ (t : Token N) l rest, Fine (doInfix f t l rest) → doInfix (f+1) t l rest = doInfix f t l rest) ∧
    (∀ b (toks : List (Token N)), Fine (exprList f b toks) → exprList (f+1) b toks = exprList f b toks) := by
  induction f with
  | zero => simp [parsePrec_zero, doPrefix_zero, infixLoop_zero, doInfix_zero, exprList_zero, Fine]
  | succ f ih =>
    obtain ⟨ih1, ih2, ih3, ih4, ih5⟩ := ih
    refine ⟨fun p toks h => ?_, fun t rest h => ?_, fun p l toks h => ?_, fun t l rest h => ?_, fun b toks h => ?_⟩
    · cases toks with
      | nil => rfl
      | cons t r => exact andThen_stable (ih2 t r) (fun a => ih3 p a.1 a.2) h
    · rw [doPrefix_succ] at h
      rw [doPrefix_succ, doPrefix_succ]
      cases t <;> first
        | rfl
        | exact andThen_stable (ih1 _ _) (fun _ _ => rfl) h
        | exact andThen_stable (ih5 _ _) (fun _ _ => rfl) h
    · cases toks with
      | nil => rfl
      | cons t rest =>
        rw [infixLoop_cons] at h
        rw [infixLoop_cons, infixLoop_cons]
        exact ite_stable (andThen_stable (ih4 t l rest) fun a => ih3 p a.1 a.2) (fun _ => rfl) h
    · rw [doInfix_succ] at h
      rw [doInfix_succ, doInfix_succ]
      split
      · rename_i op hb
        simp only [hb] at h
        exact andThen_stable (ih1 _ _) (fun _ _ => rfl) h
      · rename_i hb
        simp only [hb] at h
        split
        · split
          · exact andThen_stable (ih5 _ _) (fun _ _ => rfl) h
          · rfl
        · rfl
    · cases toks with
      | nil => rfl
      | cons t rest =>
        rw [exprList_cons] at h
        rw [exprList_cons, exprList_cons]
        exact ite_stable (fun _ => rfl) (andThen_stable (ih1 _ _) fun a => andThen_stable (ih5 _ _) fun _ _ => rfl) h

theorem stable_le {α : Type} {g : Nat → COut N α} (hs : ∀ f, Fine (g f) → g (f + 1) = g f) {f f' : Nat} (h : Fine (g f))
    (hle : f ≤ f') : g f' = g f := by
  induction hle with
  | refl => rfl
  | step _ ih => rw [hs _ (by rw [ih]; exact h), ih]

theorem fine_of_eq_ok {α : Type} {x : COut N α} {a : α} (h : x = .ok a) : Fine x := by rw [h]; trivial

theorem parsePrec_stable {f f' p : Nat} {toks : List (Token N)} (h : Fine (parsePrec f p toks)) (hle : f ≤ f') :
    parsePrec f' p toks = parsePrec f p toks := stable_le (fun f => (stable f).1 p toks) h hle

theorem parsePrec_mono {f f' p : Nat} {toks : List (Token N)} {r} (h : parsePrec f p toks = .ok r) (hle : f ≤ f') :
    parsePrec f' p toks = .ok r := (parsePrec_stable (fine_of_eq_ok h) hle).trans h

theorem infixLoop_mono {f f' p : Nat} {l : Expr N} {toks : List (Token N)} {r}
    (h : infixLoop f p l toks = .ok r) (hle : f ≤ f') : infixLoop f' p l toks = .ok r :=
  (stable_le (fun f => (stable f).2.2.1 p l toks) (fine_of_eq_ok h) hle).trans h

theorem exprList_mono {f f' : Nat} {b : Bool} {toks : List (Token N)} {r}
    (h : exprList f b toks = .ok r) (hle : f ≤ f') : exprList f' b toks = .ok r :=
  (stable_le (fun f => (stable f).2.2.2.2 b toks) (fine_of_eq_ok h) hle).trans h

/-- two runs that both end in a value of the Rust function agree, whatever their fuels -/
theorem parsePrec_agree {f f' p : Nat} {toks : List (Token N)} (h : Fine (parsePrec f p toks))
    (h' : Fine (parsePrec f' p toks)) : parsePrec f' p toks = parsePrec f p toks := by
  rcases Nat.le_total f f' with hle | hle
  · exact parsePrec_stable h hle
  · exact (parsePrec_stable h' hle).symm

theorem chompParen_ok {e : Expr N} {r : List (Token N)} {x} (h : chompParen e r = .ok x) :
    x.1 = e ∧ r = .rightParen :: x.2 := by
  unfold chompParen at h
  split at h
  · cases h; exact ⟨rfl, rfl⟩
  · cases h
  · cases h

theorem dropComma_suffix (r : List (Token N)) : dropComma r <:+ r := by
  unfold dropComma
  split
  · exact List.suffix_cons _ _
  · exact List.suffix_refl _

theorem dropComma_length (r : List (Token N)) : (dropComma r).length ≤ r.length := (dropComma_suffix r).length_le

/-- relations `A … E` between the arguments and the `ok` result of the five functions, at fuel `f` -/
structure OkRel (A : Nat → List (Token N) → Expr N × List (Token N) → Prop) (B : Token N → List (Token N) → Expr N × List (Token N) → Prop)
    (C : Nat → Expr N → List (Token N) → Expr N × List (Token N) → Prop) (D : Token N → Expr N → List (Token N) → Expr N × List (Token N) → Prop)
    (E : Bool → List (Token N) → List (Expr N) × List (Token N) → Prop) (f : Nat) : Prop where
  parsePrec : ∀ p toks x, Parser.parsePrec f p toks = .ok x → A p toks x
  doPrefix : ∀ t rest x, Parser.doPrefix f t rest = .ok x → B t rest x
  infixLoop : ∀ p l toks x, Parser.infixLoop f p l toks = .ok x → C p l toks x
  doInfix : ∀ t l rest x, Parser.doInfix f t l rest = .ok x → D t l rest x
  exprList : ∀ b toks x, Parser.exprList f b toks = .ok x → E b toks x

/-- induction over the successful runs: one hypothesis per arm that can return `ok` -/
theorem ok_induction
    {A : Nat → List (Token N) → Expr N × List (Token N) → Prop} {B : Token N → List (Token N) → Expr N × List (Token N) → Prop}
    {C : Nat → Expr N → List (Token N) → Expr N × List (Token N) → Prop}
    {D : Token N → Expr N → List (Token N) → Expr N × List (Token N) → Prop}
    {E : Bool → List (Token N) → List (Expr N) × List (Token N) → Prop}
    (prec : ∀ {p t r a x}, B t r a → C p a.1 a.2 x → A p (t :: r) x)
    (lit : ∀ {v rest}, B (.literal v) rest (.lit v, rest))
    (var : ∀ {s rest}, B (.identifier s) rest (.var s, rest))
    (paren : ∀ {rest e r}, A 1 rest (e, .rightParen :: r) → B .leftParen rest (e, r))
    (array : ∀ {rest a}, E false rest a → B .leftBracket rest (.array a.1, a.2))
    (unot : ∀ {rest a}, A 8 rest a → B .not rest (.unary a.1 .not, a.2))
    (uminus : ∀ {rest a}, A 8 rest a → B .minus rest (.unary a.1 .minus, a.2))
    (stop : ∀ {p l toks}, C p l toks (l, toks))
    (step : ∀ {p l t rest a x}, D t l rest a → C p a.1 a.2 x → C p l (t :: rest) x)
    (binary : ∀ {t op l rest a}, Token.binOp? t = some op → A (nextPrec (Token.prec t)) rest a → D t l rest (.binary l a.1 op, a.2))
    (call : ∀ {name rest a}, E true rest a → D .leftParen (.var name) rest (.call name a.1, a.2))
    (close : ∀ {b t rest}, isClose b t = true → E b (t :: rest) ([], rest))
    (item : ∀ {b toks a y}, A 1 toks a → E b (dropComma a.2) y → E b toks (a.1 :: y.1, y.2)) (f : Nat) :
    OkRel A B C D E f := by
  induction f with
  | zero =>
    refine ⟨?_, ?_, ?_, ?_, ?_⟩ <;> intros <;> rename_i h <;>
      simp [parsePrec_zero, doPrefix_zero, infixLoop_zero, doInfix_zero, exprList_zero] at h
  | succ f ih =>
    obtain ⟨ih1, ih2, ih3, ih4, ih5⟩ := ih
    refine ⟨?_, ?_, ?_, ?_, ?_⟩
    · intro p toks x h
      cases toks with
      | nil => cases h
      | cons t r =>
        obtain ⟨a, ha, hk⟩ := andThen_eq_ok.1 h
        exact prec (ih2 _ _ _ ha) (ih3 _ _ _ _ hk)
    · intro t rest x h
      rw [doPrefix_succ] at h
      cases t <;> simp only [andThen_eq_ok] at h
      case literal v => cases h; exact lit
      case identifier s => cases h; exact var
      case leftParen =>
        obtain ⟨a, ha, hk⟩ := h
        obtain ⟨he, hr⟩ := chompParen_ok hk
        have := ih1 _ _ _ ha
        rw [← Prod.eta a, ← he, hr] at this
        exact paren this
      case leftBracket => obtain ⟨a, ha, hk⟩ := h; cases hk; exact array (ih5 _ _ _ ha)
      case not => obtain ⟨a, ha, hk⟩ := h; cases hk; exact unot (ih1 _ _ _ ha)
      case minus => obtain ⟨a, ha, hk⟩ := h; cases hk; exact uminus (ih1 _ _ _ ha)
      all_goals cases h
    · intro p l toks x h
      cases toks with
      | nil => cases h; exact stop
      | cons t rest =>
        rw [infixLoop_cons] at h
        split at h
        · obtain ⟨a, ha, hk⟩ := andThen_eq_ok.1 h
          exact step (ih4 _ _ _ _ ha) (ih3 _ _ _ _ hk)
        · cases h; exact stop
    · intro t l rest x h
      rw [doInfix_succ] at h
      split at h
      · rename_i op hb
        obtain ⟨a, ha, hk⟩ := andThen_eq_ok.1 h
        cases hk; exact binary hb (ih1 _ _ _ ha)
      · split at h
        · split at h
          · obtain ⟨a, ha, hk⟩ := andThen_eq_ok.1 h
            cases hk; exact call (ih5 _ _ _ ha)
          · cases h
        · cases h
    · intro b toks x h
      cases toks with
      | nil => cases h
      | cons t rest =>
        rw [exprList_cons] at h
        split at h
        · rename_i hc; cases h; exact close hc
        · obtain ⟨a, ha, hk⟩ := andThen_eq_ok.1 h
          obtain ⟨c, hc, hk⟩ := andThen_eq_ok.1 hk
          cases hk; exact item (ih1 _ _ _ ha) (ih5 _ _ _ hc)

theorem consumed (f : Nat) :
    OkRel (N := N) (fun _ toks x => x.2.length + 1 ≤ toks.length) (fun _ rest x => x.2.length ≤ rest.length)
      (fun _ _ toks x => x.2.length ≤ toks.length) (fun _ _ rest x => x.2.length + 1 ≤ rest.length)
      (fun _ toks x => x.2.length + 1 ≤ toks.length) f :=
  ok_induction (A := fun _ toks x => x.2.length + 1 ≤ toks.length) (B := fun _ rest x => x.2.length ≤ rest.length)
    (C := fun _ _ toks x => x.2.length ≤ toks.length) (D := fun _ _ rest x => x.2.length + 1 ≤ rest.length)
    (E := fun _ toks x => x.2.length + 1 ≤ toks.length)
    (prec := fun h1 h2 => Nat.succ_le_succ (Nat.le_trans h2 h1)) (lit := Nat.le_refl _) (var := Nat.le_refl _)
    (paren := fun h => Nat.le_of_succ_le (Nat.le_of_succ_le h)) (array := Nat.le_of_succ_le) (unot := Nat.le_of_succ_le)
    (uminus := Nat.le_of_succ_le) (stop := Nat.le_refl _) (step := fun h1 h2 => Nat.le_trans h2 (Nat.le_trans (Nat.le_of_succ_le h1) (Nat.le_succ _)))
    (binary := fun _ h => h) (call := fun h => h) (close := fun _ => Nat.le_refl _)
    (item := fun h1 h2 => Nat.le_trans h2 (Nat.le_trans (dropComma_length _) (Nat.le_of_succ_le h1))) f

theorem shrink (f : Nat) :
    (∀ p (toks : List (Token N)) x, parsePrec f p toks = .ok x → x.2.length + 1 ≤ toks.length) ∧
    (∀ (t : Token N) rest x, doPrefix f t rest = .ok x → x.2.length ≤ rest.length) ∧
    (∀ p (l : Expr N) toks x, infixLoop f p l toks = .ok x → x.2.length ≤ toks.length) ∧
    (∀ (t : Token N) l rest x, doInfix f t l rest = .ok x → x.2.length + 1 ≤ rest.length) ∧
    (∀ b (toks : List (Token N)) x, exprList f b toks = .ok x → x.2.length + 1 ≤ toks.length) :=
  have r := consumed (N := N) f
  ⟨r.parsePrec, r.doPrefix, r.infixLoop, r.doInfix, r.exprList⟩

theorem suffix (f : Nat) :
    OkRel (N := N) (fun _ toks x => x.2 <:+ toks) (fun _ rest x => x.2 <:+ rest) (fun _ _ toks x => x.2 <:+ toks)
      (fun _ _ rest x => x.2 <:+ rest) (fun _ toks x => x.2 <:+ toks) f :=
  ok_induction (A := fun _ toks x => x.2 <:+ toks) (B := fun _ rest x => x.2 <:+ rest) (C := fun _ _ toks x => x.2 <:+ toks)
    (D := fun _ _ rest x => x.2 <:+ rest) (E := fun _ toks x => x.2 <:+ toks)
    (prec := fun h1 h2 => (h2.trans h1).trans (List.suffix_cons _ _)) (lit := List.suffix_refl _) (var := List.suffix_refl _)
    (paren := fun h => (List.suffix_cons _ _).trans h) (array := id) (unot := id) (uminus := id) (stop := List.suffix_refl _)
    (step := fun h1 h2 => (h2.trans h1).trans (List.suffix_cons _ _)) (binary := fun _ h => h) (call := id)
    (close := fun _ => List.suffix_cons _ _) (item := fun h1 h2 => (h2.trans (dropComma_suffix _)).trans h1) f

theorem fine_chompParen (e : Expr N) (r : List (Token N)) : Fine (chompParen e r) := by
  unfold chompParen; split <;> trivial

theorem enough (f : Nat) :
    (∀ p (toks : List (Token N)), 3 * toks.length + 1 ≤ f → Fine (parsePrec f p toks)) ∧
    (∀ (t : Token N) rest, 3 * rest.length + 3 ≤ f → Fine (doPrefix f t rest)) ∧
    (∀ p (l : Expr N) toks, 3 * toks.length + 1 ≤ f → Fine (infixLoop f p l toks)) ∧
    (∀ (t : Token N) l rest, 3 * rest.length + 3 ≤ f → Fine (doInfix f t l rest)) ∧
    (∀ b (toks : List (Token N)), 3 * toks.length + 2 ≤ f → Fine (exprList f b toks)) := by
  induction f with
  | zero =>
    refine ⟨?_, ?_, ?_, ?_, ?_⟩ <;> intros <;> omega
  | succ f ih =>
    obtain ⟨ih1, ih2, ih3, ih4, ih5⟩ := ih
    refine ⟨?_, ?_, ?_, ?_, ?_⟩
    · intro p toks hf
      cases toks with
      | nil => trivial
      | cons t r =>
        simp only [List.length_cons] at hf
        refine fine_andThen (ih2 _ _ (by omega)) (fun a ha => ih3 _ _ _ ?_)
        have := (consumed f).doPrefix _ _ _ ha
        omega
    · intro t rest hf
      rw [doPrefix_succ]
      cases t <;> first
        | trivial
        | exact fine_andThen (ih1 _ _ (by omega)) (fun a _ => fine_chompParen _ _)
        | exact fine_andThen (ih1 _ _ (by omega)) (fun a _ => trivial)
        | exact fine_andThen (ih5 _ _ (by omega)) (fun a _ => trivial)
    · intro p l toks hf
      cases toks with
      | nil => trivial
      | cons t rest =>
        simp only [List.length_cons] at hf
        rw [infixLoop_cons]
        split
        · refine fine_andThen (ih4 _ _ _ (by omega)) (fun a ha => ih3 _ _ _ ?_)
          have := (consumed f).doInfix _ _ _ _ ha
          omega
        · trivial
    · intro t l rest hf
      rw [doInfix_succ]
      split
      · exact fine_andThen (ih1 _ _ (by omega)) (fun a _ => trivial)
      · split
        · split
          · exact fine_andThen (ih5 _ _ (by omega)) (fun a _ => trivial)
          · trivial
        · trivial
    · intro b toks hf
      cases toks with
      | nil => trivial
      | cons t rest =>
        rw [exprList_cons]
        split
        · trivial
        · refine fine_andThen (ih1 _ _ (by omega)) (fun a ha => ?_)
          refine fine_andThen (ih5 _ _ ?_) (fun c _ => trivial)
          have := (consumed f).parsePrec _ _ _ ha
          have := dropComma_length a.2
          omega

theorem parsePrec_fine {f p : Nat} {toks : List (Token N)} (h : 3 * toks.length + 1 ≤ f) :
    Fine (parsePrec f p toks) := (enough f).1 p toks h

theorem parseFuel_ge (n : Nat) : 3 * n + 1 ≤ parseFuel n := by unfold parseFuel; omega

theorem fine_iff {α : Type} {x : COut N α} : Fine x ↔ (∃ a, x = .ok a) ∨ ∃ e, x = .err e := by
  cases x <;> simp [Fine]

theorem fine_ne {α : Type} {x : COut N α} (h : Fine x) : x ≠ .panic ∧ x ≠ .outOfFuel := by
  cases x <;> simp [Fine] at h ⊢

theorem parse_eq_finish {toks : List (Token N)} {f : Nat} (hf : 3 * toks.length + 1 ≤ f) : parse toks = finish (parsePrec f 1 toks) := by
  unfold parse; rw [parsePrec_agree (parsePrec_fine hf) (parsePrec_fine (parseFuel_ge _))]

theorem parse_fine (toks : List (Token N)) : Fine (parse toks) := by
  have h := parsePrec_fine (p := 1) (parseFuel_ge toks.length)
  unfold parse
  cases hr : parsePrec (parseFuel toks.length) 1 toks with
  | ok r => obtain ⟨e, _ | _⟩ := r <;> trivial
  | err e => trivial
  | outOfFuel => rw [hr] at h; exact h
  | panic => rw [hr] at h; exact h

theorem parse_eq_ok {ts : List (Token N)} {e : Expr N} : parse ts = .ok e ↔ parsePrec (parseFuel ts.length) 1 ts = .ok (e, []) := by
  unfold parse finish
  constructor
  · intro h
    split at h
    · rename_i heq; cases h; exact heq
    all_goals cases h
  · intro h; rw [h]

end Slac.Parser
