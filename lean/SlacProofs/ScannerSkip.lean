/-
  SlacProofs.ScannerSkip — the grammar of separators (whitespace and comments) and the proof that
  `skipWs` (skip_whitespace + skip_comments) skips exactly them.
-/
import SlacModel.Scanner
set_option autoImplicit false
namespace Slac
namespace Scanner

/-- closed comment bodies: reading `b` inside a block comment with `d` further braces open ends the comment
    exactly at the end of `b` -/
inductive Body : Nat → Str → Prop
  | close0 : Body 0 ['}']
  | close {d b} : Body d b → Body (d+1) ('}' :: b)
  | open_ {d b} : Body (d+1) b → Body d ('{' :: b)
  | other {d b c} : c ≠ '{' → c ≠ '}' → Body d b → Body d (c :: b)

/-- comment bodies that are still open at the end of the text -/
inductive Unclosed : Nat → Str → Prop
  | nil {d} : Unclosed d []
  | close {d b} : Unclosed d b → Unclosed (d+1) ('}' :: b)
  | open_ {d b} : Unclosed (d+1) b → Unclosed d ('{' :: b)
  | other {d b c} : c ≠ '{' → c ≠ '}' → Unclosed d b → Unclosed d (c :: b)

/-- the grammar of separators between tokens: any sequence of whitespace characters, `// … \n` line comments
    and balanced, possibly nested `{ … }` block comments -/
inductive IsSep : Str → Prop
  | nil : IsSep []
  | ws {c s} : isWs c = true → IsSep s → IsSep (c :: s)
  | line {body s} : (∀ c ∈ body, c ≠ '\n') → IsSep s → IsSep ('/' :: '/' :: (body ++ '\n' :: s))
  | block {body s} : Body 0 body → IsSep s → IsSep ('{' :: (body ++ s))

/-- what may follow the last token: separators, then possibly a line comment without line end or a block
    comment that is never closed -/
inductive IsTrail : Str → Prop
  | nil : IsTrail []
  | lineEof {body} : (∀ c ∈ body, c ≠ '\n') → IsTrail ('/' :: '/' :: body)
  | blockEof {b} : Unclosed 0 b → IsTrail ('{' :: b)
  | sep {s t} : IsSep s → IsTrail t → IsTrail (s ++ t)

theorem IsSep.trail {s : Str} (h : IsSep s) : IsTrail s := by
  have := IsTrail.sep h .nil
  simpa using this

theorem IsSep.append {s t : Str} (hs : IsSep s) (ht : IsSep t) : IsSep (s ++ t) := by
  induction hs with
  | nil => simpa using ht
  | ws hc _ ih => exact .ws hc ih
  | @line body s hb _ ih =>
    have := IsSep.line hb ih
    simpa using this
  | @block body s hb _ ih =>
    have := IsSep.block hb ih
    simpa using this

theorem skipWs_code_cons (c : Char) (cs : Str) : skipWs .code (c :: cs) =
    if isWs c then skipWs .code cs
    else if c = '/' then (match cs with | c2 :: cs' => if c2 = '/' then skipWs .line cs' else c :: cs | [] => c :: cs)
    else if c = '{' then skipWs (.block 0) cs else c :: cs := by
  cases cs <;> rfl
theorem skipWs_line_cons (c : Char) (cs : Str) :
    skipWs .line (c :: cs) = if c = '\n' then skipWs .code cs else skipWs .line cs := rfl
theorem skipWs_block_cons (d : Nat) (c : Char) (cs : Str) : skipWs (.block d) (c :: cs) =
    if c = '{' then skipWs (.block (d+1)) cs
    else if c = '}' then (match d with | 0 => skipWs .code cs | d'+1 => skipWs (.block d') cs)
    else skipWs (.block d) cs := rfl

theorem skipWs_code_ws (c : Char) (cs : Str) (h : isWs c = true) : skipWs .code (c :: cs) = skipWs .code cs := by
  rw [skipWs_code_cons, if_pos h]
theorem skipWs_code_line (r : Str) : skipWs .code ('/' :: '/' :: r) = skipWs .line r := rfl
theorem skipWs_code_block (r : Str) : skipWs .code ('{' :: r) = skipWs (.block 0) r := by
  rw [skipWs_code_cons]; rfl

theorem skipWs_code_dropWs (l : Str) : skipWs .code l = skipWs .code (l.dropWhile isWs) := by
  induction l with
  | nil => rfl
  | cons c cs ih =>
    by_cases hw : isWs c = true
    · rw [List.dropWhile_cons_of_pos hw, ← ih, skipWs_code_ws c cs hw]
    · rw [List.dropWhile_cons_of_neg hw]

theorem skip_line_prefix (body tail : Str) (h : ∀ c ∈ body, c ≠ '\n') :
    skipWs .line (body ++ tail) = skipWs .line tail := by
  induction body with
  | nil => rfl
  | cons c cs ih =>
    rw [List.cons_append, skipWs_line_cons, if_neg (h c (by simp))]
    exact ih (fun c hc => h c (by simp [hc]))

theorem skip_block_body {d : Nat} {b : Str} (h : Body d b) (rest : Str) :
    skipWs (.block d) (b ++ rest) = skipWs .code rest := by
  induction h with
  | close0 => rfl
  | close _ ih => exact ih
  | open_ _ ih => exact ih
  | other h1 h2 _ ih => rw [List.cons_append, skipWs_block_cons, if_neg h1, if_neg h2]; exact ih

theorem skip_block_unclosed {d : Nat} {b : Str} (h : Unclosed d b) : skipWs (.block d) b = [] := by
  induction h with
  | nil => rfl
  | close _ ih => exact ih
  | open_ _ ih => exact ih
  | other h1 h2 _ ih => rw [skipWs_block_cons, if_neg h1, if_neg h2]; exact ih

/-- C02 core: a separator in front of anything is invisible to the scanner -/
theorem skipWs_sep {s : Str} (hs : IsSep s) (rest : Str) :
    skipWs .code (s ++ rest) = skipWs .code rest := by
  induction hs with
  | nil => rfl
  | ws hc _ ih => rw [List.cons_append, skipWs_code_ws _ _ hc]; exact ih
  | @line body s hb _ ih =>
    rw [show ('/' :: '/' :: (body ++ '\n' :: s)) ++ rest = '/' :: '/' :: (body ++ '\n' :: (s ++ rest)) by simp,
      skipWs_code_line, skip_line_prefix _ _ hb]
    exact ih
  | @block body s hb _ ih =>
    rw [show ('{' :: (body ++ s)) ++ rest = '{' :: (body ++ (s ++ rest)) by simp, skipWs_code_block, skip_block_body hb]
    exact ih

/-- after the last token everything is skipped -/
theorem skipWs_trail {t : Str} (ht : IsTrail t) : skipWs .code t = [] := by
  induction ht with
  | nil => rfl
  | lineEof hb => rw [skipWs_code_line]; simpa [skipWs] using skip_line_prefix _ [] hb
  | blockEof hb => rw [skipWs_code_block]; exact skip_block_unclosed hb
  | sep hs _ ih => rw [skipWs_sep hs]; exact ih

theorem skipWs_length (m : Mode) (s : Str) : (skipWs m s).length ≤ s.length := by
  fun_induction skipWs m s <;> simp_all <;> omega

/-- at the first character of a token `skipWs` stops -/
theorem skipWs_noop (c : Char) (cs : Str) (h1 : isWs c = false) (h2 : c ≠ '{')
    (h3 : c = '/' → ∀ r, cs ≠ '/' :: r) : skipWs .code (c :: cs) = c :: cs := by
  rw [skipWs_code_cons, if_neg (ne_true_of_eq_false h1), if_neg h2]
  split
  · rename_i hc
    cases cs with
    | nil => rfl
    | cons c2 cs' => exact if_neg fun h => h3 hc cs' (by rw [h])
  · rfl

theorem skipWs_idem (m : Mode) (l : Str) : skipWs .code (skipWs m l) = skipWs m l := by
  fun_induction skipWs m l
  case case4 c2 cs' h2 h1 => exact skipWs_noop _ _ (by decide) (by decide) fun _ r h => h2 (by cases h; rfl)
  case case5 => rfl
  case case7 c cs hw h1 h2 => exact skipWs_noop c cs (by simpa using hw) h2 fun h => absurd h h1
  all_goals first | assumption | (simp [skipWs]; done)

/-- a non-empty separator starts with a whitespace character, `{` or `//` -/
theorem IsSep.head {c : Char} {r : Str} (h : IsSep (c :: r)) :
    isWs c = true ∨ c = '{' ∨ (c = '/' ∧ ∃ r', r = '/' :: r') := by
  cases h with
  | ws hc _ => exact .inl hc
  | line _ _ => exact .inr (.inr ⟨rfl, _, rfl⟩)
  | block _ _ => exact .inr (.inl rfl)

end Scanner
end Slac
