/-
  SlacProofs.F64Arith — core `Float` division and multiplication satisfy the STANDARD MODEL of floating-point
  arithmetic, proved from core's logical float model (`UnpackedFloat.div`/`mul` + `roundWithAccuracy`):
  for finite non-zero operands whose exact result q has 2^-1022 ≤ |q| < 2^1023 (normal range),
      x ∘ y  is a finite non-zero double of the expected sign and  |fl q − q| ≤ 2^-53 · |q|.
  * `rwaFrac_normal`   closed form of `roundWithAccuracy` on a fraction with ≥ 53 integer bits (normal range);
  * `rwaFrac_std`      its value over ℚ: relative error ≤ 2^-53;
  * `div_mkF_std`, `mul_mkF_std`   the standard model for `/` and `*` on canonical floats (`mkF`), magnitudes;
  * `toQ`, `div_std`, `mul_std`    the same for arbitrary finite non-zero `Float`s with the signed value `toQ`.
-/
import SlacProofs.F64Near
import Mathlib.Tactic.Linarith
import Mathlib.Tactic.NormNum
import Mathlib.Tactic.Positivity
import Mathlib.Tactic.FieldSimp
import Mathlib.Tactic.Ring
import Mathlib.Algebra.Order.Field.Basic
import Mathlib.Algebra.Order.AbsoluteValue.Basic
import Mathlib.Data.Nat.Cast.Order.Field
set_option autoImplicit false
namespace Slac
namespace F64
open Float.Model Float.Model.UnpackedFloat

theorem rne_range (A B' : Nat) (hB' : 0 < B') (hA1 : 2^52 * B' ≤ A) (hA2 : A < 2^53 * B') :
    2^52 ≤ rneFrac A B' ∧ rneFrac A B' ≤ 2^53 := by
  obtain ⟨hr1, hr2, _⟩ := rne_bounds A B' hB'
  generalize rneFrac A B' = r at *
  constructor
  · rcases Nat.lt_or_ge r (2^52) with h | h
    · exfalso
      have : (r + 1) * B' ≤ 2^52 * B' := Nat.mul_le_mul_right _ h
      rw [Nat.add_mul, Nat.one_mul] at this
      omega
    · exact h
  · rcases Nat.lt_or_ge (2^53) r with h | h
    · exfalso
      have : (2^53 + 1) * B' ≤ r * B' := Nat.mul_le_mul_right _ h
      rw [Nat.add_mul, Nat.one_mul] at this
      omega
    · exact h

/-- with ≥ 53 integer bits and no underflow the result is (M, e + j + c): j = log2 (A / B) - 52 bits are dropped,
    the quotient by 2^j rounded to nearest even, and c ≤ 1 more bit if that rounding carried to 2^53 -/
theorem rwaFrac_normal (s : Sign) (A B : Nat) (e : Int) (hB : 0 < B)
    (hQ : 2^52 ≤ A / B) (hlo : -1074 ≤ ((A / B).log2 : Int) + e - 52) :
    ∃ (M c : Nat) (hM : 0 < M), c ≤ 1 ∧
      rwaFrac s A B e = .finite s M (e + (((A / B).log2 - 52 + c : Nat) : Int)) hM ∧ 2^52 ≤ M ∧ M < 2^53 ∧
      2^52 * (B * 2^((A / B).log2 - 52)) ≤ A ∧ M * 2^c = rneFrac A (B * 2^((A / B).log2 - 52)) := by
  have hQ0 : A / B ≠ 0 := by omega
  have hL : 52 ≤ (A / B).log2 := (Nat.le_log2 hQ0).2 hQ
  have hQ1 : 2^(A / B).log2 ≤ A / B := Nat.log2_self_le hQ0
  have hQ2 : A / B < 2^((A / B).log2 + 1) := Nat.lt_log2_self
  generalize hLd : (A / B).log2 = L at *
  generalize hj : L - 52 = j
  have hLj : L = 52 + j := by omega
  have hB' : 0 < B * 2^j := Nat.mul_pos hB (Nat.two_pow_pos j)
  have hA1 : 2^52 * (B * 2^j) ≤ A := by
    have h1 : 2^L * B ≤ A := (Nat.le_div_iff_mul_le hB).1 hQ1
    have h2 : 2^L * B = 2^52 * (B * 2^j) := by rw [hLj, Nat.pow_add]; ac_rfl
    omega
  have hA2 : A < 2^53 * (B * 2^j) := by
    have h1 : A < 2^(L + 1) * B := (Nat.div_lt_iff_lt_mul hB).1 hQ2
    have h2 : 2^(L + 1) * B = 2^53 * (B * 2^j) := by
      have : L + 1 = 53 + j := by omega
      rw [this, Nat.pow_add]; ac_rfl
    omega
  obtain ⟨hrlo, hrhi⟩ := rne_range A (B * 2^j) hB' hA1 hA2
  have hT : tgt (A / B) e = e + (j : Int) := by unfold tgt; rw [hLd]; omega
  have hjj : (tgt (A / B) e - e).toNat = j := by omega
  rw [rwaFrac_eq s A B e hB]
  simp only [hjj]
  obtain ⟨r, hr⟩ : ∃ r, rneFrac A (B * 2^j) = r := ⟨_, rfl⟩
  rw [hr] at hrlo hrhi
  simp only [hr]
  by_cases hcarry : r = 2^53
  · have ht2 : (tgt r (e + (j : Int)) - (e + (j : Int))).toNat = 1 := by
      rw [hcarry]; unfold tgt; rw [Nat.log2_two_pow]; omega
    have hdiv : r / 2^1 = 2^52 := by rw [hcarry]; decide
    refine ⟨2^52, 1, by decide, Nat.le_refl 1, ?_, by decide, by decide, hA1, by rw [hcarry]; decide⟩
    simp only [ht2]
    rw [dif_neg (by rw [hdiv]; decide)]
    simp only [hdiv]
    congr 1; omega
  · have hlog : r.log2 = 52 := log2_eq_of r 52 hrlo (by omega)
    have ht2 : (tgt r (e + (j : Int)) - (e + (j : Int))).toNat = 0 := by unfold tgt; rw [hlog]; omega
    refine ⟨r, 0, by omega, by decide, ?_, hrlo, by omega, hA1, by rw [Nat.pow_zero, Nat.mul_one]⟩
    simp only [ht2, Nat.pow_zero, Nat.div_one]
    rw [dif_neg (by omega)]
    congr 1; omega

theorem two_zpow_pos (e : Int) : (0:ℚ) < (2:ℚ)^e := zpow_pos (by norm_num) e

theorem exp_lo (q : ℚ) (L : ℕ) (e : ℤ) (h2 : q < (2:ℚ)^(L + 1)) (hlo : (2:ℚ)^(-1022:ℤ) ≤ q * (2:ℚ)^e) :
    -1022 ≤ (L:ℤ) + e := by
  have a1 : (2:ℚ)^(-1022:ℤ) < (2:ℚ)^(((L + 1 : ℕ) : ℤ) + e) := by
    rw [zpow_add₀ (by norm_num), zpow_natCast]
    exact lt_of_le_of_lt hlo (mul_lt_mul_of_pos_right h2 (two_zpow_pos e))
  have b1 := (zpow_lt_zpow_iff_right₀ (by norm_num : (1:ℚ) < 2)).1 a1
  push_cast at b1
  omega

theorem exp_hi (q : ℚ) (L : ℕ) (e : ℤ) (h1 : (2:ℚ)^L ≤ q) (hhi : q * (2:ℚ)^e < (2:ℚ)^(1023:ℤ)) :
    (L:ℤ) + e ≤ 1022 := by
  have a2 : (2:ℚ)^((L : ℤ) + e) < (2:ℚ)^(1023:ℤ) := by
    rw [zpow_add₀ (by norm_num), zpow_natCast]
    exact lt_of_le_of_lt (mul_le_mul_of_nonneg_right h1 (two_zpow_pos e).le) hhi
  have b2 := (zpow_lt_zpow_iff_right₀ (by norm_num : (1:ℚ) < 2)).1 a2
  omega

theorem rwaFrac_std (s : Sign) (A B : Nat) (e : Int) (hB : 0 < B) (he : e ≤ tgt (A / B) e)
    (hlo : (2:ℚ)^(-1022:ℤ) ≤ (A:ℚ) / B * (2:ℚ)^e) (hhi : (A:ℚ) / B * (2:ℚ)^e < (2:ℚ)^(1023:ℤ)) :
    ∃ (M : Nat) (E : Int) (hc : Canon M E), rwaFrac s A B e = .finite s M E hc.pos ∧
      |(M:ℚ) * (2:ℚ)^E - (A:ℚ) / B * (2:ℚ)^e| ≤ 1 / 2^53 * ((A:ℚ) / B * (2:ℚ)^e) := by
  have hb : (0:ℚ) < B := by exact_mod_cast hB
  have hP : (0:ℚ) < (2:ℚ)^e := two_zpow_pos e
  have h20 : (2:ℚ) ≠ 0 := by norm_num
  -- the bounds on the value bound the exponent of the leading bit of A / B
  have hLlo := exp_lo ((A:ℚ) / B) (A / B).log2 e
    (by rw [div_lt_iff₀ hb]; exact_mod_cast (Nat.div_lt_iff_lt_mul hB).1 Nat.lt_log2_self) hlo
  have hL52 : 52 ≤ (A / B).log2 := by unfold tgt at he; omega
  have hQ0 : A / B ≠ 0 := by
    intro h; rw [h, Nat.log2_zero] at hL52; omega
  have hLhi := exp_hi ((A:ℚ) / B) (A / B).log2 e
    (le_trans (by exact_mod_cast Nat.log2_self_le hQ0) Nat.cast_div_le) hhi
  obtain ⟨M, c, hM, hc1, hrw, hM52, hM53, hA1, hMr⟩ :=
    rwaFrac_normal s A B e hB ((Nat.le_log2 hQ0).1 hL52) (by omega)
  generalize hj : (A / B).log2 - 52 = j at hA1 hMr hrw
  have hc : Canon M (e + ((j + c : Nat) : Int)) := Canon.of_normal hM52 hM53 (by omega) (by omega)
  refine ⟨M, _, hc, hrw, ?_⟩
  obtain ⟨hr1, hr2, _⟩ := rne_bounds A (B * 2^j) (Nat.mul_pos hB (Nat.two_pow_pos j))
  rw [← hMr] at hr1 hr2
  -- M·2^(e+j+c) = r·2^j·2^e with r = M·2^c within half a unit of A / (B·2^j), and A / (B·2^j) ≥ 2^52
  have hval : (M:ℚ) * (2:ℚ)^(e + ((j + c : Nat) : Int)) = ((M:ℚ) * (2:ℚ)^c) * (2:ℚ)^j * (2:ℚ)^e := by
    rw [zpow_add₀ h20, zpow_natCast]; ring
  have f1 : 2 * (((M:ℚ) * (2:ℚ)^c) * ((B:ℚ) * (2:ℚ)^j)) ≤ 2 * (A:ℚ) + (B:ℚ) * (2:ℚ)^j := by exact_mod_cast hr1
  have f2 : 2 * (A:ℚ) ≤ 2 * (((M:ℚ) * (2:ℚ)^c) * ((B:ℚ) * (2:ℚ)^j)) + (B:ℚ) * (2:ℚ)^j := by exact_mod_cast hr2
  have f3 : (2:ℚ)^52 * ((B:ℚ) * (2:ℚ)^j) ≤ (A:ℚ) := by exact_mod_cast hA1
  rw [hval]
  generalize (M:ℚ) * (2:ℚ)^c = r at f1 f2 ⊢
  have hPb : (0:ℚ) < (2:ℚ)^e / B := div_pos hP hb
  have e1 : r * (2:ℚ)^j * (2:ℚ)^e - (A:ℚ) / B * (2:ℚ)^e
      = (r * ((B:ℚ) * (2:ℚ)^j) - (A:ℚ)) * ((2:ℚ)^e / B) := by field_simp
  have e2 : 1 / 2^53 * ((A:ℚ) / B * (2:ℚ)^e) = ((A:ℚ) / 2^53) * ((2:ℚ)^e / B) := by field_simp
  rw [e1, e2, abs_mul, abs_of_pos hPb]
  apply mul_le_mul_of_nonneg_right _ hPb.le
  rw [abs_le]
  constructor <;> linarith

/-- **standard model for division** (magnitudes): the quotient of two finite non-zero doubles whose exact value
    lies in [2^-1022, 2^1023) is the finite double of sign s1/s2 within relative 2^-53 of the exact quotient -/
theorem div_mkF_std (s1 s2 : Sign) (m1 m2 : Nat) (e1 e2 : Int) (h1 : Canon m1 e1) (h2 : Canon m2 e2)
    (hlo : (2:ℚ)^(-1022:ℤ) ≤ ((m1:ℚ) * (2:ℚ)^e1) / ((m2:ℚ) * (2:ℚ)^e2))
    (hhi : ((m1:ℚ) * (2:ℚ)^e1) / ((m2:ℚ) * (2:ℚ)^e2) < (2:ℚ)^(1023:ℤ)) :
    ∃ (M : Nat) (E : Int) (hc : Canon M E),
      mkF s1 m1 e1 h1.pos / mkF s2 m2 e2 h2.pos = mkF (s1 / s2) M E hc.pos ∧
      |(M:ℚ) * (2:ℚ)^E - ((m1:ℚ) * (2:ℚ)^e1) / ((m2:ℚ) * (2:ℚ)^e2)|
        ≤ 1 / 2^53 * (((m1:ℚ) * (2:ℚ)^e1) / ((m2:ℚ) * (2:ℚ)^e2)) := by
  have h20 : (2:ℚ) ≠ 0 := by norm_num
  rw [float_div_def, unpack_mkF s1 m1 e1 h1, unpack_mkF s2 m2 e2 h2, div_finite]
  have hb := div_bits m1 m2 e1 e2 h1.pos h2.pos
  generalize hte : teDiv m1 e1 m2 e2 = te at hb ⊢
  have hte0 : te ≤ e1 - e2 := by rw [← hte]; unfold teDiv; omega
  generalize hsh : (e1 - e2 - te).toNat = sh at hb ⊢
  have hm2 : (0:ℚ) < m2 := by exact_mod_cast h2.pos
  have hv : ((m1 * 2^sh : Nat) : ℚ) / (m2:ℚ) * (2:ℚ)^te = ((m1:ℚ) * (2:ℚ)^e1) / ((m2:ℚ) * (2:ℚ)^e2) := by
    have he : e1 = e2 + te + (sh : Int) := by omega
    have hp2 : (0:ℚ) < (2:ℚ)^e2 := two_zpow_pos e2
    rw [he, zpow_add₀ h20, zpow_add₀ h20, zpow_natCast]; push_cast; field_simp
  obtain ⟨M, E, hc, hrw, hbd⟩ := rwaFrac_std (s1 / s2) (m1 * 2^sh) m2 te h2.pos hb
    (by rw [hv]; exact hlo) (by rw [hv]; exact hhi)
  rw [hv] at hbd
  exact ⟨M, E, hc, by rw [hrw]; rfl, hbd⟩

theorem mul_he (m1 m2 : Nat) (e1 e2 : Int) (h1 : Canon m1 e1) (h2 : Canon m2 e2) :
    e1 + e2 ≤ tgt (m1 * m2 / 1) (e1 + e2) := by
  rw [Nat.div_one]
  have p1 := h1.pos; have p2 := h2.pos
  have hne : m1 * m2 ≠ 0 := Nat.mul_ne_zero (by omega) (by omega)
  -- a normal factor gives the product 53 bits; two subnormal factors sit at the minimal exponent
  rcases h1.normal_or_sub with ⟨hn1, _⟩ | ⟨_, _, he1⟩
  · have := (Nat.le_log2 hne).2 (Nat.le_trans hn1 (Nat.le_mul_of_pos_right _ p2))
    unfold tgt; omega
  · rcases h2.normal_or_sub with ⟨hn2, _⟩ | ⟨_, _, he2⟩
    · have := (Nat.le_log2 hne).2 (Nat.le_trans hn2 (Nat.le_mul_of_pos_left _ p1))
      unfold tgt; omega
    · unfold tgt; omega

/-- **standard model for multiplication** (magnitudes) -/
theorem mul_mkF_std (s1 s2 : Sign) (m1 m2 : Nat) (e1 e2 : Int) (h1 : Canon m1 e1) (h2 : Canon m2 e2)
    (hlo : (2:ℚ)^(-1022:ℤ) ≤ ((m1:ℚ) * (2:ℚ)^e1) * ((m2:ℚ) * (2:ℚ)^e2))
    (hhi : ((m1:ℚ) * (2:ℚ)^e1) * ((m2:ℚ) * (2:ℚ)^e2) < (2:ℚ)^(1023:ℤ)) :
    ∃ (M : Nat) (E : Int) (hc : Canon M E),
      mkF s1 m1 e1 h1.pos * mkF s2 m2 e2 h2.pos = mkF (s1 * s2) M E hc.pos ∧
      |(M:ℚ) * (2:ℚ)^E - ((m1:ℚ) * (2:ℚ)^e1) * ((m2:ℚ) * (2:ℚ)^e2)|
        ≤ 1 / 2^53 * (((m1:ℚ) * (2:ℚ)^e1) * ((m2:ℚ) * (2:ℚ)^e2)) := by
  have h20 : (2:ℚ) ≠ 0 := by norm_num
  rw [float_mul_def, unpack_mkF s1 m1 e1 h1, unpack_mkF s2 m2 e2 h2, mul_finite]
  have hv : ((m1 * m2 : Nat) : ℚ) / ((1 : Nat) : ℚ) * (2:ℚ)^(e1 + e2)
      = ((m1:ℚ) * (2:ℚ)^e1) * ((m2:ℚ) * (2:ℚ)^e2) := by
    rw [zpow_add₀ h20]; push_cast; ring
  obtain ⟨M, E, hc, hrw, hbd⟩ := rwaFrac_std (s1 * s2) (m1 * m2) 1 (e1 + e2) (by decide)
    (mul_he m1 m2 e1 e2 h1 h2) (by rw [hv]; exact hlo) (by rw [hv]; exact hhi)
  rw [hv] at hbd
  exact ⟨M, E, hc, by rw [hrw]; rfl, hbd⟩

def sgnQ : Sign → ℚ
  | .positive => 1
  | .negative => -1

/-- the rational value of a finite double (decoded sign, significand, exponent) -/
def toQ (x : Float) : ℚ := (if signBit x then -1 else 1) * (((decode x).1 : ℚ) * (2:ℚ)^(decode x).2)

theorem toQ_mkF (s : Sign) (m : Nat) (e : Int) (h : Canon m e) :
    toQ (mkF s m e h.pos) = sgnQ s * ((m:ℚ) * (2:ℚ)^e) := by
  unfold toQ
  rw [decode_mkF s m e h, signBit_mkF s m e h]
  cases s <;> simp [sbit, sgnQ]

theorem sgnQ_div (s1 s2 : Sign) : sgnQ (s1 / s2) = sgnQ s1 / sgnQ s2 := by
  cases s1 <;> cases s2 <;> simp [sgnQ] <;> rfl
theorem sgnQ_mul (s1 s2 : Sign) : sgnQ (s1 * s2) = sgnQ s1 * sgnQ s2 := by
  cases s1 <;> cases s2 <;> simp [sgnQ]
theorem sgnQ_abs (s : Sign) : |sgnQ s| = 1 := by cases s <;> simp [sgnQ]
theorem sgnQ_ne (s : Sign) : sgnQ s ≠ 0 := by cases s <;> simp [sgnQ]

theorem canon_val_pos (m : Nat) (e : Int) (h : Canon m e) : (0:ℚ) < (m:ℚ) * (2:ℚ)^e :=
  mul_pos (by exact_mod_cast h.pos) (two_zpow_pos e)

theorem sgnQ_div_mul (s1 s2 : Sign) (v1 v2 : ℚ) : sgnQ s1 * v1 / (sgnQ s2 * v2) = sgnQ (s1 / s2) * (v1 / v2) := by
  rw [sgnQ_div]; have := sgnQ_ne s2; field_simp
theorem sgnQ_mul_mul (s1 s2 : Sign) (v1 v2 : ℚ) : sgnQ s1 * v1 * (sgnQ s2 * v2) = sgnQ (s1 * s2) * (v1 * v2) := by
  rw [sgnQ_mul]; ring

theorem std_signed (s : Sign) (M : Nat) (E : Int) (hc : Canon M E) (q : ℚ) (hq : 0 < q)
    (hbd : |(M:ℚ) * (2:ℚ)^E - q| ≤ 1 / 2^53 * q) :
    isFinite (mkF s M E hc.pos) = true ∧ isZero (mkF s M E hc.pos) = false ∧
      |toQ (mkF s M E hc.pos) - sgnQ s * q| ≤ 1 / 2^53 * |sgnQ s * q| := by
  refine ⟨isFinite_mkF _ _ _ hc, isZero_mkF _ _ _ hc, ?_⟩
  rw [toQ_mkF _ _ _ hc, ← mul_sub, abs_mul, abs_mul, sgnQ_abs, one_mul, one_mul, abs_of_pos hq]
  exact hbd

/-- **standard model for `/` on `Float`**: finite non-zero operands, exact quotient in the normal range -/
theorem div_std (x y : Float) (hx : isFinite x = true) (hx0 : isZero x = false)
    (hy : isFinite y = true) (hy0 : isZero y = false)
    (hlo : (2:ℚ)^(-1022:ℤ) ≤ |toQ x / toQ y|) (hhi : |toQ x / toQ y| < (2:ℚ)^(1023:ℤ)) :
    isFinite (x / y) = true ∧ isZero (x / y) = false ∧
      |toQ (x / y) - toQ x / toQ y| ≤ 1 / 2^53 * |toQ x / toQ y| := by
  obtain ⟨s1, m1, e1, h1, rfl⟩ := exists_mkF x hx hx0
  obtain ⟨s2, m2, e2, h2, rfl⟩ := exists_mkF y hy hy0
  have hq := div_pos (canon_val_pos m1 e1 h1) (canon_val_pos m2 e2 h2)
  rw [toQ_mkF _ _ _ h1, toQ_mkF _ _ _ h2, sgnQ_div_mul] at hlo hhi ⊢
  rw [abs_mul, sgnQ_abs, one_mul, abs_of_pos hq] at hlo hhi
  obtain ⟨M, E, hc, heq, hbd⟩ := div_mkF_std s1 s2 m1 m2 e1 e2 h1 h2 hlo hhi
  rw [heq]; exact std_signed _ M E hc _ hq hbd

/-- **standard model for `*` on `Float`**: finite non-zero operands, exact product in the normal range -/
theorem mul_std (x y : Float) (hx : isFinite x = true) (hx0 : isZero x = false)
    (hy : isFinite y = true) (hy0 : isZero y = false)
    (hlo : (2:ℚ)^(-1022:ℤ) ≤ |toQ x * toQ y|) (hhi : |toQ x * toQ y| < (2:ℚ)^(1023:ℤ)) :
    isFinite (x * y) = true ∧ isZero (x * y) = false ∧
      |toQ (x * y) - toQ x * toQ y| ≤ 1 / 2^53 * |toQ x * toQ y| := by
  obtain ⟨s1, m1, e1, h1, rfl⟩ := exists_mkF x hx hx0
  obtain ⟨s2, m2, e2, h2, rfl⟩ := exists_mkF y hy hy0
  have hq := mul_pos (canon_val_pos m1 e1 h1) (canon_val_pos m2 e2 h2)
  rw [toQ_mkF _ _ _ h1, toQ_mkF _ _ _ h2, sgnQ_mul_mul] at hlo hhi ⊢
  rw [abs_mul, sgnQ_abs, one_mul, abs_of_pos hq] at hlo hhi
  obtain ⟨M, E, hc, heq, hbd⟩ := mul_mkF_std s1 s2 m1 m2 e1 e2 h1 h2 hlo hhi
  rw [heq]; exact std_signed _ M E hc _ hq hbd

end F64
end Slac
