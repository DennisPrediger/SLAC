/-
  SlacProofs.OrderBase — laws of `Value.cmp` / `Value.eq` that hold for ALL values (C13, part A):
  orientation of the component comparators, `cmp_swap`, `Std.OrientedCmp`, `eq_symm`,
  plus the ordering-triple predicate `Tri` used for the transitivity proof on the Safe domain.
-/
import SlacProofs.OrderNum
set_option autoImplicit false
namespace Slac
namespace Order

/-- `Tri (c a b) (c b c') (c a c')`: what a transitive comparator satisfies on one triple.
    Strong enough to be closed under lexicographic combination in one orientation. -/
def Tri (o1 o2 o3 : Ordering) : Prop :=
  (o1 = .eq → o3 = o2) ∧ (o2 = .eq → o3 = o1) ∧ (o1 = .lt → o2 = .lt → o3 = .lt) ∧ (o1 = .gt → o2 = .gt → o3 = .gt)

theorem Tri.of_transCmp {α : Type} {cmp : α → α → Ordering} [Std.TransCmp cmp] (a b c : α) :
    Tri (cmp a b) (cmp b c) (cmp a c) :=
  ⟨Std.TransCmp.congr_left, fun h => (Std.TransCmp.congr_right h).symm, Std.TransCmp.lt_trans, Std.TransCmp.gt_trans⟩

/-- lexicographic combination; the tails matter only under two equal heads, else the head clauses decide -/
theorem Tri.then {h1 h2 h3 t1 t2 t3 : Ordering} (hh : Tri h1 h2 h3) (ht : h1 = .eq → h2 = .eq → Tri t1 t2 t3) :
    Tri (h1.then t1) (h2.then t2) (h3.then t3) := by
  obtain ⟨e1, e2, l, g⟩ := hh
  cases h1 <;> cases h2 <;> first
    | (cases e1 rfl; exact ht rfl rfl)
    | (simp only [Tri, Ordering.then, reduceCtorEq, false_imp_iff, true_imp_iff, imp_self, and_self,
        e1, e2, l, g, implies_true])

theorem Tri.le_trans {o1 o2 o3 : Ordering} (h : Tri o1 o2 o3) (h1 : o1 ≠ .gt) (h2 : o2 ≠ .gt) : o3 ≠ .gt := by
  obtain ⟨e1, e2, l, _⟩ := h
  cases o1 with
  | gt => exact absurd rfl h1
  | eq => rw [e1 rfl]; exact h2
  | lt =>
    cases o2 with
    | gt => exact absurd rfl h2
    | eq => rw [e2 rfl]; exact h1
    | lt => rw [l rfl rfl]; exact h1

theorem cmpNat_eq_compare (a b : Nat) : cmpNat a b = compare a b := (Nat.compare_eq_ite_lt a b).symm

theorem cmpNat_swap (a b : Nat) : cmpNat b a = (cmpNat a b).swap := by
  rw [cmpNat_eq_compare, cmpNat_eq_compare, Nat.compare_swap]

theorem cmpNat_eq_iff (a b : Nat) : cmpNat a b = .eq ↔ a = b := by
  rw [cmpNat_eq_compare]; exact Nat.compare_eq_eq

theorem cmpNat_tri (a b c : Nat) : Tri (cmpNat a b) (cmpNat b c) (cmpNat a c) := by
  simp only [cmpNat_eq_compare]; exact Tri.of_transCmp a b c

theorem cmpBool_eq_compare (a b : Bool) : cmpBool a b = compare a b := by
  cases a <;> cases b <;> rfl

theorem cmpBool_swap (a b : Bool) : cmpBool b a = (cmpBool a b).swap := by
  cases a <;> cases b <;> rfl

theorem cmpBool_tri (a b c : Bool) : Tri (cmpBool a b) (cmpBool b c) (cmpBool a c) := by
  simp only [cmpBool_eq_compare]; exact Tri.of_transCmp a b c

theorem cmpStr_cons (a : Char) (as : Str) (b : Char) (bs : Str) :
    cmpStr (a :: as) (b :: bs) = (cmpNat a.toNat b.toNat).then (cmpStr as bs) := by
  rw [cmpStr, cmpNat, apply_ite (Ordering.then · (cmpStr as bs)), apply_ite (Ordering.then · (cmpStr as bs))]; rfl

theorem cmpStr_swap (a : Str) : ∀ b, cmpStr b a = (cmpStr a b).swap := by
  induction a with
  | nil => intro b; cases b <;> rfl
  | cons x xs ih =>
    intro b
    cases b with
    | nil => rfl
    | cons y ys =>
      rw [cmpStr_cons, cmpStr_cons, ih ys, cmpNat_swap x.toNat y.toNat]
      cases cmpNat x.toNat y.toNat <;> rfl

theorem cmpStr_tri : ∀ a b c : Str, Tri (cmpStr a b) (cmpStr b c) (cmpStr a c)
  | [], b, c => by cases b <;> cases c <;> simp [cmpStr, Tri]
  | _ :: _, [], c => by cases c <;> simp [cmpStr, Tri]
  | _ :: _, _ :: _, [] => by simp [cmpStr, Tri]
  | x :: xs, y :: ys, z :: zs => by
    rw [cmpStr_cons, cmpStr_cons, cmpStr_cons]
    exact (cmpNat_tri _ _ _).then fun _ _ => cmpStr_tri xs ys zs

theorem cmpStr_eq_iff (a : Str) : ∀ b, cmpStr a b = .eq ↔ a = b := by
  induction a with
  | nil => intro b; cases b <;> simp [cmpStr]
  | cons x xs ih =>
    intro b
    cases b with
    | nil => simp [cmpStr]
    | cons y ys => rw [cmpStr_cons, Ordering.then_eq_eq, cmpNat_eq_iff, ih ys, List.cons.injEq, Char.toNat_inj]

section
variable {N : Type} [NumOps N] [LawfulNum N]
open Value

theorem pcmp_getD_swap (a b : N) (d : Ordering) :
    (NumOps.pcmp b a).getD d.swap = ((NumOps.pcmp a b).getD d).swap := by
  rw [LawfulNum.pcmp_swap]; cases NumOps.pcmp a b <;> rfl

omit [LawfulNum N] in
theorem cmpList_cons (a : Value N) (as : List (Value N)) (b : Value N) (bs : List (Value N)) :
    cmpList (a :: as) (b :: bs) = (cmp a b).then (cmpList as bs) := by
  rw [cmpList]; cases cmp a b <;> rfl

theorem cmp_swap (a : Value N) : ∀ b, cmp b a = (cmp a b).swap := by
  refine Value.rec (motive_1 := fun a => ∀ b, cmp b a = (cmp a b).swap)
    (motive_2 := fun as => ∀ bs, cmpList bs as = (cmpList as bs).swap) ?_ ?_ ?_ ?_ ?_ ?_ a
  · intro x b; cases b <;> simp only [cmp, ordinal] <;> first | exact cmpBool_swap _ _ | rfl
  · intro s b
    cases b <;> simp only [cmp, ordinal]
    · rfl
    · exact cmpStr_swap _ _
    · cases NumOps.parse (N := N) s with
      | none => rfl
      | some x => exact pcmp_getD_swap _ _ .lt
    · rfl
  · intro x b
    cases b <;> simp only [cmp, ordinal]
    · rfl
    · rename_i s
      cases NumOps.parse (N := N) s with
      | none => rfl
      | some y => exact pcmp_getD_swap _ _ .gt
    · exact pcmp_getD_swap _ _ .eq
    · rfl
  · intro xs ih b
    cases b <;> first | exact ih _ | rfl
  · intro bs; cases bs <;> rfl
  · intro x xs ihx ihxs bs
    cases bs with
    | nil => rfl
    | cons b bs =>
      rw [cmpList_cons, cmpList_cons, ihx b, ihxs bs]
      cases cmp x b <;> rfl

theorem cmpList_swap (as bs : List (Value N)) : cmpList bs as = (cmpList as bs).swap := by
  have h := cmp_swap (.arr as) (.arr bs)
  simpa only [cmp] using h

instance : Std.OrientedCmp (Value.cmp (N := N)) where
  eq_swap := cmp_swap _ _

theorem cmp_beq_eq_comm (a b : Value N) : (cmp a b == .eq) = (cmp b a == .eq) := by
  rw [cmp_swap a b]; cases cmp a b <;> rfl

/-- `PartialEq::eq` is symmetric on all values -/
theorem eq_symm (a : Value N) : ∀ b, Value.eq a b = Value.eq b a := by
  refine Value.rec (motive_1 := fun a => ∀ b, Value.eq a b = Value.eq b a)
    (motive_2 := fun as => ∀ bs, eqList as bs = eqList bs as) ?_ ?_ ?_ ?arr ?nil ?cons a
  case arr => intro xs ih b; cases b <;> first | exact ih _ | exact cmp_beq_eq_comm _ _
  case nil => intro bs; cases bs <;> rfl
  case cons =>
    intro x xs ihx ihxs bs
    cases bs with
    | nil => rfl
    | cons b bs => simp only [eqList]; rw [ihx b, ihxs bs]
  all_goals
    intro x b
    cases b <;> simp only [Value.eq] <;>
      first | exact Bool.beq_comm | exact LawfulNum.beq_symm _ _ | exact cmp_beq_eq_comm _ _

end
end Order
end Slac
