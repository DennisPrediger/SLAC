/-
  SlacProofs.F64Rwa — core's `roundWithAccuracy` on fractions.  `rwaFrac s A B e` is the model's rounding of the
  value (A/B)·2^e (integer part A/B with the accuracy of the remainder); `tgt` is the target exponent of binary64;
  * `rwaFrac_eq`: closed form (shift to the target exponent = divide, round to nearest even `rneFrac`, renormalise);
    `rne_bounds`: `rneFrac A B` is within half a unit of A/B, an odd result strictly;
  * `rwaFrac_scale`, `rwaFrac_shift`: common factors and powers of two moved between numerator and exponent do not
    change the result;  `rwaFrac_congr`: **the result depends only on the value** (for descriptions whose exponent
    is at most the target exponent, i.e. where rounding only drops bits).
  This is the basis of the `float(str(x)) = x` proof: all four code paths of `Float.ofScientific` are `rwaFrac`s.
-/
import SlacProofs.F64Bits
set_option autoImplicit false
namespace Slac
namespace F64
open Float.Model Float.Model.UnpackedFloat

def tgt (m : Nat) (e : Int) : Int := max ((m.log2 : Int) + 1 + e - 53) (-1074)

theorem targetExponent_eq (m : Nat) (e : Int) :
    B64.targetExponent (totalExponent m e) = tgt m e := by
  unfold Format.targetExponent totalExponent tgt
  have h1 : (B64.mantissaBits : Int) = 53 := by decide
  have h2 : B64.minExponent = -1074 := by decide
  rw [h1, h2]

theorem shiftRight_zero (em : ExtendedMantissa) : em >>> 0 = em := rfl
theorem shiftRight_succ (em : ExtendedMantissa) (k : Nat) : em >>> (k+1) = (em >>> k).shiftRightOne := rfl

/-- extended mantissa of a fraction A/B: integer part with the accuracy of the remainder -/
def emFrac (A B : Nat) : ExtendedMantissa :=
  ExtendedMantissa.ofMantissaAndAccuracy (A / B) (accuracyOfFraction (A % B) B)

/-- round bit: the remainder is at least half; sticky bit: it is neither zero nor exactly half -/
theorem emFrac_eq (A B : Nat) (hB : 0 < B) :
    emFrac A B = ⟨A / B, decide (B ≤ 2 * (A % B)), decide (A % B ≠ 0 ∧ 2 * (A % B) ≠ B)⟩ := by
  unfold emFrac accuracyOfFraction
  generalize A % B = r
  rw [Nat.compare_eq_ite_lt]
  by_cases h0 : r = 0
  · have a : ¬ B ≤ 2 * r := by omega
    have b : ¬ (r ≠ 0 ∧ 2 * r ≠ B) := by omega
    rw [if_pos h0, decide_eq_false a, decide_eq_false b]; rfl
  · by_cases h1 : 2 * r < B
    · have a : ¬ B ≤ 2 * r := by omega
      have b : r ≠ 0 ∧ 2 * r ≠ B := by omega
      rw [if_neg h0, if_pos h1, decide_eq_false a, decide_eq_true b]; rfl
    · by_cases h2 : B < 2 * r
      · have a : B ≤ 2 * r := by omega
        have b : r ≠ 0 ∧ 2 * r ≠ B := by omega
        rw [if_neg h0, if_neg h1, if_pos h2, decide_eq_true a, decide_eq_true b]; rfl
      · have a : B ≤ 2 * r := by omega
        have b : ¬ (r ≠ 0 ∧ 2 * r ≠ B) := by omega
        rw [if_neg h0, if_neg h1, if_neg h2, decide_eq_true a, decide_eq_false b]; rfl

theorem emFrac_shiftOne (A B : Nat) (hB : 0 < B) : (emFrac A B).shiftRightOne = emFrac A (B * 2) := by
  have hr := Nat.mod_lt A hB
  rw [emFrac_eq A B hB, emFrac_eq A (B * 2) (by omega), ← Nat.div_div_eq_div_mul, Nat.mod_mul]
  unfold ExtendedMantissa.shiftRightOne
  generalize A % B = r at hr ⊢
  rcases (show A / B % 2 = 0 ∨ A / B % 2 = 1 by omega) with hp | hp <;>
    simp only [hp, ← Bool.decide_or] <;> congr 1
  · exact (decide_eq_false (by omega)).symm
  · exact decide_eq_decide.2 (by omega)
  · exact (decide_eq_true (by omega)).symm
  · exact decide_eq_decide.2 (by omega)

theorem emFrac_shift (A B : Nat) (hB : 0 < B) (j : Nat) : (emFrac A B) >>> j = emFrac A (B * 2^j) := by
  induction j with
  | zero => simp [shiftRight_zero]
  | succ j ih =>
    rw [shiftRight_succ, ih, emFrac_shiftOne A _ (Nat.mul_pos hB (Nat.two_pow_pos j)), Nat.pow_succ, Nat.mul_assoc]

theorem shift_mantissa (em : ExtendedMantissa) (j : Nat) : (em >>> j).mantissa = em.mantissa / 2^j := by
  induction j with
  | zero => simp [shiftRight_zero]
  | succ j ih =>
    rw [shiftRight_succ]
    show (em >>> j).mantissa / 2 = _
    rw [ih, Nat.div_div_eq_div_mul, Nat.pow_succ]

/-- round-to-nearest-even of the fraction A/B to an integer -/
def rneFrac (A B : Nat) : Nat :=
  if 2 * (A % B) < B then A / B else if 2 * (A % B) = B then A / B + A / B % 2 else A / B + 1

theorem emFrac_rounded (A B : Nat) (hB : 0 < B) : (emFrac A B).roundedMantissa = rneFrac A B := by
  have hr := Nat.mod_lt A hB
  unfold emFrac ExtendedMantissa.roundedMantissa rneFrac accuracyOfFraction
  by_cases hR : A % B = 0
  · rw [if_pos hR, hR, if_pos (by omega)]; rfl
  · rw [if_neg hR]
    rcases Nat.lt_trichotomy (2 * (A % B)) B with hc | hc | hc
    · have : compare (2 * (A % B)) B = .lt := by rw [Nat.compare_eq_lt]; exact hc
      rw [this, if_pos hc]; rfl
    · have : compare (2 * (A % B)) B = .eq := by rw [Nat.compare_eq_eq]; exact hc
      rw [this, if_neg (by omega), if_pos hc]; rfl
    · have : compare (2 * (A % B)) B = .gt := by rw [Nat.compare_eq_gt]; exact hc
      rw [this, if_neg (by omega), if_neg (by omega)]; rfl

/-- `roundWithAccuracy` applied to the fraction A/B scaled by 2^e -/
def rwaFrac (s : Sign) (A B : Nat) (e : Int) : UnpackedFloat :=
  roundWithAccuracy B64 s (A / B) e (accuracyOfFraction (A % B) B)

theorem rwaFrac_one (s : Sign) (A : Nat) (e : Int) : rwaFrac s A 1 e = roundWithAccuracy B64 s A e .exact := by
  unfold rwaFrac accuracyOfFraction; simp [Nat.mod_one]

/-- the two steps of `roundWithAccuracy` on a fraction, in closed form -/
theorem rwaFrac_eq (s : Sign) (A B : Nat) (e : Int) (hB : 0 < B) :
    rwaFrac s A B e =
      (let j := (tgt (A / B) e - e).toNat
       let r := rneFrac A (B * 2^j)
       let e₁ := e + (j : Int)
       let j₂ := (tgt r e₁ - e₁).toNat
       if h : r / 2^j₂ = 0 then .zero s else .finite s (r / 2^j₂) (e₁ + (j₂ : Int)) (Nat.pos_of_ne_zero h)) := by
  unfold rwaFrac roundWithAccuracy shiftToTargetExponent shiftToExponent
  simp only [targetExponent_eq]
  have h1 : ExtendedMantissa.ofMantissaAndAccuracy (A / B) (accuracyOfFraction (A % B) B) = emFrac A B := rfl
  have h2 := emFrac_rounded A (B * 2^(tgt (A / B) e - e).toNat) (Nat.mul_pos hB (Nat.two_pow_pos _))
  simp only [h1, emFrac_shift A B hB, h2]
  simp only [shift_mantissa, ExtendedMantissa.ofMantissaAndAccuracy]

theorem aof_scale (R B t : Nat) (ht : 0 < t) : accuracyOfFraction (R * t) (B * t) = accuracyOfFraction R B := by
  have h0 : R * t = 0 ↔ R = 0 := by rw [Nat.mul_eq_zero]; omega
  unfold accuracyOfFraction
  simp only [← Nat.mul_assoc, Nat.compare_eq_ite_lt, Nat.mul_lt_mul_right ht, h0]

/-- a common factor of numerator and denominator does not matter -/
theorem rwaFrac_scale (s : Sign) (A B t : Nat) (e : Int) (ht : 0 < t) :
    rwaFrac s (A * t) (B * t) e = rwaFrac s A B e := by
  unfold rwaFrac
  rw [Nat.mul_div_mul_right _ _ ht, Nat.mul_mod_mul_right, aof_scale _ _ _ ht]

/-- `rneFrac A B` is within half a unit of A/B; an odd result is strictly within -/
theorem rne_bounds (A B : Nat) (hB : 0 < B) :
    2 * (rneFrac A B * B) ≤ 2 * A + B ∧ 2 * A ≤ 2 * (rneFrac A B * B) + B ∧
    (rneFrac A B % 2 = 1 → 2 * (rneFrac A B * B) < 2 * A + B ∧ 2 * A < 2 * (rneFrac A B * B) + B) := by
  have hdm := Nat.div_add_mod A B
  have hr := Nat.mod_lt A hB
  unfold rneFrac
  generalize A / B = q at *
  generalize A % B = m at *
  have hqB : q * B = B * q := Nat.mul_comm _ _
  generalize B * q = qB at *
  split
  · rw [hqB]; exact ⟨by omega, by omega, fun _ => ⟨by omega, by omega⟩⟩
  · split
    · rcases Nat.mod_two_eq_zero_or_one q with h0 | h1
      · rw [h0, Nat.add_zero, hqB]; exact ⟨by omega, by omega, fun h => by omega⟩
      · rw [h1, Nat.add_mul, Nat.one_mul, hqB]; exact ⟨by omega, by omega, fun h => by omega⟩
    · rw [Nat.add_mul, Nat.one_mul, hqB]; exact ⟨by omega, by omega, fun _ => ⟨by omega, by omega⟩⟩

theorem rneFrac_scale (A B t : Nat) (ht : 0 < t) : rneFrac (A * t) (B * t) = rneFrac A B := by
  unfold rneFrac
  rw [Nat.mul_div_mul_right _ _ ht, Nat.mul_mod_mul_right]
  have h1 : (2 * (A % B * t) < B * t) ↔ (2 * (A % B) < B) := by
    rw [← Nat.mul_assoc]; exact Nat.mul_lt_mul_right ht
  have h2 : (2 * (A % B * t) = B * t) ↔ (2 * (A % B) = B) := by
    rw [← Nat.mul_assoc]; exact Nat.mul_right_cancel_iff ht
  simp only [h1, h2]

theorem log2_div_mul (A B k : Nat) (hB : 0 < B) (hQ : 1 ≤ A / B) : (A * 2^k / B).log2 = (A / B).log2 + k := by
  have hq0 : A / B ≠ 0 := by omega
  have hlo : A / B * 2^k ≤ A * 2^k / B := by
    rw [Nat.le_div_iff_mul_le hB]
    calc A / B * 2^k * B = (A / B * B) * 2^k := by ac_rfl
      _ ≤ A * 2^k := Nat.mul_le_mul_right _ (Nat.div_mul_le_self A B)
  have hhi : A * 2^k / B < (A / B + 1) * 2^k := by
    rw [Nat.div_lt_iff_lt_mul hB]
    have : A < (A / B + 1) * B := by
      have := Nat.div_add_mod A B; have := Nat.mod_lt A hB
      rw [Nat.add_mul, Nat.one_mul, Nat.mul_comm]; omega
    calc A * 2^k < (A / B + 1) * B * 2^k := Nat.mul_lt_mul_of_pos_right this (Nat.two_pow_pos k)
      _ = (A / B + 1) * 2^k * B := by ac_rfl
  have h1 : 2^((A / B).log2 + k) ≤ A * 2^k / B := by
    rw [Nat.pow_add]
    exact Nat.le_trans (Nat.mul_le_mul_right _ (Nat.log2_self_le hq0)) hlo
  have h2 : A * 2^k / B < 2^((A / B).log2 + k + 1) := by
    have : A / B + 1 ≤ 2^((A / B).log2 + 1) := Nat.lt_log2_self
    calc A * 2^k / B < (A / B + 1) * 2^k := hhi
      _ ≤ 2^((A / B).log2 + 1) * 2^k := Nat.mul_le_mul_right _ this
      _ = 2^((A / B).log2 + k + 1) := by rw [← Nat.pow_add]; congr 1; omega
  exact log2_eq_of _ _ h1 h2

theorem tgt_div_mul (A B k : Nat) (e : Int) (hB : 0 < B) (he : e ≤ tgt (A / B) e) :
    tgt (A * 2^k / B) (e - k) = tgt (A / B) e := by
  by_cases hQ : 1 ≤ A / B
  · unfold tgt; rw [log2_div_mul A B k hB hQ]; push_cast; omega
  · have hq0 : A / B = 0 := Nat.lt_one_iff.1 (Nat.not_le.1 hQ)
    rw [hq0] at he ⊢
    have hl0 : Nat.log2 0 = 0 := Nat.log2_zero
    have he' : e ≤ -1074 := by unfold tgt at he; rw [hl0] at he; omega
    have hAB : A < B := by
      rcases Nat.lt_or_ge A B with h | h
      · exact h
      · have := Nat.div_pos h hB; omega
    have hlt : A * 2^k / B < 2^k := by
      rw [Nat.div_lt_iff_lt_mul hB, Nat.mul_comm (2^k) B]
      exact Nat.mul_lt_mul_of_pos_right hAB (Nat.two_pow_pos k)
    have hlog : (A * 2^k / B).log2 ≤ k := by
      by_cases h0 : A * 2^k / B = 0
      · rw [h0, hl0]; omega
      · have := (Nat.log2_lt h0).2 hlt; omega
    unfold tgt; rw [hl0]; omega

/-- moving a power of two from the exponent into the numerator does not matter (when bits are only dropped) -/
theorem rwaFrac_shift (s : Sign) (A B k : Nat) (e : Int) (hB : 0 < B) (he : e ≤ tgt (A / B) e) :
    rwaFrac s (A * 2^k) B (e - k) = rwaFrac s A B e := by
  rw [rwaFrac_eq s _ B _ hB, rwaFrac_eq s A B e hB]
  have hT := tgt_div_mul A B k e hB he
  simp only [hT]
  have hj : (tgt (A / B) e - (e - (k:Int))).toNat = (tgt (A / B) e - e).toNat + k := by omega
  have hr : rneFrac (A * 2^k) (B * 2^((tgt (A / B) e - e).toNat + k)) = rneFrac A (B * 2^(tgt (A / B) e - e).toNat) := by
    rw [Nat.pow_add, ← Nat.mul_assoc, rneFrac_scale _ _ _ (Nat.two_pow_pos k)]
  have he1 : e - (k:Int) + (((tgt (A / B) e - e).toNat + k : Nat) : Int) = e + ((tgt (A / B) e - e).toNat : Int) := by
    push_cast; omega
  simp only [hj, hr, he1]

/-- **the rounding depends only on the value**: two descriptions A·2^e/B = A'·2^e'/B' with enough bits round alike -/
theorem rwaFrac_congr (s : Sign) (A B A' B' : Nat) (e e' e₀ : Int) (hB : 0 < B) (hB' : 0 < B')
    (he : e ≤ tgt (A / B) e) (he' : e' ≤ tgt (A' / B') e')
    (h0 : e₀ ≤ e) (h0' : e₀ ≤ e')
    (hval : A * B' * 2^(e - e₀).toNat = A' * B * 2^(e' - e₀).toNat) :
    rwaFrac s A B e = rwaFrac s A' B' e' := by
  have h1 := rwaFrac_shift s A B (e - e₀).toNat e hB he
  have h2 := rwaFrac_shift s A' B' (e' - e₀).toNat e' hB' he'
  have e1 : e - ((e - e₀).toNat : Int) = e₀ := by omega
  have e2 : e' - ((e' - e₀).toNat : Int) = e₀ := by omega
  rw [e1] at h1; rw [e2] at h2
  rw [← h1, ← h2, ← rwaFrac_scale s _ B B' e₀ hB', ← rwaFrac_scale s (A' * _) B' B e₀ hB]
  congr 1
  · calc A * 2^(e - e₀).toNat * B' = A * B' * 2^(e - e₀).toNat := by ac_rfl
      _ = A' * B * 2^(e' - e₀).toNat := hval
      _ = A' * 2^(e' - e₀).toNat * B := by ac_rfl
  · exact Nat.mul_comm B B'

end F64
end Slac
