/-
  SlacProofs.OrderSafe — the sub-domain `Safe` on which `Value.cmp` is a total preorder (C13, part B).

  A collection of values is Safe when, over ALL leaves (non-array values reachable through nested arrays) of all
  its members: no Number leaf is NaN, and there are not both a numeric-string leaf (a String that `parse`s to a
  non-NaN number) and a Number leaf.
  Outside this domain transitivity genuinely fails (see SlacProps.C13 part C).
-/
import SlacProofs.OrderBase
set_option autoImplicit false
namespace Slac
namespace Order
variable {N : Type} [NumOps N]
open Value

/-- a String that parses to a non-NaN number (these compare numerically against Numbers) -/
def isNumStr (s : Str) : Bool :=
  match NumOps.parse (N := N) s with
  | some x => !(LawfulNum.isNaN x)
  | none => false

def isNaNLeaf : Value N → Bool | .num x => LawfulNum.isNaN x | _ => false
def isNumLeaf : Value N → Bool | .num _ => true | _ => false
def isNumStrLeaf : Value N → Bool | .str s => isNumStr (N := N) s | _ => false

mutual
/-- does some leaf (non-array value reachable through nested arrays) satisfy `p`? -/
def anyLeaf (p : Value N → Bool) : Value N → Bool
  | .arr xs => anyLeafL p xs
  | v => p v
def anyLeafL (p : Value N → Bool) : List (Value N) → Bool
  | [] => false
  | x :: xs => anyLeaf p x || anyLeafL p xs
end

def safeB (xs : List (Value N)) : Bool :=
  !anyLeafL isNaNLeaf xs && !(anyLeafL isNumStrLeaf xs && anyLeafL isNumLeaf xs)

/-- the domain on which the ordering is a total preorder -/
def Safe (xs : List (Value N)) : Prop := safeB xs = true

instance (xs : List (Value N)) : Decidable (Safe xs) := by unfold Safe; infer_instance

/-! ### the two modes of a Safe collection
  mode `true` : no Number leaf at all (Strings may be numeric);
  mode `false`: no NaN leaf and no numeric-string leaf. -/
mutual
def okV (m : Bool) : Value N → Bool
  | .bool _ => true
  | .str s => m || !isNumStr (N := N) s
  | .num x => !m && !LawfulNum.isNaN x
  | .arr xs => okL m xs
def okL (m : Bool) : List (Value N) → Bool
  | [] => true
  | x :: xs => okV m x && okL m xs
end

theorem okL_mem {m : Bool} {xs : List (Value N)} (h : okL m xs = true) {a : Value N} (ha : a ∈ xs) :
    okV m a = true := by
  induction xs with
  | nil => cases ha
  | cons x xs ih =>
    simp only [okL, Bool.and_eq_true] at h
    cases ha with
    | head => exact h.1
    | tail _ h' => exact ih h.2 h'

theorem ok_of_leaves (a : Value N) :
    (anyLeaf isNumLeaf a = false → okV true a = true) ∧
    (anyLeaf isNaNLeaf a = false → anyLeaf isNumStrLeaf a = false → okV false a = true) := by
  refine Value.rec (motive_1 := fun a => (anyLeaf isNumLeaf a = false → okV true a = true) ∧
      (anyLeaf isNaNLeaf a = false → anyLeaf isNumStrLeaf a = false → okV false a = true))
    (motive_2 := fun as => (anyLeafL isNumLeaf as = false → okL true as = true) ∧
      (anyLeafL isNaNLeaf as = false → anyLeafL isNumStrLeaf as = false → okL false as = true))
    ?_ ?_ ?_ ?_ ?_ ?_ a
  · exact fun b => ⟨fun _ => rfl, fun _ _ => rfl⟩
  · exact fun s => ⟨fun _ => rfl, fun _ h => by simp only [anyLeaf, isNumStrLeaf] at h; simp [okV, h]⟩
  · exact fun x => ⟨fun h => by simp [anyLeaf, isNumLeaf] at h,
      fun h _ => by simp only [anyLeaf, isNaNLeaf] at h; simp [okV, h]⟩
  · exact fun xs ih => ih
  · exact ⟨fun _ => rfl, fun _ _ => rfl⟩
  · intro x xs ihx ihxs
    simp only [anyLeafL, Bool.or_eq_false_iff, okL, Bool.and_eq_true]
    exact ⟨fun h => ⟨ihx.1 h.1, ihxs.1 h.2⟩, fun h1 h2 => ⟨ihx.2 h1.1 h2.1, ihxs.2 h1.2 h2.2⟩⟩

/-- a Safe collection is in one of the two modes -/
theorem Safe.ok {xs : List (Value N)} (h : Safe xs) : ∃ m, okL m xs = true := by
  unfold Safe safeB at h
  simp only [Bool.and_eq_true, Bool.not_eq_true', Bool.and_eq_false_iff] at h
  rcases h with ⟨h1, h2 | h2⟩
  · exact ⟨false, (ok_of_leaves (.arr xs)).2 h1 h2⟩
  · exact ⟨true, (ok_of_leaves (.arr xs)).1 h2⟩

section
variable [LawfulNum N]

theorem cmp_str_num {m : Bool} {s : Str} {x : N} (hs : okV (N := N) m (.str s) = true) (hx : okV m (.num x) = true) :
    cmp (.str s) (.num x) = .lt := by
  simp only [okV, Bool.and_eq_true, Bool.not_eq_true', Bool.or_eq_true] at hs hx
  rcases hx with ⟨hm, hx⟩
  subst hm
  simp only [Bool.false_eq_true, false_or] at hs
  unfold isNumStr at hs
  simp only [cmp]
  cases hp : NumOps.parse (N := N) s with
  | none => rfl
  | some y =>
    rw [hp] at hs
    simp only [Bool.not_eq_false'] at hs
    simp only [LawfulNum.pcmp_none_of_nan_left y x hs]
    rfl

theorem num_tri {a b c : N} (ha : LawfulNum.isNaN a = false) (hb : LawfulNum.isNaN b = false)
    (hc : LawfulNum.isNaN c = false) :
    Tri ((NumOps.pcmp a b).getD .eq) ((NumOps.pcmp b c).getD .eq) ((NumOps.pcmp a c).getD .eq) := by
  obtain ⟨o1, h1⟩ := LawfulNum.pcmp_some_of_not_nan a b ha hb
  obtain ⟨o2, h2⟩ := LawfulNum.pcmp_some_of_not_nan b c hb hc
  obtain ⟨o3, h3⟩ := LawfulNum.pcmp_some_of_not_nan a c ha hc
  rw [h1, h2, h3]
  simp only [Option.getD_some]
  have key : ∀ o, NumOps.pcmp a c = some o → o3 = o := fun o h => Option.some.inj (h3.symm.trans h)
  refine ⟨?_, ?_, ?_, ?_⟩
  · intro e; subst e; exact key _ (LawfulNum.pcmp_eq_left a b c o2 h1 h2)
  · intro e; subst e; exact key _ (LawfulNum.pcmp_eq_right a b c o1 h1 h2)
  · intro e1 e2; subst e1; subst e2; exact key _ (LawfulNum.pcmp_lt_trans a b c h1 h2)
  · intro e1 e2; subst e1; subst e2; exact key _ (LawfulNum.pcmp_gt_trans a b c h1 h2)

/-- on one mode values of different kinds compare as their kinds do (`.then` reaches its second argument only where
    the kinds agree); `cmp a b` stands on both sides because that is the form `Tri.then` takes apart -/
theorem cmp_kind_first {m : Bool} {a b : Value N} (ha : okV m a = true) (hb : okV m b = true) :
    cmp a b = (cmpNat (ordinal a) (ordinal b)).then (cmp a b) := by
  cases a <;> cases b
  case str.num => rw [cmp_str_num ha hb]; rfl
  case num.str => rw [cmp_swap, cmp_str_num hb ha]; rfl
  all_goals rfl

theorem tri_of_arrays {m : Bool} {a b c : Value N} (ha : okV m a = true) (hb : okV m b = true) (hc : okV m c = true)
    (h : ∀ xs ys zs, a = .arr xs → b = .arr ys → c = .arr zs → Tri (cmpList xs ys) (cmpList ys zs) (cmpList xs zs)) :
    Tri (cmp a b) (cmp b c) (cmp a c) := by
  rw [cmp_kind_first ha hb, cmp_kind_first hb hc, cmp_kind_first ha hc]
  refine (cmpNat_tri _ _ _).then fun h1 h2 => ?_
  rw [cmpNat_eq_iff] at h1 h2
  cases a <;> cases b <;> cases h1 <;> cases c <;> cases h2
  · exact cmpBool_tri _ _ _
  · exact cmpStr_tri _ _ _
  · simp only [okV, Bool.and_eq_true, Bool.not_eq_true'] at ha hb hc
    exact num_tri ha.2 hb.2 hc.2
  · exact h _ _ _ rfl rfl rfl

theorem cmp_tri (m : Bool) (a : Value N) :
    ∀ b c, okV m a = true → okV m b = true → okV m c = true → Tri (cmp a b) (cmp b c) (cmp a c) := by
  refine Value.rec
    (motive_1 := fun a => ∀ b c, okV m a = true → okV m b = true → okV m c = true →
      Tri (cmp a b) (cmp b c) (cmp a c))
    (motive_2 := fun as => ∀ bs cs, okL m as = true → okL m bs = true → okL m cs = true →
      Tri (cmpList as bs) (cmpList bs cs) (cmpList as cs)) ?_ ?_ ?_ ?_ ?_ ?_ a
  · exact fun _ _ _ ha hb hc => tri_of_arrays ha hb hc nofun
  · exact fun _ _ _ ha hb hc => tri_of_arrays ha hb hc nofun
  · exact fun _ _ _ ha hb hc => tri_of_arrays ha hb hc nofun
  · intro xs ih b c ha hb hc
    refine tri_of_arrays ha hb hc fun _ ys zs h1 h2 h3 => ?_
    cases h1; cases h2; cases h3
    exact ih ys zs ha hb hc
  · intro bs cs _ _ _
    cases bs <;> cases cs <;> simp [cmpList, Tri]
  · intro x xs ihx ihxs bs cs ha hb hc
    cases bs with
    | nil => cases cs <;> simp [cmpList, Tri]
    | cons y ys =>
      cases cs with
      | nil => simp [cmpList, Tri]
      | cons z zs =>
        simp only [okL, Bool.and_eq_true] at ha hb hc
        rw [cmpList_cons, cmpList_cons, cmpList_cons]
        exact (ihx y z ha.1 hb.1 hc.1).then fun _ _ => ihxs ys zs ha.2 hb.2 hc.2

theorem cmp_tri_of_safe {xs : List (Value N)} (h : Safe xs) {a b c : Value N}
    (ha : a ∈ xs) (hb : b ∈ xs) (hc : c ∈ xs) : Tri (cmp a b) (cmp b c) (cmp a c) := by
  obtain ⟨m, hm⟩ := h.ok
  exact cmp_tri m a b c (okL_mem hm ha) (okL_mem hm hb) (okL_mem hm hc)

end
end Order
end Slac
