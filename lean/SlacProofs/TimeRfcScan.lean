/-
  SlacProofs.TimeRfcScan — evaluation lemmas for chrono's scanners (SlacModel.TimeParse) on printed decimal
  fields: `number` on digit lists, literals, numeric items, the setters on `Parsed`; then the resolution of
  year-month-day and hour-minute-second fields.  Used by SlacProofs.TimeStr (default formats) and SlacProofs.TimeRfcRound.
-/
import SlacModel.TimeRfc
set_option autoImplicit false
namespace Slac.Time
open Stdlib

theorem digit_dc : ∀ k, k < 10 → digit? k.digitChar = some k := by decide +kernel
theorem isWs_dc : ∀ k, k < 10 → isWs k.digitChar = false := by decide +kernel
theorem size_dc : ∀ k, k < 10 → k.digitChar.utf8Size = 1 := by decide +kernel
theorem dc_ne_minus : ∀ k, k < 10 → (k.digitChar == '-') = false := by decide +kernel
theorem dc_ne_plus : ∀ k, k < 10 → (k.digitChar == '+') = false := by decide +kernel
theorem isDigit_dc (k : Nat) (h : k < 10) : isDigit k.digitChar = true := by simp [isDigit, digit_dc k h]

theorem utf8Len_cons (c : Char) (r : Str) : utf8Len (c :: r) = c.utf8Size + utf8Len r := rfl
theorem utf8Size_pos (c : Char) : 1 ≤ c.utf8Size := by
  unfold Char.utf8Size; simp only []; repeat' split
  all_goals omega
theorem length_le_utf8Len (s : Str) : s.length ≤ utf8Len s := by
  induction s with
  | nil => simp [utf8Len]
  | cons c r ih => have := utf8Size_pos c; simp only [List.length_cons, utf8Len_cons]; omega

theorem trimStart_dc (k : Nat) (h : k < 10) (r : Str) : trimStart (k.digitChar :: r) = k.digitChar :: r := by
  simp [trimStart, List.dropWhile, isWs_dc k h]

theorem numberGo_stop (min max : Nat) (s : Str) (i acc : Nat) (h : max ≤ i) :
    numberGo min max s i acc = .ok (s, acc) := by
  cases s with
  | nil => rfl
  | cons c r => simp [numberGo, h]

theorem numberGo_dc (min max k : Nat) (hk : k < 10) (r : Str) (i acc : Nat) (hi : i < max)
    (hacc : acc * 10 + k ≤ i64Max) :
    numberGo min max (k.digitChar :: r) i acc = numberGo min max r (i + 1) (acc * 10 + k) := by
  have h1 : ¬ max ≤ i := by omega
  have h2 : ¬ acc * 10 + k > i64Max := by omega
  simp [numberGo, h1, digit_dc k hk, h2]

theorem numberGo_nondigit (min max : Nat) (c : Char) (r : Str) (i acc : Nat) (hc : digit? c = none) (hmin : min ≤ i) :
    numberGo min max (c :: r) i acc = .ok (c :: r, acc) := by
  by_cases h : max ≤ i
  · exact numberGo_stop _ _ _ _ _ h
  · have : ¬ i < min := by omega
    simp [numberGo, h, hc, this]

theorem number_eq_numberGo (s : Str) (min max : Nat) (h : min ≤ s.length) : number s min max = numberGo min max s 0 0 := by
  have := length_le_utf8Len s
  have h2 : ¬ utf8Len s < min := by omega
  simp [number, h2]

def digitsVal (ds : List Nat) (acc : Nat) : Nat := ds.foldl (fun a d => a * 10 + d) acc
def digitsText (ds : List Nat) : Str := ds.map Nat.digitChar

/-- `rest` does not continue the digits -/
def NoDigitHead (rest : Str) : Prop := ∀ c r, rest = c :: r → digit? c = none

theorem NoDigitHead.cons {c : Char} (h : digit? c = none) (r : Str) : NoDigitHead (c :: r) := by
  intro c' r' e; cases e; exact h

/-- the loop of `scan::number` on the digits `ds` followed by `rest` reads them all: it stops at the width limit or at a
    non-digit (at most 18 digits, so the value fits) -/
theorem numberGo_digits (min max : Nat) (ds : List Nat) (hds : ∀ d ∈ ds, d < 10) (rest : Str) :
    ∀ (i acc : Nat), i + ds.length ≤ 18 → acc < 10 ^ i → min ≤ i + ds.length →
      i + ds.length = max ∨ (i + ds.length ≤ max ∧ NoDigitHead rest) →
      numberGo min max (digitsText ds ++ rest) i acc = .ok (rest, digitsVal ds acc) := by
  induction ds with
  | nil =>
    intro i acc _ _ hmin hstop
    rcases hstop with h | ⟨_, h⟩
    · exact numberGo_stop _ _ _ _ _ (by simp at h; omega)
    · cases rest with
      | nil => rfl
      | cons c r => exact numberGo_nondigit _ _ _ _ _ _ (h c r rfl) (by simpa using hmin)
  | cons d ds ih =>
    intro i acc hi hacc hmin hstop
    have hd : d < 10 := hds d (by simp)
    simp only [List.length_cons] at hi hmin hstop
    have hp : 10 ^ i ≤ 10 ^ 17 := Nat.pow_le_pow_right (by omega) (by omega)
    have hs : 10 ^ (i + 1) = 10 ^ i * 10 := Nat.pow_succ ..
    simp only [digitsText, List.map_cons, List.cons_append, digitsVal, List.foldl_cons]
    rw [numberGo_dc _ _ d hd _ _ _ (by omega) (by simp only [i64Max]; omega)]
    exact ih (fun x hx => hds x (by simp [hx])) (i + 1) (acc * 10 + d) (by omega) (by omega) (by omega)
      (hstop.imp (fun h => by omega) fun h => ⟨by omega, h.2⟩)

theorem number_digits (min max : Nat) (ds : List Nat) (hds : ∀ d ∈ ds, d < 10) (rest : Str) (hlen : ds.length ≤ 18)
    (hmin : min ≤ ds.length) (hstop : ds.length = max ∨ (ds.length ≤ max ∧ NoDigitHead rest)) :
    number (digitsText ds ++ rest) min max = .ok (rest, digitsVal ds 0) := by
  rw [number_eq_numberGo _ _ _ (by simp [digitsText]; omega)]
  exact numberGo_digits min max ds hds rest 0 0 (by omega) (by simp) (by omega) (by simpa using hstop)

theorem number_2 (a b : Nat) (ha : a < 10) (hb : b < 10) (r : Str) (min : Nat) (hmin : min ≤ 2) :
    number (a.digitChar :: b.digitChar :: r) min 2 = .ok (r, a * 10 + b) := by
  have := number_digits min 2 [a, b] (by simp [ha, hb]) r (by simp) hmin (Or.inl rfl)
  rwa [show digitsVal [a, b] 0 = a * 10 + b by simp [digitsVal]] at this

theorem parseLiteral_cons (c : Char) (r : Str) : parseLiteral [c] (c :: r) = .ok r := by
  simp [parseLiteral, utf8Len]

theorem parseItems_ok {it : Item} {its : List Item} {s s' : Str} {p p' : Parsed}
    (h : parseItem it s p = .ok (s', p')) : parseItems (it :: its) s p = parseItems its s' p' := by
  simp [parseItems, h]
theorem parseItems_err {it : Item} {its : List Item} {s : Str} {p : Parsed} {e : PErr}
    (h : parseItem it s p = .error e) : parseItems (it :: its) s p = .error e := by
  simp [parseItems, h]

theorem item_lit (c : Char) (r : Str) (p : Parsed) : parseItem (.literal [c]) (c :: r) p = .ok (r, p) := by
  simp [parseItem, parseLiteral_cons, Except.map]
theorem item_space_dc (sp : Str) (k : Nat) (hk : k < 10) (r : Str) (p : Parsed) :
    parseItem (.space sp) (' ' :: k.digitChar :: r) p = .ok (k.digitChar :: r, p) := by
  simp [parseItem, trimStart, List.dropWhile, isWs_dc k hk, (by decide : isWs ' ' = true)]

theorem item_num2 (n : Numeric) (pd : Pad) (hw : numericWidth n = 2) (hs : numericSigned n = false) (v : Nat)
    (hv : v < 100) (r : Str) (p : Parsed) :
    parseItem (.numeric n pd) ((v / 10).digitChar :: (v % 10).digitChar :: r) p =
      (setNumeric n p (v : Int)).map fun p' => (r, p') := by
  have hn := number_2 (v / 10) (v % 10) (by omega) (Nat.mod_lt _ (by decide)) r 1 (by omega)
  rw [Nat.div_add_mod'] at hn
  simp only [parseItem, parseNumeric, trimStart_dc (v / 10) (by omega), hs, hw, Bool.false_and, Bool.false_eq_true,
    if_false, hn]
  rfl

theorem item_year4 (pd : Pad) (y : Nat) (hy : y < 10000) (r : Str) (p : Parsed) :
    parseItem (.numeric .year pd)
      ((y / 1000).digitChar :: (y / 100 % 10).digitChar :: (y / 10 % 10).digitChar :: (y % 10).digitChar :: r) p =
      (p.setYear (y : Int)).map fun p' => (r, p') := by
  have h3 : y / 1000 < 10 := by omega
  have hn : number ((y / 1000).digitChar :: (y / 100 % 10).digitChar :: (y / 10 % 10).digitChar :: (y % 10).digitChar :: r)
      1 4 = .ok (r, digitsVal [y / 1000, y / 100 % 10, y / 10 % 10, y % 10] 0) :=
    number_digits 1 4 [y / 1000, y / 100 % 10, y / 10 % 10, y % 10] (by simp; omega) r (by simp) (by simp) (Or.inl rfl)
  rw [show digitsVal [y / 1000, y / 100 % 10, y / 10 % 10, y % 10] 0 = y by simp only [digitsVal, List.foldl]; omega] at hn
  simp only [parseItem, parseNumeric, trimStart_dc _ h3, numericSigned, numericWidth, List.head?, Bool.true_and,
    hn]
  simp [setNumeric]
  rfl

theorem setYear_small (p : Parsed) (hp : p.year = none) (y : Nat) (hy : y < 10000) :
    p.setYear (y : Int) = .ok { p with year := some (y : Int) } := by
  have : inR i32Min i32Max (y : Int) = true := by
    simp only [inR, Bool.and_eq_true, decide_eq_true_eq]
    exact ⟨by simp only [i32Min]; omega, by simp only [i32Max]; omega⟩
  simp [Parsed.setYear, this, hp, setIf, Except.map]

/-- a setter of a `Nat` field that is still empty: range check on the value, then the field is set -/
theorem setNat_eval {lo hi : Int} {c : Prop} [Decidable c] (n : Nat) (hc : (lo ≤ (n : Int) ∧ (n : Int) ≤ hi) ↔ c)
    {old : Option Nat} (hold : old = none) (upd : Option Nat → Parsed) :
    (if inR lo hi n then (setIf old (n : Int).toNat).map upd else .error .outOfRange) =
      if c then .ok (upd (some n)) else .error .outOfRange := by
  simp only [inR, hold, setIf, Except.map, Int.toNat_natCast, Bool.and_eq_true, decide_eq_true_eq]
  congr 1
  exact propext hc

theorem setMonth_eval (p : Parsed) (hp : p.month = none) (m : Nat) :
    p.setMonth (m : Int) = if 1 ≤ m ∧ m ≤ 12 then .ok { p with month := some m } else .error .outOfRange :=
  setNat_eval m (by omega) hp _

theorem setDay_eval (p : Parsed) (hp : p.day = none) (d : Nat) :
    p.setDay (d : Int) = if 1 ≤ d ∧ d ≤ 31 then .ok { p with day := some d } else .error .outOfRange :=
  setNat_eval d (by omega) hp _

theorem setHour_eval (p : Parsed) (hp1 : p.hourDiv12 = none) (hp2 : p.hourMod12 = none) (h : Nat) :
    p.setHour (h : Int) =
      if h < 24 then .ok { p with hourDiv12 := some (h / 12), hourMod12 := some (h % 12) } else .error .outOfRange := by
  simp only [Parsed.setHour, inR, hp1, hp2, setIf, Except.map, Int.toNat_natCast, Bool.and_eq_true, decide_eq_true_eq]
  congr 1
  exact propext ⟨fun h => by omega, fun h => by omega⟩

theorem setMinute_eval (p : Parsed) (hp : p.minute = none) (m : Nat) :
    p.setMinute (m : Int) = if m < 60 then .ok { p with minute := some m } else .error .outOfRange :=
  setNat_eval m (by omega) hp _

theorem setSecond_eval (p : Parsed) (hp : p.second = none) (s : Nat) :
    p.setSecond (s : Int) = if s ≤ 60 then .ok { p with second := some s } else .error .outOfRange :=
  setNat_eval s (by omega) hp _

theorem setNanosecond_eval (p : Parsed) (hp : p.nanosecond = none) (n : Nat) :
    p.setNanosecond (n : Int) = if n ≤ 999999999 then .ok { p with nanosecond := some n } else .error .outOfRange :=
  setNat_eval n (by omega) hp _

theorem route_ymd (p : Parsed) (y : Int) (giy : Option Int) (m d : Nat) (hm : p.month = some m) (hd : p.day = some d) :
    p.route (some y) giy = .ymd y m d := by
  simp [Parsed.route, hm, hd]

/-- year, month, day (and possibly a weekday, which must agree) given, no other date field -/
theorem toNaiveDate_ymd_of (p : Parsed) (y : Int) (m d : Nat) (wd : Option Nat)
    (e1 : p.year = some y) (e2 : p.month = some m) (e3 : p.day = some d) (e4 : p.weekday = wd)
    (n1 : p.yearDiv100 = none) (n2 : p.yearMod100 = none) (n3 : p.isoYear = none) (n4 : p.isoYearMod100 = none)
    (n5 : p.quarter = none) (n6 : p.weekFromSun = none) (n7 : p.weekFromMon = none) (n8 : p.isoWeek = none)
    (n9 : p.ordinal = none) :
    p.toNaiveDate =
      if validDate y m d then
        (if optEqOr wd (weekday (daysFromCivil y m d)) then .ok (daysFromCivil y m d) else .error .impossible)
      else .error .outOfRange := by
  by_cases hv : validDate y m d = true
  · simp only [Parsed.toNaiveDate, e1, n1, n2, n3, n4, resolveYear, route_ymd p y none m d e2 e3, Parsed.candidate,
      fromYmd, hv, if_true, verifyIsoWeekDate, verifyOrdinal, optEqOr, e4, n5, n6, n7, n8, n9,
      Option.isNone, Bool.and_true, Bool.true_and, ite_self]
    cases wd with
    | none => simp
    | some w => by_cases hw : w = weekday (daysFromCivil y m d) <;> simp [hw]
  · simp [Parsed.toNaiveDate, e1, n1, n2, n3, n4, resolveYear, route_ymd p y none m d e2 e3, Parsed.candidate, fromYmd, hv]

theorem toNaiveDate_ymd (y : Int) (m d : Nat) (wd : Option Nat) :
    ({ year := some y, month := some m, day := some d, weekday := wd } : Parsed).toNaiveDate =
      if validDate y m d then
        (if optEqOr wd (weekday (daysFromCivil y m d)) then .ok (daysFromCivil y m d) else .error .impossible)
      else .error .outOfRange :=
  toNaiveDate_ymd_of _ y m d wd rfl rfl rfl rfl rfl rfl rfl rfl rfl rfl rfl rfl rfl

/-- the date fields do not matter for the time, and vice versa: stated for the field sets the default formats and the
    RFC parsers produce -/
theorem toNaiveTime_hms (p : Parsed) (h mi s : Nat) (n : Option Nat)
    (e1 : p.hourDiv12 = some (h / 12)) (e2 : p.hourMod12 = some (h % 12)) (e3 : p.minute = some mi)
    (e4 : p.second = some s) (e5 : p.nanosecond = n) :
    p.toNaiveTime = .ok ⟨h * 3600 + mi * 60 + min s 59, (if s = 60 then 1000000000 else 0) + n.getD 0⟩ := by
  have e : (h / 12 * 12 + h % 12) = h := by omega
  cases n <;> simp [Parsed.toNaiveTime, e1, e2, e3, e4, e5, e]

theorem route_not_iso (p : Parsed) (gy giy : Option Int) (h : p.isoWeek = none) (iy : Int) (iw wd : Nat) :
    p.route gy giy ≠ .iso iy iw wd := by
  intro hr
  unfold Parsed.route at hr
  split at hr <;> cases hr
  have hw := ‹p.isoWeek = some iw›
  rw [h] at hw; cases hw

theorem dateOverflow_isoWeek_none (p : Parsed) (h : p.isoWeek = none) : p.dateOverflow = false := by
  unfold Parsed.dateOverflow
  split
  · split
    · rename_i heq
      exact absurd heq (route_not_iso p _ _ h _ _ _)
    · rfl
  · rfl

theorem datetimeOverflow_ok (p : Parsed) (off : Int) (h : p.isoWeek = none) (d : Int) (t : NTime)
    (hd : p.toNaiveDate = .ok d) (ht : p.toNaiveTime = .ok t) : p.datetimeOverflow off = false := by
  simp [Parsed.datetimeOverflow, dateOverflow_isoWeek_none p h, hd, ht]

end Slac.Time
