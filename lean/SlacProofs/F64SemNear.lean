/-
  SlacProofs.F64SemNear — correct rounding, the half the literals need (C02): what core's `roundWithAccuracy`
  produces IS the double nearest to the exact value (ties to even, overflow to infinity); here its ingredients,
  SlacProofs.F64SemNearest states the result.  (SlacProofs.F64Near has the converse: a near value rounds to the double.)
  * `rne_nearest` (from `rne_bounds`, F64Rwa): `rneFrac A B` is the integer nearest to A/B, ties to even;
  * `units_grid`: the doubles, in units of 2^-1074, around the binade with unit 2^t: multiples of 2^t, or below 2^52·2^t;
  * `grid_nearest`: rounding to a multiple of the binade's unit beats every double;
  * `rwa_shape_units`: the closed form of `rwaFrac .positive N cd (-1074)` (value N/cd units of 2^-1074, i.e.
    `rnd .positive cn cd` for N = cn·2^1074): mantissa `rneFrac N (cd·2^t)` at exponent t - 1074, renormalised if it
    reaches 2^53.
-/
import SlacProofs.F64SemOps
import SlacProofs.F64Near
set_option autoImplicit false
namespace Slac
namespace F64
open Float.Model Float.Model.UnpackedFloat

/-- |a - b| on naturals -/
def ndist (a b : Nat) : Nat := (a - b) + (b - a)

theorem ndist_lt_of_lt_le {a a' b : Nat} (h1 : a < a') (h2 : a' ≤ b) : ndist a' b < ndist a b := by
  unfold ndist; omega

theorem rneFrac_ge (A B : Nat) : A / B ≤ rneFrac A B := by
  unfold rneFrac; split
  · exact Nat.le_refl _
  · split <;> omega

theorem rneFrac_le (A B : Nat) : rneFrac A B ≤ A / B + 1 := by
  unfold rneFrac; split
  · omega
  · split
    · have := Nat.mod_lt (A / B) (show 0 < 2 by decide); omega
    · omega

/-- no integer is closer to A/B than `rneFrac A B`; if another one is equally close, the result is even -/
theorem rne_nearest (A B n : Nat) (hB : 0 < B) :
    ndist (rneFrac A B * B) A ≤ ndist (n * B) A ∧
    (n ≠ rneFrac A B → ndist (n * B) A = ndist (rneFrac A B * B) A → rneFrac A B % 2 = 0) := by
  obtain ⟨h1, h2, h3⟩ := rne_bounds A B hB
  generalize rneFrac A B = R at *
  unfold ndist
  by_cases heq : n = R
  · subst heq; exact ⟨Nat.le_refl _, fun h => absurd rfl h⟩
  · -- another integer is at least one unit away from R
    have hsep : n * B + B ≤ R * B ∨ R * B + B ≤ n * B := by
      rcases Nat.lt_or_gt_of_ne heq with h | h
      · left; rw [← Nat.succ_mul]; exact Nat.mul_le_mul_right B h
      · right; rw [← Nat.succ_mul]; exact Nat.mul_le_mul_right B h
    generalize n * B = nB at *; generalize R * B = RB at *
    refine ⟨by omega, fun _ he => ?_⟩
    rcases Nat.mod_two_eq_zero_or_one R with h0 | h1'
    · exact h0
    · have := h3 h1'; omega

/-- the finite doubles seen from the binade whose unit is 2^t (in units of 2^-1074): a double is a multiple of that
    unit, or it lies below the binade (below 2^52 units of it) -/
theorem units_grid (y : Float) (hy : isFinite y = true) (t : Nat) : 2^t ∣ unitsN y ∨ unitsN y < 2^52 * 2^t := by
  rcases finite_cases y hy with ⟨s, rfl⟩ | ⟨s, m, e, h, rfl⟩
  · left; rw [unitsN_zeroF]; exact Nat.dvd_zero _
  · rw [unitsN_mkF _ _ _ h]
    have hlt := h.lt
    generalize (e + 1074).toNat = k
    by_cases hk : t ≤ k
    · left; exact Nat.dvd_mul_left_of_dvd (Nat.pow_dvd_pow 2 hk) m
    · right
      calc m * 2^k < 2^53 * 2^k := Nat.mul_lt_mul_of_pos_right hlt (Nat.two_pow_pos k)
        _ = 2^(53 + k) := (Nat.pow_add _ _ _).symm
        _ ≤ 2^(52 + t) := Nat.pow_le_pow_right (by decide) (by omega)
        _ = 2^52 * 2^t := Nat.pow_add _ _ _

/-- rounding K/cd to the nearest multiple of the unit 2^t of its binade beats every point of the double grid -/
theorem grid_nearest (K cd t u : Nat) (hcd : 0 < cd)
    (hlow : t = 0 ∨ 2^52 * (cd * 2^t) ≤ K) (hu : 2^t ∣ u ∨ u < 2^52 * 2^t) :
    ndist (rneFrac K (cd * 2^t) * 2^t * cd) K ≤ ndist (u * cd) K ∧
    (u ≠ rneFrac K (cd * 2^t) * 2^t → ndist (u * cd) K = ndist (rneFrac K (cd * 2^t) * 2^t * cd) K →
      rneFrac K (cd * 2^t) % 2 = 0) := by
  have hP : 0 < 2^t := Nat.two_pow_pos t
  have hB : 0 < cd * 2^t := Nat.mul_pos hcd hP
  have hassoc : ∀ n : Nat, n * 2^t * cd = n * (cd * 2^t) := fun n => by ac_rfl
  have hdvd : ∀ n : Nat, u = n * 2^t →
      ndist (rneFrac K (cd * 2^t) * 2^t * cd) K ≤ ndist (u * cd) K ∧
      (u ≠ rneFrac K (cd * 2^t) * 2^t → ndist (u * cd) K = ndist (rneFrac K (cd * 2^t) * 2^t * cd) K →
        rneFrac K (cd * 2^t) % 2 = 0) := by
    intro n hn
    obtain ⟨a1, a2⟩ := rne_nearest K (cd * 2^t) n hB
    rw [hn, hassoc, hassoc]
    refine ⟨a1, fun hne he => a2 (fun h => hne (by rw [h])) he⟩
  rcases hu with ⟨n, hn⟩ | hu
  · exact hdvd n (by rw [hn, Nat.mul_comm])
  · rcases hlow with h0 | hlow
    · subst h0; exact hdvd u (by simp)
    · -- u lies below the binade, whose lower end 2^52 units is a multiple that is strictly closer
      have h1 : u * cd < 2^52 * (cd * 2^t) := by
        calc u * cd < 2^52 * 2^t * cd := Nat.mul_lt_mul_of_pos_right hu hcd
          _ = 2^52 * (cd * 2^t) := by ac_rfl
      obtain ⟨a1, _⟩ := rne_nearest K (cd * 2^t) (2^52) hB
      have a2 := ndist_lt_of_lt_le h1 hlow
      rw [hassoc]
      exact ⟨by omega, fun _ he => by omega⟩

/-- the binade of N/cd (N in units of 2^-1074): the target exponent is t - 1074 where N/cd < 2^53·2^t, and
    2^52·2^t ≤ N/cd unless t = 0 (subnormal range) -/
theorem rwa_binade (N cd : Nat) (hcd : 0 < cd) :
    ∃ t : Nat, tgt (N / cd) (-1074) = (t : Int) - 1074 ∧ (t = 0 ∨ 2^52 * (cd * 2^t) ≤ N) ∧ N < 2^53 * (cd * 2^t) := by
  generalize hQ : N / cd = Q
  have hT := tgt_of_log2 Q (-1074) _ rfl
  have hre : ∀ k t : Nat, 2^(k + t) * cd = 2^k * (cd * 2^t) := fun k t => by rw [Nat.pow_add]; ac_rfl
  have hQlt : Q < 2^(Q.log2 + 1) := Nat.lt_log2_self
  have hQge : Q ≠ 0 → 2^Q.log2 ≤ Q := Nat.log2_self_le
  have hL0 : Q = 0 → Q.log2 = 0 := fun h => by rw [h]; exact Nat.log2_zero
  generalize Q.log2 = L at *
  refine ⟨(tgt Q (-1074) + 1074).toNat, by omega, ?_, ?_⟩
  · generalize ht : (tgt Q (-1074) + 1074).toNat = t
    by_cases ht0 : t = 0
    · exact Or.inl ht0
    · right
      have hLe : L = 52 + t := by omega
      have := hQge (fun h0 => by have := hL0 h0; omega)
      rwa [hLe, ← hQ, Nat.le_div_iff_mul_le hcd, hre] at this
  · generalize ht : (tgt Q (-1074) + 1074).toNat = t
    have h1 : Q < 2^(53 + t) := Nat.lt_of_lt_of_le hQlt (Nat.pow_le_pow_right (by decide) (by omega))
    rwa [← hQ, Nat.div_lt_iff_lt_mul hcd, hre] at h1

/-- **closed form of core's rounding** of N/cd, N in units of 2^-1074 (the shape of all four `Float.ofScientific`
    code paths, see F64Sci): there is a binade unit 2^t (t = 0 for subnormals) such that 2^52·2^t ≤ N/cd (if t > 0)
    and N/cd < 2^53·2^t, and the result's mantissa is r = `rneFrac N (cd·2^t)` — the integer nearest to (N/cd)/2^t,
    ties to even — at exponent t - 1074; r = 2^53 is renormalised to 2^52 at t - 1073; r = 0 is +0. -/
theorem rwa_shape_units (N cd : Nat) (hcd : 0 < cd) :
    ∃ t : Nat,
      (t = 0 ∨ 2^52 * (cd * 2^t) ≤ N) ∧ N < 2^53 * (cd * 2^t) ∧
      (rneFrac N (cd * 2^t) = 0 → rwaFrac .positive N cd (-1074) = .zero .positive) ∧
      (∀ h : 0 < rneFrac N (cd * 2^t), rneFrac N (cd * 2^t) < 2^53 →
        rwaFrac .positive N cd (-1074) = .finite .positive (rneFrac N (cd * 2^t)) ((t:Int) - 1074) h) ∧
      (rneFrac N (cd * 2^t) = 2^53 →
        rwaFrac .positive N cd (-1074) = .finite .positive (2^52) ((t:Int) - 1073) (by decide)) ∧
      rneFrac N (cd * 2^t) ≤ 2^53 ∧ (t ≠ 0 → 2^52 ≤ rneFrac N (cd * 2^t)) := by
  obtain ⟨t, hT, hlow, hup⟩ := rwa_binade N cd hcd
  have hBpos : 0 < cd * 2^t := Nat.mul_pos hcd (Nat.two_pow_pos t)
  have hr : rneFrac N (cd * 2^((t:Int) - 1074 - -1074).toNat) = rneFrac N (cd * 2^t) := by
    rw [show ((t:Int) - 1074 - -1074).toNat = t by omega]
  have hrle : rneFrac N (cd * 2^t) ≤ 2^53 := by
    have := rneFrac_le N (cd * 2^t)
    have h2 : N / (cd * 2^t) < 2^53 := (Nat.div_lt_iff_lt_mul hBpos).2 hup
    omega
  have hrge : t ≠ 0 → 2^52 ≤ rneFrac N (cd * 2^t) := fun ht0 =>
    Nat.le_trans ((Nat.le_div_iff_mul_le hBpos).2 (hlow.resolve_left ht0)) (rneFrac_ge _ _)
  refine ⟨t, hlow, hup, ?_⟩
  generalize rneFrac N (cd * 2^t) = r at *
  have hTe : (-1074 : Int) ≤ (t:Int) - 1074 := by omega
  refine ⟨fun h0 => rwaFrac_zero _ _ _ _ _ hcd hT (hr.trans h0), fun hpos h53 => ?_, fun h53 => ?_, hrle, hrge⟩
  · refine rwaFrac_fit _ _ _ _ _ r hcd hT hTe hr hpos ?_
    have hlog : r.log2 < 53 := (Nat.log2_lt (by omega)).2 h53
    have hlog2 : t ≠ 0 → 52 ≤ r.log2 := fun ht0 => (Nat.le_log2 (by omega)).2 (hrge ht0)
    rw [tgt_of_log2 r _ _ rfl]
    by_cases ht0 : t = 0
    · omega
    · have := hlog2 ht0; omega
  · rw [rwaFrac_carry _ _ _ _ _ hcd hT hTe (hr.trans h53)]
    exact finite_congr _ _ _ _ _ _ _ rfl (by omega)

end F64
end Slac
