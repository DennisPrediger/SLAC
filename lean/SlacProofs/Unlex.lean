/-
  SlacProofs.Unlex — the canonical text of a valid token is one of its lexemes; the un-lexed text of a token list
  is a layout (separators chosen by a policy: always one space, or a space only where `needsSep`; none after the
  last token), hence scans back to the list.
-/
import SlacModel.Unlex
import SlacProofs.ScannerLits
set_option autoImplicit false
namespace Slac.Unlex
open Slac.Scanner
variable {N : Type} [NumOps N]

/-- "the token has a source text that scans back to it":
    * an identifier is identifier-shaped and (lower-cased) not a keyword;
    * a number literal `x` is printed by `pr` as a plain decimal text that parses back to `x`
      (an explicit hypothesis about the printer: `x` non-negative, finite, no exponent notation);
    * a literal array value has no source text;
    * every other token (punctuation, operators, keywords, `true`/`false`, every string literal) is valid. -/
def LexValid (cc : CharClass) (pr : N → Str) : Token N → Prop
  | .identifier n => identShape cc n = true ∧ cc.lowerStr n ∉ keywordTexts
  | .literal (.num x) => DecimalText (pr x) ∧ NumOps.parse (pr x) = some x
  | .literal (.arr _) => False
  | _ => True

/-- the canonical text of a valid token is a lexeme of it -/
theorem tokenText_lexeme {cc : CharClass} (hcc : cc.AsciiOk) (pr : N → Str) {t : Token N}
    (h : LexValid cc pr t) : Lexeme cc t (tokenText pr t) := by
  cases t with
  | literal v =>
    cases v with
    | bool b => cases b <;> rw [tokenText] <;> exact word_lexeme hcc (by decide) (by decide) rfl
    | str s => exact .str
    | num x => exact .num (decimal_numShape hcc h.1) h.2
    | arr xs => exact h.elim
  | identifier n => exact .ident h.1 (kwToken_eq_none_iff.mpr h.2)
  | and | or | xor | not | div | mod => rw [tokenText]; exact word_lexeme hcc (by decide) (by decide) rfl
  | _ => exact .punct (by repeat constructor)

/-- the token texts joined by `sp t t'` between adjacent tokens `t`, `t'` -/
def unlexWith (pr : N → Str) (sp : Token N → Token N → Str) : List (Token N) → Str
  | [] => []
  | [t] => tokenText pr t
  | t :: t' :: r => tokenText pr t ++ (sp t t' ++ unlexWith pr sp (t' :: r))

/-- an admissible policy: separators are separators, are non-empty where two tokens may not touch, and do not
    begin with `/` after the token `/` -/
structure SepOk (sp : Token N → Token N → Str) : Prop where
  isSep : ∀ t t', IsSep (sp t t')
  join : ∀ t t', sp t t' = [] → needsSep t t' = false
  fits : ∀ t t', SepFits t (sp t t')

/-- the layout of `unlexWith` -/
def itemsWith (pr : N → Str) (sp : Token N → Token N → Str) : List (Token N) → List (Item N)
  | [] => []
  | [t] => [⟨t, tokenText pr t, []⟩]
  | t :: t' :: r => ⟨t, tokenText pr t, sp t t'⟩ :: itemsWith pr sp (t' :: r)

theorem itemsWith_spec {cc : CharClass} (hcc : cc.AsciiOk) (pr : N → Str) {sp : Token N → Token N → Str} (hsp : SepOk sp)
    (toks : List (Token N)) (hv : ∀ t ∈ toks, LexValid cc pr t) :
    (itemsWith pr sp toks).map (·.tok) = toks ∧ render (itemsWith pr sp toks) [] = unlexWith pr sp toks ∧
      (∀ i ∈ itemsWith pr sp toks, Lexeme cc i.tok i.text ∧ IsSep i.sep) ∧ JoinableTok (itemsWith pr sp toks) [] := by
  induction toks with
  | nil => exact ⟨rfl, rfl, nofun, trivial⟩
  | cons t r ih =>
    have ht := tokenText_lexeme hcc pr (hv t (by simp))
    cases r with
    | nil =>
      exact ⟨rfl, by simp [itemsWith, render, unlexWith], by simpa [itemsWith] using ⟨ht, IsSep.nil⟩, fun _ r h => by cases h⟩
    | cons t' r' =>
      obtain ⟨h1, h2, h3, h4⟩ := ih (fun u hu => hv u (List.mem_cons_of_mem _ hu))
      refine ⟨by simp only [itemsWith, List.map_cons, h1], by simp only [itemsWith, render, unlexWith, h2], ?_, ?_⟩
      · intro i hi
        rcases List.mem_cons.mp hi with rfl | hi
        · exact ⟨ht, hsp.isSep t t'⟩
        · exact h3 i hi
      · cases r' <;> exact ⟨hsp.join t t', hsp.fits t t', h4⟩

/-- the text of valid tokens, under any admissible separator policy, scans back to them -/
theorem scan_unlexWith {cc : CharClass} (hcc : cc.AsciiOk) (pr : N → Str) {sp : Token N → Token N → Str}
    (hsp : SepOk sp) {toks : List (Token N)} (hv : ∀ t ∈ toks, LexValid cc pr t) (hne : toks ≠ []) :
    scan cc (unlexWith pr sp toks) = .ok toks := by
  obtain ⟨h1, h2, h3, h4⟩ := itemsWith_spec hcc pr hsp toks hv
  have := Scanner.scan_layout hcc (itemsWith pr sp toks) [] [] (fun h => hne (by rw [← h1, h]; rfl)) .nil h3
    (joinable_of_tok hcc _ _ h3 .nil h4) .nil
  rwa [List.nil_append, h2, h1] at this

theorem isSep_space : IsSep [' '] := .ws (by decide) .nil

omit [NumOps N] in
/-- always one space -/
theorem sepOk_space : SepOk (fun (_ _ : Token N) => [' ']) :=
  ⟨fun _ _ => isSep_space, fun _ _ h => (by cases h), fun _ _ _ r h => (by cases h)⟩

omit [NumOps N] in
theorem unlex_eq_with (pr : N → Str) (toks : List (Token N)) :
    unlex pr toks = unlexWith pr (fun _ _ => [' ']) toks := by
  induction toks with
  | nil => rfl
  | cons t r ih =>
    cases r with
    | nil => rfl
    | cons t' r' => simp only [unlex, unlexWith, ih, List.cons_append, List.nil_append]

/-- the un-lexed text of valid tokens scans back to them -/
theorem scan_unlex {cc : CharClass} (hcc : cc.AsciiOk) (pr : N → Str) {toks : List (Token N)}
    (hv : ∀ t ∈ toks, LexValid cc pr t) (hne : toks ≠ []) : scan cc (unlex pr toks) = .ok toks := by
  rw [unlex_eq_with]; exact scan_unlexWith hcc pr sepOk_space hv hne

/-- a space only where two tokens may not touch (`needsSep`) -/
def tightSep (t t' : Token N) : Str := if needsSep t t' then [' '] else []

omit [NumOps N] in
theorem sepOk_tight : SepOk (tightSep (N := N)) := by
  refine ⟨?_, ?_, ?_⟩
  · intro t t'; unfold tightSep; split
    · exact isSep_space
    · exact .nil
  · intro t t' h; unfold tightSep at h; split at h
    · cases h
    · rename_i hn; simpa using hn
  · intro t t' _ r h; unfold tightSep at h; split at h <;> cases h

/-- the token texts with no more white space than `needsSep` demands, e.g. `a+f(1,'x')*-b`, `a and not b` -/
def unlexTight (pr : N → Str) (toks : List (Token N)) : Str := unlexWith pr tightSep toks

theorem scan_unlexTight {cc : CharClass} (hcc : cc.AsciiOk) (pr : N → Str) {toks : List (Token N)}
    (hv : ∀ t ∈ toks, LexValid cc pr t) (hne : toks ≠ []) : scan cc (unlexTight pr toks) = .ok toks :=
  scan_unlexWith hcc pr sepOk_tight hv hne

end Slac.Unlex
