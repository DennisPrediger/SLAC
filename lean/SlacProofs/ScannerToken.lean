/-
  SlacProofs.ScannerToken — the texts ("lexemes") of each token, the exact condition under which the following
  character would change how a lexeme is read (`fuse`), and the one-token lemma: at a token boundary,
  `nextToken` on `lexeme ++ rest` returns the token and `rest` whenever `rest` does not fuse; conversely
  `nextToken_cases`: by which arm a token can have been read.
-/
import SlacProofs.ScannerSkip
import SlacProofs.ScannerString
set_option autoImplicit false
namespace Slac
namespace Scanner

/-- the first character of `s`, if any, does not satisfy `p` -/
def HeadNot (p : Char → Bool) (s : Str) : Prop := ∀ c ∈ s.head?, p c = false

theorem HeadNot.nil (p : Char → Bool) : HeadNot p [] := by simp [HeadNot]
theorem HeadNot.cons {p : Char → Bool} {c : Char} {r : Str} (h : p c = false) : HeadNot p (c :: r) := by
  simp [HeadNot, h]
theorem HeadNot.of_cons {p : Char → Bool} {c : Char} {r : Str} (h : HeadNot p (c :: r)) : p c = false :=
  h c (by simp)

theorem span_append {p : Char → Bool} {a b : Str} (ha : ∀ d ∈ a, p d = true) (hb : HeadNot p b) :
    (a ++ b).takeWhile p = a ∧ (a ++ b).dropWhile p = b := by
  rw [List.takeWhile_append_of_pos ha, List.dropWhile_append_of_pos ha]
  cases b with
  | nil => simp
  | cons c r => simp [hb.of_cons]

theorem mem_takeWhile (p : Char → Bool) (l : Str) : ∀ d ∈ l.takeWhile p, p d = true :=
  List.all_eq_true.mp List.all_takeWhile

theorem lookup_mem {β : Type} (k : Str) (l : List (Str × β)) (b : β) (h : l.lookup k = some b) : (k, b) ∈ l := by
  obtain ⟨l₁, l₂, rfl, _⟩ := List.lookup_eq_some_iff.mp h
  simp

/-- the ASCII characters that have a meaning of their own for the scanner -/
def specials : List Char :=
  [' ', '\r', '\t', '\n', '/', '{', '}', '\'', '.', '(', ')', '[', ']', ',', '+', '-', '*', '=', '>', '<']

def isSpecial (c : Char) : Bool := specials.contains c

theorem special_class {cc : CharClass} (hcc : cc.AsciiOk) (c : Char) (h : isSpecial c = true) :
    cc.isAlphabetic c = false ∧ cc.isNumeric c = false ∧ c ≠ '_' := by
  have tbl : ∀ d ∈ specials, d.toNat < 128 ∧ isAsciiLetter d = false ∧ isAsciiDigit d = false ∧ d ≠ '_' := by decide
  obtain ⟨hlt, hl, hd, hu⟩ := tbl c (List.contains_iff_mem.mp h)
  exact ⟨by rw [hcc.alpha c hlt, hl], by rw [hcc.num c hlt, hd], hu⟩

theorem special_identStart {cc : CharClass} (hcc : cc.AsciiOk) (c : Char) (h : isSpecial c = true) :
    isIdentStart cc c = false := by
  have := special_class hcc c h
  simp [isIdentStart, this]

theorem special_identCont {cc : CharClass} (hcc : cc.AsciiOk) (c : Char) (h : isSpecial c = true) :
    isIdentCont cc c = false := by
  have := special_class hcc c h
  simp [isIdentCont, CharClass.isAlphanumeric, this]

theorem special_numeric {cc : CharClass} (hcc : cc.AsciiOk) (c : Char) (h : isSpecial c = true) :
    cc.isNumeric c = false := (special_class hcc c h).2.1

theorem isWs_special (c : Char) (h : isWs c = true) : isSpecial c = true := by
  simp only [isWs, Bool.or_eq_true, beq_iff_eq] at h
  rcases h with ((h | h) | h) | h <;> subst h <;> decide

/-- a character that is not special does not start a separator -/
theorem notSpecial_boundary (c : Char) (h : isSpecial c = false) :
    isWs c = false ∧ c ≠ '{' ∧ c ≠ '/' := by
  refine ⟨?_, ?_, ?_⟩
  · cases hw : isWs c with
    | false => rfl
    | true => rw [isWs_special c hw] at h; cases h
  · intro hc; subst hc; revert h; decide
  · intro hc; subst hc; revert h; decide

theorem identStart_notSpecial {cc : CharClass} (hcc : cc.AsciiOk) (c : Char) (h : isIdentStart cc c = true) :
    isSpecial c = false := by
  cases hs : isSpecial c with
  | false => rfl
  | true => rw [special_identStart hcc c hs] at h; cases h

theorem numeric_notSpecial {cc : CharClass} (hcc : cc.AsciiOk) (c : Char) (h : cc.isNumeric c = true) :
    isSpecial c = false := by
  cases hs : isSpecial c with
  | false => rfl
  | true => rw [special_numeric hcc c hs] at h; cases h

section
variable {N : Type}

/-- the fixed spellings -/
def punct (N : Type) : List (Str × Token N) :=
  [ (['('], .leftParen), ([')'], .rightParen), (['['], .leftBracket), ([']'], .rightBracket), ([','], .comma),
    (['+'], .plus), (['-'], .minus), (['*'], .star), (['/'], .slash), (['='], .equal),
    (['>'], .greater), (['>','='], .greaterEqual), (['<'], .less), (['<','='], .lessEqual), (['<','>'], .notEqual) ]

/-- identifier-shaped text: a start character followed by continue characters -/
def identShape (cc : CharClass) : Str → Bool
  | [] => false
  | c :: tl => isIdentStart cc c && tl.all (isIdentCont cc)

/-- does the number text contain the optional '.' (after its first character)? -/
def numHasDot (cc : CharClass) : Str → Bool
  | [] => false
  | _ :: tl => !(tl.dropWhile cc.isNumeric).isEmpty

/-- number-shaped text as `number()` delimits it: a first character that is numeric (and does not start an
    identifier) or '.', numeric characters, optionally '.' and numeric characters -/
def numShape (cc : CharClass) : Str → Bool
  | [] => false
  | c :: tl =>
    !isIdentStart cc c && (cc.isNumeric c || c == '.') &&
      (match tl.dropWhile cc.isNumeric with
       | [] => true
       | d :: r => d == '.' && r.all cc.isNumeric)

/-- `Lexeme cc t x`: the text `x` is a spelling of the token `t` -/
inductive Lexeme [NumOps N] (cc : CharClass) : Token N → Str → Prop
  | punct {x t} : (x, t) ∈ punct N → Lexeme cc t x
  | word {x t} : identShape cc x = true → kwToken (cc.lowerStr x) = some t → Lexeme cc t x
  | ident {x} : identShape cc x = true → kwToken (N := N) (cc.lowerStr x) = none → Lexeme cc (.identifier x) x
  | num {x v} : numShape cc x = true → NumOps.parse x = some v → Lexeme cc (.literal (.num v)) x
  | str {s} : Lexeme cc (.literal (.str s)) (quote s)

/-- how the text after a lexeme can interfere with it -/
inductive LexClass | word | number | string | less | greater | slash | plain
deriving DecidableEq

def lexClass : Token N → LexClass
  | .identifier _ | .and | .or | .xor | .not | .div | .mod | .literal (.bool _) => .word
  | .literal (.num _) => .number
  | .literal (.str _) => .string
  | .less => .less
  | .greater => .greater
  | .slash => .slash
  | _ => .plain

/-- `fuse cc t x c`: the character `c` directly after the text `x` of token `t` would be read as part of it
    (or, for `/`, turn it into a comment start):
    identifier / keyword / true / false — an identifier character; number — a numeric character, or '.' if the
    number has none yet; string — a quote; `<` — `=` or `>`; `>` — `=`; `/` — `/`; every other token — nothing. -/
def fuse (cc : CharClass) (t : Token N) (x : Str) (c : Char) : Bool :=
  match lexClass t with
  | .word => isIdentCont cc c
  | .number => cc.isNumeric c || (c == '.' && !numHasDot cc x)
  | .string => c == '\''
  | .less => c == '=' || c == '>'
  | .greater => c == '='
  | .slash => c == '/'
  | .plain => false

/-- `rest` does not continue the lexeme `x` of `t` -/
def NoCont (cc : CharClass) (t : Token N) (x : Str) (rest : Str) : Prop := HeadNot (fuse cc t x) rest

theorem kwToken_elim {P : Token N → Prop} {low : Str} {t : Token N} (h : kwToken low = some t)
    (h1 : P (.literal (.bool true))) (h2 : P (.literal (.bool false))) (h3 : P .and) (h4 : P .or) (h5 : P .xor) (h6 : P .not)
    (h7 : P .div) (h8 : P .mod) : P t := by
  have := lookup_mem _ _ _ h
  simp only [keywords, List.mem_cons, Prod.mk.injEq, List.not_mem_nil, or_false] at this
  rcases this with ⟨_, rfl⟩ | ⟨_, rfl⟩ | ⟨_, rfl⟩ | ⟨_, rfl⟩ | ⟨_, rfl⟩ | ⟨_, rfl⟩ | ⟨_, rfl⟩ | ⟨_, rfl⟩ <;> assumption

theorem kwToken_fuse (cc : CharClass) (low x : Str) (t : Token N) (h : kwToken low = some t) :
    fuse cc t x = isIdentCont cc :=
  kwToken_elim (P := fun t => fuse cc t x = isIdentCont cc) h rfl rfl rfl rfl rfl rfl rfl rfl

/-- what the one-token lemma delivers: the text starts at a token boundary and `nextToken` reads `t`, leaving `rest` -/
def ReadsAs [NumOps N] (cc : CharClass) (src : Str) (t : Token N) (rest : Str) : Prop :=
  ∃ c cs, src = c :: cs ∧ skipWs .code (c :: cs) = c :: cs ∧ nextToken cc c cs = .ok (t, rest)

theorem identShape_reads [NumOps N] {cc : CharClass} (hcc : cc.AsciiOk) (x rest : Str)
    (hx : identShape cc x = true) (hr : HeadNot (isIdentCont cc) rest) :
    ReadsAs (N := N) cc (x ++ rest)
      (match kwToken (cc.lowerStr x) with | some t => t | none => .identifier x) rest := by
  cases x with
  | nil => simp [identShape] at hx
  | cons c tl =>
    simp only [identShape, Bool.and_eq_true, List.all_eq_true] at hx
    obtain ⟨hc, htl⟩ := hx
    have hb := notSpecial_boundary c (identStart_notSpecial hcc c hc)
    refine ⟨c, tl ++ rest, rfl, skipWs_noop c _ hb.1 hb.2.1 (fun h => absurd h hb.2.2), ?_⟩
    have hs := span_append htl hr
    simp only [nextToken, hc, if_true, identifier, hs.1, hs.2]
    rfl

theorem numShape_reads [NumOps N] {cc : CharClass} (hcc : cc.AsciiOk) (x rest : Str)
    (hx : numShape cc x = true)
    (hr : HeadNot (fun c => cc.isNumeric c || (c == '.' && !numHasDot cc x)) rest) :
    ∃ c cs, x ++ rest = c :: cs ∧ skipWs .code (c :: cs) = c :: cs ∧
      nextToken (N := N) cc c cs = match NumOps.parse (N := N) x with
        | some v => .ok (.literal (.num v), rest)
        | none => .error .invalidNumber := by
  cases x with
  | nil => simp [numShape] at hx
  | cons c tl =>
    simp only [numShape, Bool.and_eq_true, Bool.not_eq_true', Bool.or_eq_true, beq_iff_eq] at hx
    obtain ⟨⟨hns, hc⟩, htl⟩ := hx
    have hsp : isWs c = false ∧ c ≠ '{' ∧ c ≠ '/' := by
      rcases hc with hc | hc
      · exact notSpecial_boundary c (numeric_notSpecial hcc c hc)
      · subst hc; decide
    refine ⟨c, tl ++ rest, rfl, skipWs_noop c _ hsp.1 hsp.2.1 (fun h => absurd h hsp.2.2), ?_⟩
    have hnum : nextToken (N := N) cc c (tl ++ rest) = number cc c (tl ++ rest) := by
      rcases hc with hc | hc
      · simp only [nextToken, hns, Bool.false_eq_true, if_false, hc, if_true]
      · subst hc
        simp only [nextToken, hns, Bool.false_eq_true, if_false, if_true]
        split <;> simp
    have hdig := mem_takeWhile cc.isNumeric tl
    have hr1 : HeadNot cc.isNumeric rest := fun d hd => (Bool.or_eq_false_iff.mp (hr d hd)).1
    -- the tail is digits, or digits, the dot and digits; either way `numberLex` stops exactly at `rest`
    have hlex : numberLex cc c (tl ++ rest) = (c :: tl, rest) := by
      have hsplit := (List.takeWhile_append_dropWhile (p := cc.isNumeric) (l := tl)).symm
      cases hdw : tl.dropWhile cc.isNumeric with
      | nil =>
        rw [hdw, List.append_nil] at hsplit
        have hs := span_append (a := tl) (by rw [hsplit]; exact hdig) hr1
        simp only [numberLex, hs.1, hs.2]
        split
        · have := hr.of_cons
          simp [numHasDot, hdw] at this
        · rfl
      | cons d r =>
        rw [hdw] at htl hsplit
        simp only [Bool.and_eq_true, beq_iff_eq, List.all_eq_true] at htl
        obtain ⟨rfl, hrr⟩ := htl
        have hs1 := span_append (b := '.' :: (r ++ rest)) hdig
          (HeadNot.cons (special_numeric hcc '.' (by decide)))
        have hs2 := span_append hrr hr1
        rw [hsplit, List.append_assoc, List.cons_append]
        simp only [numberLex, hs1.1, hs1.2, hs2.1, hs2.2]
    simp only [hnum, number, hlex]
    cases NumOps.parse (N := N) (c :: tl) <;> rfl

theorem quote_reads [NumOps N] {cc : CharClass} (hcc : cc.AsciiOk) (s rest : Str)
    (hr : HeadNot (fun c => c == '\'') rest) :
    ReadsAs (N := N) cc (quote s ++ rest) (.literal (.str s)) rest := by
  refine ⟨'\'', quoteBody s ++ '\'' :: rest, by simp [quote], skipWs_noop _ _ (by decide) (by decide) (fun h => absurd h (by decide)), ?_⟩
  have h1 := special_identStart hcc '\'' (by decide)
  have h2 := special_numeric hcc '\'' (by decide)
  simp only [nextToken, h1, h2, Bool.false_eq_true, if_false, if_true]
  apply string_quote
  intro r h; subst h
  have := hr.of_cons; simp at this

theorem punct_reads [NumOps N] {cc : CharClass} (hcc : cc.AsciiOk) (x rest : Str) (t : Token N)
    (hx : (x, t) ∈ punct N) (hr : NoCont cc t x rest) : ReadsAs cc (x ++ rest) t rest := by
  have h1 : ∀ c, isSpecial c = true → ¬ isIdentStart cc c = true := fun c h => by simp [special_identStart hcc c h]
  have h2 : ∀ c, isSpecial c = true → ¬ cc.isNumeric c = true := fun c h => by simp [special_numeric hcc c h]
  have hd : ∀ d r, rest = d :: r → fuse cc t x d = false := fun d r e => (e ▸ hr).of_cons
  simp only [punct, List.mem_cons, Prod.mk.injEq, List.not_mem_nil, or_false] at hx
  rcases hx with ⟨rfl, rfl⟩ | ⟨rfl, rfl⟩ | ⟨rfl, rfl⟩ | ⟨rfl, rfl⟩ | ⟨rfl, rfl⟩ | ⟨rfl, rfl⟩ | ⟨rfl, rfl⟩ |
    ⟨rfl, rfl⟩ | ⟨rfl, rfl⟩ | ⟨rfl, rfl⟩ | ⟨rfl, rfl⟩ | ⟨rfl, rfl⟩ | ⟨rfl, rfl⟩ | ⟨rfl, rfl⟩ | ⟨rfl, rfl⟩
  all_goals
    refine ⟨_, _, rfl, skipWs_noop _ _ (by decide) (by decide) ?_, ?_⟩
  all_goals try rw [nextToken, if_neg (h1 _ (by decide)), if_neg (h2 _ (by decide))]
  -- `>` and `<` look one character ahead; at the boundary only the token `/` could be made a comment of by what follows
  all_goals first
    | rfl
    | exact fun h => absurd h (by decide)
    | (cases rest with
       | nil => rfl
       | cons d r =>
         have := hd d r rfl
         simp only [fuse, lexClass, Bool.or_eq_false_iff, beq_eq_false_iff_ne, ne_eq] at this
         simp [greater, lesser, this])
    | exact fun _ r e => by simpa [fuse, lexClass] using hd _ r e

/-- the one-token lemma: at a token boundary, a lexeme of `t` followed by text that does not continue it is read
    as `t`, leaving exactly that text -/
theorem lexeme_reads [NumOps N] {cc : CharClass} (hcc : cc.AsciiOk) {t : Token N} {x : Str} (rest : Str)
    (hx : Lexeme cc t x) (hr : NoCont cc t x rest) : ReadsAs cc (x ++ rest) t rest := by
  cases hx with
  | punct h => exact punct_reads hcc x rest t h hr
  | word hs hk =>
    have := identShape_reads (N := N) hcc x rest hs (by rw [← kwToken_fuse cc _ x t hk]; exact hr)
    rw [hk] at this; exact this
  | ident hs hk =>
    have := identShape_reads (N := N) hcc x rest hs hr
    rw [hk] at this; exact this
  | num hs hp =>
    obtain ⟨c, cs, h1, h2, h3⟩ := numShape_reads (N := N) hcc x rest hs hr
    rw [hp] at h3
    exact ⟨c, cs, h1, h2, h3⟩
  | str => exact quote_reads hcc _ rest hr

theorem Lexeme.ne_nil [NumOps N] {cc : CharClass} {t : Token N} {x : Str} (hx : Lexeme cc t x) : x ≠ [] := by
  cases hx with
  | punct h => rintro rfl; simp [Scanner.punct] at h
  | word hs _ => intro h; subst h; simp [identShape] at hs
  | ident hs _ => intro h; subst h; simp [identShape] at hs
  | num hs _ => intro h; subst h; simp [numShape] at hs
  | str => simp [quote]

theorem ite_eq_cases {α : Type} {p : Prop} [Decidable p] {a b r : α} (h : (if p then a else b) = r) :
    (p ∧ a = r) ∨ (¬ p ∧ b = r) := by
  by_cases hp : p
  · exact .inl ⟨hp, by rwa [if_pos hp] at h⟩
  · exact .inr ⟨hp, by rwa [if_neg hp] at h⟩

theorem nextToken_cases [NumOps N] {cc : CharClass} {c : Char} {cs : Str} {t : Token N} {rest : Str}
    (h : nextToken cc c cs = .ok (t, rest)) :
    (isIdentStart cc c = true ∧ identifier cc c cs = (t, rest)) ∨
    (isIdentStart cc c = false ∧ (cc.isNumeric c = true ∨ c = '.') ∧ number cc c cs = .ok (t, rest)) ∨
    string cs = .ok (t, rest) ∨
    ((∀ v, t ≠ .literal v) ∧ (∀ n, t ≠ .identifier n) ∧ rest.length ≤ cs.length) := by
  have one : ∀ {t' : Token N} {r : Str}, (Except.ok (t', r) : Except (CErr N) _) = .ok (t, rest) →
      (∀ v, t' ≠ .literal v) → (∀ n, t' ≠ .identifier n) → r.length ≤ cs.length →
      (∀ v, t ≠ .literal v) ∧ (∀ n, t ≠ .identifier n) ∧ rest.length ≤ cs.length := fun e hl hi hr => by cases e; exact ⟨hl, hi, hr⟩
  rw [nextToken] at h
  rcases ite_eq_cases h with ⟨h1, h⟩ | ⟨h1, h⟩
  · exact .inl ⟨h1, by cases h; rfl⟩
  have h1 : isIdentStart cc c = false := by simpa using h1
  rcases ite_eq_cases h with ⟨h2, h⟩ | ⟨-, h⟩
  · exact .inr (.inl ⟨h1, .inl h2, h⟩)
  rcases ite_eq_cases h with ⟨-, h⟩ | ⟨-, h⟩
  · exact .inr (.inr (.inl h))
  rcases ite_eq_cases h with ⟨h4, h⟩ | ⟨-, h⟩
  · exact .inr (.inl ⟨h1, .inr h4, h⟩)
  refine .inr (.inr (.inr ?_))
  iterate 10
    rcases ite_eq_cases h with ⟨-, h⟩ | ⟨-, h⟩
    · exact one h nofun nofun (Nat.le_refl _)
  rcases ite_eq_cases h with ⟨-, h⟩ | ⟨-, h⟩
  · unfold greater at h
    split at h
    · split at h <;> exact one h nofun nofun (by simp)
    · exact one h nofun nofun (Nat.le_refl _)
  rcases ite_eq_cases h with ⟨-, h⟩ | ⟨-, h⟩
  · unfold lesser at h
    split at h
    · split at h
      · exact one h nofun nofun (by simp)
      · split at h <;> exact one h nofun nofun (by simp)
    · exact one h nofun nofun (Nat.le_refl _)
  · cases h

/-- every token consumes at least its first character -/
theorem nextToken_length [NumOps N] (cc : CharClass) (c : Char) (cs : Str) (t : Token N) (rest : Str)
    (h : nextToken cc c cs = .ok (t, rest)) : rest.length ≤ cs.length := by
  have hdw : ∀ (p : Char → Bool) (l : Str), (l.dropWhile p).length ≤ l.length := fun p l =>
    List.Sublist.length_le (List.dropWhile_sublist p)
  rcases nextToken_cases h with ⟨_, hi⟩ | ⟨_, _, hn⟩ | hs | ⟨_, _, hp⟩
  · cases hi; exact hdw _ _
  · simp only [number] at hn
    split at hn
    · cases hn
      simp only [numberLex]
      split
      · rename_i r' hr'
        have h1 := hdw cc.isNumeric cs
        have h2 := hdw cc.isNumeric r'
        rw [hr'] at h1; simp only [List.length_cons] at h1
        simp only; omega
      · exact hdw _ _
    · cases hn
  · simp only [string] at hs
    split at hs
    · cases hs
    · rename_i raw f r hr
      cases hs
      exact Nat.le_of_lt (strRaw_length cs _ hr)
  · exact hp

end
end Scanner
end Slac
