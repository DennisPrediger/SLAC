/-
  SlacProofs.F64SemOps — what C03Float says about `=` and `div` on doubles, from the definitions in SlacModel.Num:
  * `beq_ieee`: `F64.beq` is IEEE `==` — false if either side is NaN, true on two zeros of any sign, otherwise
    equality of the bit patterns;  `beq_nan`, `beq_zeros`, `beq_iff_eq` are its three cases;
  * `div_by_zero`, `zero_div_zero`, `nan_div`: x / ±0 = ±inf (sign = xor of the signs) for x ≠ 0, NaN;
    0 / 0 = NaN;  NaN / y = NaN;  `signBit_div`: the sign of every non-NaN quotient is the xor of the operand signs
    (`signU`: the sign an unpacked value carries);  `trunc` leaves ±inf and NaN as they are.
-/
import SlacProofs.F64Sem
import SlacProofs.F64Sci
set_option autoImplicit false
namespace Slac
namespace F64
open Float.Model Float.Model.UnpackedFloat

theorem keyN_eq_iff (a b : Nat) (ha : a < 2^64) (hb : b < 2^64) :
    keyN a = keyN b ↔ (magN a = 0 ∧ magN b = 0) ∨ a = b := by
  rw [keyN_def, keyN_def, skey_eq_iff]
  refine or_congr Iff.rfl ⟨fun ⟨h1, h2⟩ => ?_, fun h => by rw [h]; exact ⟨rfl, rfl⟩⟩
  rw [bits_split a ha, bits_split b hb, h1, h2]

/-- `F64.beq` is IEEE `==`: NaN is unequal to everything, the two zeros are equal, otherwise the patterns decide -/
theorem beq_ieee (a b : Float) :
    beq a b = if isNaN a || isNaN b then false
              else if isZero a && isZero b then true else decide (bits a = bits b) := by
  have hk : decide (keyN (bits a) = keyN (bits b)) = ((isZero a && isZero b) || decide (bits a = bits b)) := by
    rw [Bool.eq_iff_iff]
    simp only [isZero, Bool.or_eq_true, Bool.and_eq_true, decide_eq_true_eq]
    exact keyN_eq_iff _ _ (bits_lt a) (bits_lt b)
  unfold beq beqN isNaN; rw [hk]
  cases isNaNN (bits a) <;> cases isNaNN (bits b) <;> cases (isZero a && isZero b) <;> rfl

theorem beq_nan (a b : Float) (h : isNaN a = true ∨ isNaN b = true) : beq a b = false := by
  rw [beq_ieee]; rcases h with h | h <;> simp [h]

theorem zero_not_nan (x : Float) (h : isZero x = true) : isNaN x = false := by
  unfold isZero at h; unfold isNaN isNaNN; rw [decide_eq_true_eq] at h; rw [decide_eq_false_iff_not]; omega

theorem beq_zeros (a b : Float) (ha : isZero a = true) (hb : isZero b = true) : beq a b = true := by
  rw [beq_ieee, zero_not_nan a ha, zero_not_nan b hb, ha, hb]; rfl

/-- away from NaN and the zeros, `==` is equality of doubles -/
theorem beq_iff_eq (a b : Float) (hna : isNaN a = false) (hnb : isNaN b = false)
    (hz : isZero a = false ∨ isZero b = false) : beq a b = true ↔ a = b := by
  rw [beq_ieee, hna, hnb]
  have : (isZero a && isZero b) = false := by rcases hz with h | h <;> simp [h]
  rw [this]
  simp only [Bool.or_self, Bool.false_eq_true, if_false, decide_eq_true_eq]
  exact ⟨eq_of_bits_eq, fun h => by rw [h]⟩

theorem beq_self (a : Float) : beq a a = !isNaN a := by
  rw [beq_ieee]; cases isNaN a <;> cases isZero a <;> simp

theorem signN_eq (x : Float) : signN (bits x) = signOf (signBit x) := by
  have hb := bits_lt x
  rw [signBit_eq]; unfold signN signOf
  by_cases h : bits x / 2^63 = 1
  · rw [if_pos (by omega), decide_eq_true h]; rfl
  · rw [if_neg (by omega), decide_eq_false h]; rfl

theorem unpack_of_isZero (x : Float) (h : isZero x = true) : x.toModel.unpack = .zero (signOf (signBit x)) := by
  have hb := bits_lt x
  unfold isZero magN at h; rw [decide_eq_true_eq] at h
  rw [unpack_bits, unpackN_zero _ (by omega) (by omega), signN_eq]

theorem unpack_of_isNaN (x : Float) (h : isNaN x = true) : x.toModel.unpack = .notANumber := by
  have hb := bits_lt x
  unfold isNaN isNaNN magN at h; rw [decide_eq_true_eq] at h
  rw [unpack_bits, unpackN_nan _ (by omega) (by omega)]

/-- a double that is neither NaN nor zero unpacks to an infinity or a finite value with its sign -/
theorem unpack_of_nonzero (x : Float) (hn : isNaN x = false) (hz : isZero x = false) :
    x.toModel.unpack = .infinity (signOf (signBit x)) ∨
    ∃ m e hm, x.toModel.unpack = .finite (signOf (signBit x)) m e hm := by
  have hb := bits_lt x
  unfold isNaN isNaNN magN at hn; rw [decide_eq_false_iff_not] at hn
  unfold isZero magN at hz; rw [decide_eq_false_iff_not] at hz
  rw [unpack_bits, ← signN_eq]
  by_cases hE : bits x / 2^52 % 2^11 = 2047
  · left; rw [unpackN_inf _ hE (by omega)]
  · right
    by_cases hE0 : bits x / 2^52 % 2^11 = 0
    · exact ⟨_, _, _, unpackN_subnormal _ hE0 (by omega)⟩
    · exact ⟨_, _, _, unpackN_normal _ hE hE0⟩

theorem sign_div_signOf (a b : Bool) : signOf a / signOf b = signOf (a != b) := by cases a <;> cases b <;> rfl

/-- x / ±0 for x ≠ 0, x not NaN (finite or infinite): the infinity whose sign is the xor of the two signs -/
theorem div_by_zero (a b : Float) (hn : isNaN a = false) (hz : isZero a = false) (hb : isZero b = true) :
    a / b = ofParts (signBit a != signBit b) 0x7FF0000000000000 := by
  have hq : UnpackedFloat.div B64 a.toModel.unpack (.zero (signOf (signBit b))) =
      .infinity (signOf (signBit a) / signOf (signBit b)) := by
    rcases unpack_of_nonzero a hn hz with h | ⟨m, e, hm, h⟩ <;> rw [h] <;> rfl
  apply eq_of_bits_eq
  rw [float_div_def, unpack_of_isZero b hb, hq, sign_div_signOf, bits_ofModel_pack, bits_ofParts _ _ (by decide)]
  show sbit (signOf (signBit a != signBit b)) * 2^63 + 0x7FF0000000000000 = _
  rw [sbit_signOf]
  cases (signBit a != signBit b) <;> simp

theorem nan_eq : nan = Float.ofModel (Float.Model.pack .notANumber) := by
  apply eq_of_bits_eq; rw [bits_ofModel_pack]; decide +kernel

theorem zero_div_zero (a b : Float) (ha : isZero a = true) (hb : isZero b = true) : a / b = nan := by
  rw [float_div_def, unpack_of_isZero a ha, unpack_of_isZero b hb, nan_eq]; rfl

theorem nan_div (a b : Float) (h : isNaN a = true ∨ isNaN b = true) : a / b = nan := by
  rw [float_div_def, nan_eq]
  rcases h with h | h
  · rw [unpack_of_isNaN a h]; rfl
  · rw [unpack_of_isNaN b h]
    cases a.toModel.unpack <;> rfl

/-- `trunc` does not touch ±inf and NaN (and everything ≥ 2^52) -/
theorem trunc_of_big (x : Float) (h : 0x4330000000000000 ≤ magN (bits x)) : trunc x = x := by
  have hb := bits_lt x
  unfold trunc; simp only []; rw [if_pos (by rw [expBits_eq]; unfold magN at h; omega)]

theorem nan_facts : isNaN nan = true ∧ bits nan = 0x7FF8000000000000 ∧ trunc nan = nan := by decide +kernel

theorem bits_inf_of (neg : Bool) : bits (ofParts neg 0x7FF0000000000000) = 0x7FF0000000000000 + (if neg then 2^63 else 0) :=
  bits_ofParts neg _ (by decide)

theorem isInf_ofParts (neg : Bool) : isInf (ofParts neg 0x7FF0000000000000) = true ∧
    signBit (ofParts neg 0x7FF0000000000000) = neg ∧
    trunc (ofParts neg 0x7FF0000000000000) = ofParts neg 0x7FF0000000000000 := by
  cases neg <;> decide +kernel

/-- the sign an unpacked value carries (none: NaN) -/
def signU : UnpackedFloat → Option Sign
  | .notANumber => none
  | .infinity s => some s
  | .zero s => some s
  | .finite s _ _ _ => some s

theorem signBit_pack (f : UnpackedFloat) (s : Sign) (h : signU f = some s) :
    signBit (Float.ofModel (Float.Model.pack f)) = decide (sbit s = 1) := by
  have hs := sbit_le s
  have hp : packN f / 2^63 = sbit s := by
    cases f with
    | notANumber => cases h
    | infinity s' => cases h; simp only [packN]; omega
    | zero s' => cases h; simp only [packN]; omega
    | finite s' m e hm =>
      cases h; simp only [packN]
      have := Nat.mod_lt m (show 0 < 2^52 by decide)
      split
      · omega
      · split <;> omega
  rw [signBit_eq, bits_ofModel_pack, hp]

theorem signU_unpack (x : Float) (hn : isNaN x = false) : signU x.toModel.unpack = some (signOf (signBit x)) := by
  cases hz : isZero x
  · rcases unpack_of_nonzero x hn hz with h | ⟨m, e, hm, h⟩ <;> rw [h] <;> rfl
  · rw [unpack_of_isZero x hz]; rfl

theorem signU_rwa (s : Sign) (m : Nat) (e : Int) (acc : Accuracy) : signU (roundWithAccuracy B64 s m e acc) = some s := by
  unfold roundWithAccuracy; simp only []; split <;> rfl

theorem signU_div (x y : UnpackedFloat) :
    signU (UnpackedFloat.div B64 x y) = none ∨
    ∃ sx sy, signU x = some sx ∧ signU y = some sy ∧ signU (UnpackedFloat.div B64 x y) = some (sx / sy) := by
  cases x <;> cases y <;>
    first | exact Or.inl rfl | exact Or.inr ⟨_, _, rfl, rfl, rfl⟩ | exact Or.inr ⟨_, _, rfl, rfl, signU_rwa _ _ _ _⟩

/-- IEEE sign rule: a quotient that is not NaN has the xor of the operand signs as its sign bit
    (finite, zero and infinite results alike) -/
theorem signBit_div (a b : Float) (ha : isNaN a = false) (hb : isNaN b = false) (hq : isNaN (a / b) = false) :
    signBit (a / b) = (signBit a != signBit b) := by
  rw [float_div_def] at hq ⊢
  rcases signU_div a.toModel.unpack b.toModel.unpack with h | ⟨sx, sy, hx, hy, h⟩
  · generalize UnpackedFloat.div B64 a.toModel.unpack b.toModel.unpack = f at h hq
    cases f with
    | notANumber => rw [← nan_eq, nan_facts.1] at hq; cases hq
    | _ => cases h
  · rw [signU_unpack a ha] at hx; rw [signU_unpack b hb] at hy
    cases hx; cases hy
    rw [signBit_pack _ _ h, sign_div_signOf, sbit_signOf]
    cases (signBit a != signBit b) <;> rfl

end F64
end Slac
