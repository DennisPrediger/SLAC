/-
  SlacProofs.F64Parse — the text layer of `F64.parse (F64.display x) = some x` (C17 `float(str(x)) = x`).
  (a) the digit reader: `parse` on an optional sign, digits D, optionally `.` and digits F, and a suffix X that is
      empty or an exponent, returns `sciOf` of the digits and the decimal exponent read off the text
      (`parseNum_frac_x`, `parseNum_int_x`, `finish_eq`).  The exponent clamps of `parse` are never reached when the
      text has no exponent part, whatever its length.  Used for `display`'s texts here, for decimal literals
      (F64SemParse) and for the JSON number layouts (JsonTextNum).
  (b) whatever digits c and decimal exponent p the printer emits (`body c p`: integer part, optional fraction,
      optional leading "0.", sign), the parser reads the same (c, p) back (`parse_body`); the special texts
      "NaN", "inf", "-inf", "0", "-0" are handled by evaluation.
  (c) so `parse (display x)` is x itself for NaN, ±inf, ±0 (`parse_display_special`) and otherwise the printed
      candidate `displayCand x` read back, with the sign (`parse_display_cand`).  That this is x — `DisplaySearchOk x`:
      the candidate the shortest-digits search settles on reads back as |x| — is the number-theoretic half, proved
      in SlacProofs.F64Search (`displaySearchOk`, `parse_display`).
-/
import SlacProofs.F64Frac
import SlacModel.Display
set_option autoImplicit false
namespace Slac
namespace F64
open Float.Model Float.Model.UnpackedFloat

/-- the exponent reader of `parse` -/
def expoOf (r2 : Str) : Option Int :=
  match r2 with
  | [] => some 0
  | c :: r =>
    if c == 'e' || c == 'E' then
      let (eneg, r) := match r with
        | '-' :: r' => (true, r')
        | '+' :: r' => (false, r')
        | r' => (false, r')
      if r.isEmpty || !r.all isDig then none
      else
        let v : Nat := digitsVal r
        some (if eneg then -(v : Int) else v)
    else none

/-- the conversion at the end of `parse`, with its two exponent clamps -/
def finish (neg : Bool) (ip fp : Str) (ex : Int) : Float :=
  let sgn (x : Float) : Float := if neg then -x else x
  let m : Nat := digitsVal (ip ++ fp)
  let e10 : Int := ex - fp.length
  let e10 := if e10 > 400 ∧ m ≠ 0 then 400 + (0 : Int) else e10
  let nd : Nat := ip.length + fp.length
  let e10 := if e10 < -1200 - (nd : Int) then -1200 - (nd : Int) else e10
  sgn (if e10 ≥ 0 then Float.ofScientific m false e10.toNat else Float.ofScientific m true (-e10).toNat)

/-- what `parse` does after the sign and the special words: digits, optional fraction, optional exponent -/
def parseNum (neg : Bool) (cs : Str) : Option Float :=
  let ip := cs.takeWhile isDig
  let r1 := cs.dropWhile isDig
  let (fp, r2) := match r1 with
    | '.' :: r => (r.takeWhile isDig, r.dropWhile isDig)
    | r => ([], r)
  if ip.isEmpty && fp.isEmpty then none else
  match expoOf r2 with
  | none => none
  | some ex => some (finish neg ip fp ex)

/-- x with the sign `parse` read in front of the digits (the `sgn` of `finish`) -/
def sgnB (neg : Bool) (x : Float) : Float := if neg then -x else x

/-- the conversion of digits c at the decimal exponent p: what a round of `display`'s search tries, and what `parse`
    ends with (`finish_eq`) -/
def sciOf (c : Nat) (p : Int) : Float :=
  if p ≥ 0 then Float.ofScientific c false p.toNat else Float.ofScientific c true (-p).toNat

theorem char_le_iff (a b : Char) : a ≤ b ↔ a.toNat ≤ b.toNat := by
  rw [Char.le_def, UInt32.le_iff_toNat_le]; rfl

theorem isDig_iff (c : Char) : isDig c = true ↔ 48 ≤ c.toNat ∧ c.toNat ≤ 57 := by
  unfold isDig
  rw [Bool.and_eq_true, decide_eq_true_eq, decide_eq_true_eq, char_le_iff, char_le_iff]
  rfl

theorem lowerAscii_of_not_upper (c : Char) (h : ¬ (65 ≤ c.toNat ∧ c.toNat ≤ 90)) : lowerAscii c = c := by
  unfold lowerAscii
  rw [if_neg]
  rw [Bool.and_eq_true, decide_eq_true_eq, decide_eq_true_eq, char_le_iff, char_le_iff]
  exact h

theorem char_ne_of_toNat_ne (a b : Char) (h : a.toNat ≠ b.toNat) : a ≠ b := fun e => h (by rw [e])

/-- a text starting below 'A' (a digit, a dot) is none of the words -/
theorem words_false (c : Char) (t : Str) (hc : c.toNat < 65) :
    (List.map lowerAscii (c :: t) == ['i', 'n', 'f'] ||
      List.map lowerAscii (c :: t) == ['i', 'n', 'f', 'i', 'n', 'i', 't', 'y']) = false ∧
    (List.map lowerAscii (c :: t) == ['n', 'a', 'n']) = false := by
  have h1 : lowerAscii c = c := lowerAscii_of_not_upper c (by omega)
  have hi : (c == 'i') = false := by
    rw [beq_eq_false_iff_ne]; exact char_ne_of_toNat_ne _ _ (by show c.toNat ≠ 105; omega)
  have hn : (c == 'n') = false := by
    rw [beq_eq_false_iff_ne]; exact char_ne_of_toNat_ne _ _ (by show c.toNat ≠ 110; omega)
  simp only [List.map_cons, h1, List.cons_beq_cons, hi, hn, Bool.false_and, Bool.or_self, and_self]

theorem parse_neg (c : Char) (t : Str) (hc : c.toNat < 65) : parse ('-' :: c :: t) = parseNum true (c :: t) := by
  unfold parse parseNum
  simp only []
  rw [(words_false c t hc).1, (words_false c t hc).2]
  simp only [Bool.false_eq_true, if_false, if_true]
  rfl

theorem parse_unsigned (c : Char) (t : Str) (hc : c.toNat < 65) (hm : c ≠ '-') (hp : c ≠ '+') :
    parse (c :: t) = parseNum false (c :: t) := by
  have hs : parse.match_1 (fun _ => Bool × Str) (c :: t) (fun r => (true, r)) (fun r => (false, r))
      (fun r => (false, r)) = (false, c :: t) := by
    split
    · rename_i h; injection h with h _; exact absurd h hm
    · rename_i h; injection h with h _; exact absurd h hp
    · rfl
  unfold parse parseNum
  rw [hs]
  simp only []
  rw [(words_false c t hc).1, (words_false c t hc).2]
  simp only [Bool.false_eq_true, if_false]
  rfl

theorem parse_pos_digit (d : Char) (t : Str) (hd : isDig d = true) : parse (d :: t) = parseNum false (d :: t) := by
  have hd' := (isDig_iff d).1 hd
  exact parse_unsigned d t (by omega) (char_ne_of_toNat_ne _ _ (by show d.toNat ≠ 45; omega))
    (char_ne_of_toNat_ne _ _ (by show d.toNat ≠ 43; omega))

theorem parse_signed_app (neg : Bool) (D R : Str) (hDne : D ≠ []) (hD : ∀ c ∈ D, isDig c = true) :
    parse ((if neg then ['-'] else []) ++ (D ++ R)) = parseNum neg (D ++ R) := by
  cases D with
  | nil => exact absurd rfl hDne
  | cons d t =>
    have hd := hD d (by simp)
    cases neg
    · exact parse_pos_digit d _ hd
    · exact parse_neg d _ (by have := (isDig_iff d).1 hd; omega)

theorem isDig_dot : isDig '.' = false := by decide

def NoDigHead (X : Str) : Prop := ∀ c t, X = c :: t → isDig c = false

theorem noDigHead_nil : NoDigHead [] := by intro c t h; cases h

theorem noDigHead_cons (c : Char) (t : Str) (h : isDig c = false) : NoDigHead (c :: t) := by
  intro c' t' e; injection e with e1 _; rw [← e1]; exact h

theorem span_digits (D X : Str) (hD : ∀ c ∈ D, isDig c = true) (hX : NoDigHead X) :
    (D ++ X).takeWhile isDig = D ∧ (D ++ X).dropWhile isDig = X := by
  rw [List.takeWhile_append_of_pos hD, List.dropWhile_append_of_pos hD]
  cases X with
  | nil => simp
  | cons c t =>
    have := hX c t rfl
    rw [List.takeWhile_cons_of_neg (by simp [this]), List.dropWhile_cons_of_neg (by simp [this])]
    simp

theorem parseNum_frac_x (neg : Bool) (D F X : Str) (ex : Int) (hne : D ≠ [] ∨ F ≠ []) (hD : ∀ c ∈ D, isDig c = true)
    (hF : ∀ c ∈ F, isDig c = true) (hX : NoDigHead X) (hex : expoOf X = some ex) :
    parseNum neg (D ++ '.' :: (F ++ X)) = some (finish neg D F ex) := by
  obtain ⟨h1, h2⟩ := span_digits D ('.' :: (F ++ X)) hD (noDigHead_cons _ _ isDig_dot)
  obtain ⟨h3, h4⟩ := span_digits F X hF hX
  have h5 : (D.isEmpty && F.isEmpty) = false := by
    rcases hne with h | h
    · cases D <;> simp_all
    · cases F <;> simp_all
  unfold parseNum
  simp only [h1, h2, h3, h4, h5, Bool.false_eq_true, if_false, hex]

theorem parseNum_int_x (neg : Bool) (D X : Str) (ex : Int) (hDne : D ≠ []) (hD : ∀ c ∈ D, isDig c = true)
    (hX : NoDigHead X) (hdot : ∀ t, X ≠ '.' :: t) (hex : expoOf X = some ex) :
    parseNum neg (D ++ X) = some (finish neg D [] ex) := by
  obtain ⟨h1, h2⟩ := span_digits D X hD hX
  have h5 : D.isEmpty = false := by cases D <;> simp_all
  unfold parseNum
  simp only [h1, h2, h5, Bool.false_and, Bool.false_eq_true, if_false, hex]

theorem finish_eq (neg : Bool) (ip fp : Str) (ex : Int) (h1 : ex - (fp.length : Int) ≤ 400)
    (h2 : -1200 - ((ip.length + fp.length : Nat) : Int) ≤ ex - (fp.length : Int)) :
    finish neg ip fp ex = sgnB neg (sciOf (digitsVal (ip ++ fp)) (ex - (fp.length : Int))) := by
  unfold finish sgnB sciOf
  simp only []
  have c1 : ¬ (ex - (fp.length : Int) > 400 ∧ digitsVal (ip ++ fp) ≠ 0) := by omega
  have c2 : ¬ (ex - (fp.length : Int) < -1200 - ((ip.length + fp.length : Nat) : Int)) := by omega
  simp only [c1, c2, if_false]

theorem expoOf_nil : expoOf [] = some 0 := rfl

theorem parse_frac_x (neg : Bool) (D F X : Str) (ex : Int) (hDne : D ≠ []) (hD : ∀ c ∈ D, isDig c = true)
    (hF : ∀ c ∈ F, isDig c = true) (hX : NoDigHead X) (hex : expoOf X = some ex)
    (h1 : ex - (F.length : Int) ≤ 400) (h2 : -1200 - ((D.length + F.length : Nat) : Int) ≤ ex - (F.length : Int)) :
    parse ((if neg then ['-'] else []) ++ (D ++ '.' :: (F ++ X))) =
      some (sgnB neg (sciOf (digitsVal (D ++ F)) (ex - (F.length : Int)))) := by
  rw [parse_signed_app neg D _ hDne hD, parseNum_frac_x neg D F X ex (Or.inl hDne) hD hF hX hex, finish_eq _ _ _ _ h1 h2]

theorem parse_int_x (neg : Bool) (D X : Str) (ex : Int) (hDne : D ≠ []) (hD : ∀ c ∈ D, isDig c = true)
    (hX : NoDigHead X) (hdot : ∀ t, X ≠ '.' :: t) (hex : expoOf X = some ex)
    (h1 : ex ≤ 400) (h2 : -1200 - (D.length : Int) ≤ ex) :
    parse ((if neg then ['-'] else []) ++ (D ++ X)) = some (sgnB neg (sciOf (digitsVal D) ex)) := by
  have hl : ex - ((([] : Str).length : Nat) : Int) = ex := by rw [List.length_nil]; omega
  rw [parse_signed_app neg D _ hDne hD, parseNum_int_x neg D X ex hDne hD hX hdot hex,
    finish_eq _ _ _ _ (by rw [hl]; exact h1) (by rw [hl, List.length_nil]; omega), hl, List.append_nil]

theorem digitsVal_eq (l : Str) : digitsVal l = Nat.ofDigitChars 10 l 0 := by
  unfold digitsVal Nat.ofDigitChars
  generalize 0 = init
  induction l generalizing init with
  | nil => rfl
  | cons a as ih =>
    simp only [List.foldl_cons]
    rw [ih]
    congr 1
    show init * 10 + (a.toNat - 48) = 10 * init + (a.toNat - 48)
    omega

theorem isDig_of_isDigit (c : Char) (h : c.isDigit = true) : isDig c = true := by
  rw [isDig_iff]
  unfold Char.isDigit at h
  rw [Bool.and_eq_true, decide_eq_true_eq, decide_eq_true_eq] at h
  exact ⟨UInt32.le_iff_toNat_le.1 h.1, UInt32.le_iff_toNat_le.1 h.2⟩

theorem toDigits_isDig (c : Nat) : ∀ d ∈ Nat.toDigits 10 c, isDig d = true :=
  fun _ hd => isDig_of_isDigit _ (Nat.isDigit_of_mem_toDigits (by decide) (by decide) hd)

theorem digitsVal_toDigits (c : Nat) : digitsVal (Nat.toDigits 10 c) = c := by
  rw [digitsVal_eq]; exact Nat.ofDigitChars_ten_toDigits

theorem digitsVal_append_zeros (ds : Str) (k : Nat) :
    digitsVal (ds ++ List.replicate k '0') = digitsVal ds * 10^k := by
  rw [digitsVal_eq, digitsVal_eq, Nat.ofDigitChars_append, Nat.ofDigitChars_replicate_zero, Nat.mul_comm]

theorem digitsVal_zeros_append (ds : Str) (k : Nat) :
    digitsVal (List.replicate k '0' ++ ds) = digitsVal ds := by
  rw [digitsVal_eq, digitsVal_eq, Nat.ofDigitChars_append, Nat.ofDigitChars_replicate_zero]
  simp

theorem isDig_zero : isDig '0' = true := by decide

theorem replicate_isDig (k : Nat) : ∀ d ∈ List.replicate k '0', isDig d = true := by
  intro d hd; rw [List.mem_replicate] at hd; rw [hd.2]; exact isDig_zero

theorem append_isDig {A B : Str} (hA : ∀ c ∈ A, isDig c = true) (hB : ∀ c ∈ B, isDig c = true) :
    ∀ c ∈ A ++ B, isDig c = true := by
  intro c hc; rcases List.mem_append.1 hc with h | h
  · exact hA c h
  · exact hB c h

/-- the text `display` builds from the decimal candidate c·10^p (without the sign) -/
def body (c : Nat) (p : Int) : Str :=
  let ds := Nat.toDigits 10 c
  if p ≥ 0 then ds ++ List.replicate p.toNat '0'
  else
    let q := (-p).toNat
    if ds.length ≤ q then '0' :: '.' :: (List.replicate (q - ds.length) '0' ++ ds)
    else ds.take (ds.length - q) ++ '.' :: ds.drop (ds.length - q)

/-- the number `parse` computes from `body c p`: for p ≥ 0 the zeros belong to the digits (the same double as
    `sciOf c p`: `readBack_eq_sciOf` in SlacProofs.F64Search) -/
def readBack (c : Nat) (p : Int) : Float :=
  if p ≥ 0 then Float.ofScientific (c * 10^p.toNat) false 0 else Float.ofScientific c true (-p).toNat

theorem parse_frac_shape (neg : Bool) (D F : Str) (hne : D ≠ []) (hD : ∀ c ∈ D, isDig c = true)
    (hF : ∀ c ∈ F, isDig c = true) :
    parse ((if neg then ['-'] else []) ++ (D ++ '.' :: F)) =
      some (sgnB neg (sciOf (digitsVal (D ++ F)) (-(F.length : Int)))) := by
  have := parse_frac_x neg D F [] 0 hne hD hF noDigHead_nil expoOf_nil (by omega) (by omega)
  rwa [List.append_nil, Int.zero_sub] at this

theorem parse_int_shape (neg : Bool) (D : Str) (hne : D ≠ []) (hD : ∀ c ∈ D, isDig c = true) :
    parse ((if neg then ['-'] else []) ++ D) = some (sgnB neg (Float.ofScientific (digitsVal D) false 0)) := by
  have := parse_int_x neg D [] 0 hne hD noDigHead_nil (fun t h => by cases h) expoOf_nil (by omega) (by omega)
  rwa [List.append_nil] at this

/-- structural half of the round trip: whatever candidate (c, p) the printer emits, the parser reads the
    same digits and decimal exponent back -/
theorem parse_body (neg : Bool) (c : Nat) (p : Int) :
    parse ((if neg then ['-'] else []) ++ body c p) = some (sgnB neg (readBack c p)) := by
  have hds := toDigits_isDig c
  have hne : Nat.toDigits 10 c ≠ [] := Nat.toDigits_ne_nil
  have hval := digitsVal_toDigits c
  unfold body readBack
  simp only []
  generalize Nat.toDigits 10 c = ds at *
  by_cases h0 : p ≥ 0
  · rw [if_pos h0, if_pos h0, parse_int_shape neg _ (by simp [hne]) (append_isDig hds (replicate_isDig _)),
      digitsVal_append_zeros, hval]
  · rw [if_neg h0, if_neg h0]
    generalize hq : (-p).toNat = q
    have hsci : ∀ n : Nat, n = q → sciOf c (-(n : Int)) = Float.ofScientific c true q := by
      intro n hn; unfold sciOf; rw [if_neg (by omega), hn]; congr 1; omega
    by_cases hl : ds.length ≤ q
    · rw [if_pos hl]
      have := parse_frac_shape neg ['0'] (List.replicate (q - ds.length) '0' ++ ds) (by simp)
        (by intro d hd; simp at hd; rw [hd]; exact isDig_zero) (append_isDig (replicate_isDig _) hds)
      have e1 : ['0'] ++ (List.replicate (q - ds.length) '0' ++ ds) = List.replicate (q - ds.length + 1) '0' ++ ds := by
        rw [List.replicate_succ]; rfl
      rw [show '0' :: '.' :: (List.replicate (q - ds.length) '0' ++ ds) =
        ['0'] ++ '.' :: (List.replicate (q - ds.length) '0' ++ ds) from rfl, this, e1, digitsVal_zeros_append, hval,
        hsci _ (by simp; omega)]
    · rw [if_neg hl]
      have := parse_frac_shape neg (ds.take (ds.length - q)) (ds.drop (ds.length - q))
        (by intro h; have := congrArg List.length h; simp at this; omega)
        (fun d hd => hds d (List.mem_of_mem_take hd)) (fun d hd => hds d (List.mem_of_mem_drop hd))
      rw [this, List.take_append_drop, hval, hsci _ (by simp; omega)]

/-- the decimal candidate (c, p) — digits c, exponent p, value c·10^p — that `display` settles on for a finite
    non-zero x (search for the shortest digit string that reads back, then drop trailing zeros) -/
def displayCand (x : Float) : Nat × Int :=
  let neg := signBit x
  let ax := if neg then -x else x
  let (m, e) := decode ax
  let num : Nat := if e ≥ 0 then m <<< e.toNat else m
  let den : Nat := if e ≥ 0 then 1 else 1 <<< (-e).toNat
  let k0 : Int := (decLen num : Int) - (decLen den : Int)
  let k : Int :=
    let pow (i : Int) : Nat × Nat := if i ≥ 0 then (10 ^ i.toNat, 1) else (1, 10 ^ (-i).toNat)
    let ge (i : Int) : Bool := let (pn, pd) := pow i; ratCmp num den pn pd != .lt
    if ge (k0 + 1) then k0 + 2 else if ge k0 then k0 + 1 else if ge (k0 - 1) then k0 else k0 - 1
  let (c, p) := displaySearch ax num den k 1 18
  stripZeros c p 20

theorem display_finite (x : Float) (h1 : isNaN x = false) (h2 : isInf x = false) (h3 : isZero x = false) :
    display x = (if signBit x then ['-'] else []) ++ body (displayCand x).1 (displayCand x).2 := by
  unfold display
  rw [if_neg (by rw [h1]; decide), if_neg (by rw [h2]; decide), if_neg (by rw [h3]; decide)]
  unfold displayCand body
  cases signBit x <;> rfl

/-- the magnitude of x, as the printers form it -/
def absF (x : Float) : Float := if signBit x then -x else x

theorem absF_mkF (s : Sign) (m : Nat) (e : Int) (h : Canon m e) : absF (mkF s m e h.pos) = mkF .positive m e h.pos := by
  unfold absF
  rw [signBit_mkF s m e h]
  cases s
  · rw [if_pos (by decide), neg_mkF _ _ _ h]; rfl
  · rw [if_neg (by decide)]

theorem sgnB_absF (x : Float) (hf : isFinite x = true) (hz : isZero x = false) : sgnB (signBit x) (absF x) = x := by
  obtain ⟨s, m, e, h, rfl⟩ := exists_mkF x hf hz
  rw [absF_mkF s m e h, signBit_mkF s m e h]
  unfold sgnB
  cases s
  · rw [if_pos (by decide), neg_mkF _ _ _ h]; rfl
  · rw [if_neg (by decide)]

/-- the number-theoretic half of the round trip for a finite non-zero x: the candidate the search settles on reads
    back as |x| (`displaySearchOk` in SlacProofs.F64Search) -/
def DisplaySearchOk (x : Float) : Prop :=
  readBack (displayCand x).1 (displayCand x).2 = (if signBit x then -x else x)

instance (x : Float) : Decidable (DisplaySearchOk x) := by unfold DisplaySearchOk; infer_instance

theorem special_texts :
    parse ['N','a','N'] = some nan ∧ parse ['i','n','f'] = some inf ∧ parse ['-','i','n','f'] = some (-inf) ∧
    parse ['0'] = some (Float.ofBits 0) ∧ parse ['-','0'] = some (Float.ofBits 0x8000000000000000) ∧
    bits nan = 0x7FF8000000000000 ∧ bits inf = 0x7FF0000000000000 ∧ bits (-inf) = 0xFFF0000000000000 ∧
    bits (Float.ofBits 0) = 0 ∧ bits (Float.ofBits 0x8000000000000000) = 0x8000000000000000 := by
  decide +kernel

theorem eq_by_sign (x yp yn : Float) (M : Nat) (hM : magN (bits x) = M) (bp : bits yp = M)
    (bn : bits yn = 2^63 + M) : (if signBit x then yn else yp) = x := by
  have hb := bits_lt x
  unfold magN at hM
  rw [signBit_eq]
  by_cases hs : bits x / 2^63 = 1
  · rw [decide_eq_true hs, if_pos rfl]; apply eq_of_bits_eq; rw [bn]; omega
  · rw [decide_eq_false hs, if_neg (by decide)]; apply eq_of_bits_eq; rw [bp]; omega

/-- NaN, ±inf, ±0: the five special texts parse back (bit for bit; the model's only NaN is the canonical one) -/
theorem parse_display_special (x : Float) (h : isNaN x = true ∨ isInf x = true ∨ isZero x = true) :
    parse (display x) = some x := by
  obtain ⟨t1, t2, t3, t4, t5, b1, b2, b3, b4, b5⟩ := special_texts
  unfold display
  by_cases hn : isNaN x = true
  · have hx : x = nan := by
      apply eq_of_bits_eq; rw [b1]
      unfold isNaN isNaNN magN at hn; rw [decide_eq_true_eq] at hn
      have hb := bits_lt x
      exact bits_valid x (by omega) (by omega)
    rw [if_pos hn, t1, hx]
  · rw [if_neg hn]
    by_cases hi : isInf x = true
    · rw [if_pos hi, apply_ite parse, t2, t3, ← apply_ite some]
      unfold isInf at hi; rw [decide_eq_true_eq] at hi
      rw [eq_by_sign x _ _ _ hi b2 b3]
    · have hz : isZero x = true := by rcases h with h | h | h; exact absurd h hn; exact absurd h hi; exact h
      rw [if_neg hi, if_pos hz, apply_ite parse, t4, t5, ← apply_ite some]
      unfold isZero at hz; rw [decide_eq_true_eq] at hz
      rw [eq_by_sign x _ _ _ hz b4 b5]

theorem parse_display_cand (x : Float) (h1 : isNaN x = false) (h2 : isInf x = false) (h3 : isZero x = false) :
    parse (display x) = some (sgnB (signBit x) (readBack (displayCand x).1 (displayCand x).2)) := by
  rw [display_finite x h1 h2 h3, parse_body]

end F64
end Slac
