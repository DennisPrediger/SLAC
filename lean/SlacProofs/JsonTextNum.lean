/-
  SlacProofs.JsonTextNum — the number layer of the JSON text round trip.
  * `layout_ok`: each of the five ryu/zmij layouts of digits c and decimal exponent p (`12340000000.0`, `12.34`,
    `0.001234`, `1e30`/`1e+30`, `1.234e33`/`1.234e+33`) is a `Shape` — digits, a dot, digits, optional exponent, or
    digits and exponent — and `F64.parse` reads c and p back from it, i.e. returns `sciOf c p` with the sign (the
    exponent forms go through the parser's `e` branch: `F64.parse_frac_x`, `F64.parse_int_x`, `expoOf_suffix`);
  * `shape_facts`: a `Shape` is one RFC 8259 number token, not an integer literal, made of number characters,
    starting with a digit;
  * `printNum_split`: with `shortest_ok` (the search's digits convert back to |x|) the printed text parses to x;
  * `parseNumber_printNum`: the JSON number reader returns `.num x` on the printed finite double followed by anything
    that ends a number;  `parseNumber_printInt`: an integer in [-2^63, 2^64) is read back as `.int i`.
-/
import SlacProofs.JsonTextSearch
set_option autoImplicit false
namespace Slac
namespace JsonText
open F64

theorem exp_text (sg ds : Str) (hsg : sg = [] ∨ sg = ['-'] ∨ sg = ['+']) (hds : ∀ c ∈ ds, isDig c = true)
    (hne : ds ≠ []) :
    expoOf ('e' :: (sg ++ ds)) = some (if sg = ['-'] then -(digitsVal ds : Int) else digitsVal ds) ∧
    validExp ('e' :: (sg ++ ds)) = true := by
  have hall : ds.all isDig = true := List.all_eq_true.2 hds
  have hemp : ds.isEmpty = false := by cases ds <;> simp_all
  unfold expoOf validExp
  rcases hsg with rfl | rfl | rfl
  · cases ds with
    | nil => exact absurd rfl hne
    | cons d t =>
      have hd' := (isDig_iff d).1 (hds d (by simp))
      have hm : d ≠ '-' := char_ne_of_toNat_ne _ _ (by show d.toNat ≠ 45; omega)
      have hp : d ≠ '+' := char_ne_of_toNat_ne _ _ (by show d.toNat ≠ 43; omega)
      simp only [List.nil_append, beq_self_eq_true, Bool.true_or, if_true, decide_true, Bool.true_and]
      constructor
      · split
        · rename_i h; injection h with h _; exact absurd h hm
        · rename_i h; injection h with h _; exact absurd h hp
        · simp [hall, hemp]
      · split
        · rename_i h; injection h with h _; exact absurd h hp
        · rename_i h; injection h with h _; exact absurd h hm
        · simp [hall, hemp]
  · simp [hall, hemp]
  · simp [hall, hemp]

theorem expSuffix_eq (plus : Bool) (ex : Int) :
    ∃ sg, expSuffix plus ex = 'e' :: (sg ++ Nat.toDigits 10 ex.natAbs) ∧ (sg = [] ∨ sg = ['-'] ∨ sg = ['+']) ∧
      (sg = ['-'] ↔ ex < 0) := by
  unfold expSuffix
  by_cases hneg : ex < 0
  · exact ⟨['-'], by rw [if_pos hneg], Or.inr (Or.inl rfl), by simp [hneg]⟩
  · cases plus
    · exact ⟨[], by rw [if_neg hneg]; rfl, Or.inl rfl, by simp [hneg]⟩
    · exact ⟨['+'], by rw [if_neg hneg]; rfl, Or.inr (Or.inr rfl), by simp [hneg]⟩

theorem expoOf_suffix (plus : Bool) (ex : Int) : expoOf (expSuffix plus ex) = some ex := by
  obtain ⟨sg, h1, h2, h3⟩ := expSuffix_eq plus ex
  rw [h1, (exp_text sg _ h2 (toDigits_isDig _) Nat.toDigits_ne_nil).1, digitsVal_toDigits]
  congr 1
  by_cases hneg : ex < 0
  · rw [if_pos (h3.2 hneg)]; omega
  · rw [if_neg (fun h => hneg (h3.1 h))]; omega

theorem toDigits_head (c : Nat) (hc : 0 < c) : (Nat.toDigits 10 c).head? ≠ some '0' := by
  induction c using Nat.strongRecOn with
  | _ c ih =>
    rw [Nat.toDigits_eq_if (by decide)]
    split
    · simp only [List.head?_cons, ne_eq, Option.some.injEq, Nat.digitChar_eq_zero]; omega
    · have h10 : 0 < c / 10 := by omega
      have := ih (c / 10) (by omega) h10
      have hne : Nat.toDigits 10 (c / 10) ≠ [] := Nat.toDigits_ne_nil
      cases hd : Nat.toDigits 10 (c / 10) with
      | nil => exact absurd hd hne
      | cons d t => rw [hd] at this; simpa using this

theorem digitsVal_snoc_zero (D : Str) : digitsVal (D ++ ['0']) = digitsVal D * 10 := by
  have := digitsVal_append_zeros D 1
  simpa using this

theorem noDigHead_expSuffix (plus : Bool) (ex : Int) : NoDigHead (expSuffix plus ex) :=
  noDigHead_cons _ _ (by decide)

theorem expSuffix_not_dot (plus : Bool) (ex : Int) (t : Str) : expSuffix plus ex ≠ '.' :: t := by
  intro h; unfold expSuffix at h; injection h with h _; exact absurd h (by decide)

theorem zero_isDig_list : ∀ d ∈ ['0'], isDig d = true := by
  intro d hd; simp at hd; rw [hd]; exact isDig_zero

/-- RFC 8259 check after the optional minus -/
def validBody (t : Str) : Bool :=
  let ip := t.takeWhile isDig
  let r1 := t.dropWhile isDig
  (ip == ['0'] || (!ip.isEmpty && ip.head? != some '0')) &&
    (match r1 with
     | '.' :: r => !(r.takeWhile isDig).isEmpty && validExp (r.dropWhile isDig)
     | r => validExp r)

theorem validNum_neg (T : Str) : validNum ('-' :: T) = validBody T := rfl

theorem digit_ne_minus (d : Char) (hd : isDig d = true) : d ≠ '-' := by
  have hd' := (isDig_iff d).1 hd
  exact char_ne_of_toNat_ne _ _ (by show d.toNat ≠ 45; omega)

theorem validNum_pos (d : Char) (t : Str) (hd : isDig d = true) : validNum (d :: t) = validBody (d :: t) := by
  unfold validNum
  split
  · rename_i h; injection h with h _; exact absurd h (digit_ne_minus d hd)
  · rfl

/-- `0`, or a non-empty digit string without a leading zero -/
def IntPartOk (D : Str) : Prop := (∀ c ∈ D, isDig c = true) ∧ D ≠ [] ∧ (D = ['0'] ∨ D.head? ≠ some '0')

theorem intPartOk_bool (D : Str) (h : IntPartOk D) : (D == ['0'] || (!D.isEmpty && D.head? != some '0')) = true := by
  obtain ⟨_, hne, h0⟩ := h
  rcases h0 with h0 | h0
  · rw [h0]; rfl
  · have : D.isEmpty = false := by cases D <;> simp_all
    simp [this, h0]

theorem validBody_frac (D F X : Str) (hD : IntPartOk D) (hF : ∀ c ∈ F, isDig c = true) (hFne : F ≠ [])
    (hX : NoDigHead X) (hv : validExp X = true) : validBody (D ++ '.' :: (F ++ X)) = true := by
  obtain ⟨h1, h2⟩ := span_digits D ('.' :: (F ++ X)) hD.1 (noDigHead_cons _ _ isDig_dot)
  obtain ⟨h3, h4⟩ := span_digits F X hF hX
  have h5 : F.isEmpty = false := by cases F <;> simp_all
  unfold validBody
  simp only [h1, h2, h3, h4, h5, hv, intPartOk_bool D hD, Bool.not_false, Bool.and_self]

theorem validBody_int (D X : Str) (hD : IntPartOk D) (hX : NoDigHead X) (hdot : ∀ t, X ≠ '.' :: t)
    (hv : validExp X = true) : validBody (D ++ X) = true := by
  obtain ⟨h1, h2⟩ := span_digits D X hD.1 hX
  unfold validBody
  simp only [h1, h2, hv, intPartOk_bool D hD, Bool.and_self]

theorem validExp_suffix (plus : Bool) (ex : Int) : validExp (expSuffix plus ex) = true := by
  obtain ⟨sg, h1, h2, _⟩ := expSuffix_eq plus ex
  rw [h1]; exact (exp_text sg _ h2 (toDigits_isDig _) Nat.toDigits_ne_nil).2

def AllNum (T : Str) : Prop := ∀ c ∈ T, isNumChar c = true

theorem allNum_digits (D : Str) (hD : ∀ c ∈ D, isDig c = true) : AllNum D := by
  intro c hc; unfold isNumChar; rw [hD c hc]; rfl

theorem allNum_append (A B : Str) (hA : AllNum A) (hB : AllNum B) : AllNum (A ++ B) := by
  intro c hc; rcases List.mem_append.1 hc with h | h
  · exact hA c h
  · exact hB c h

theorem allNum_cons (a : Char) (B : Str) (ha : isNumChar a = true) (hB : AllNum B) : AllNum (a :: B) := by
  intro c hc; rcases List.mem_cons.1 hc with h | h
  · rw [h]; exact ha
  · exact hB c h

theorem allNum_nil : AllNum [] := by intro c hc; cases hc

theorem allNum_suffix (plus : Bool) (ex : Int) : AllNum (expSuffix plus ex) := by
  unfold expSuffix
  apply allNum_cons _ _ (by decide)
  apply allNum_append
  · split
    · exact allNum_cons _ _ (by decide) allNum_nil
    · split
      · exact allNum_cons _ _ (by decide) allNum_nil
      · exact allNum_nil
  · exact allNum_digits _ (toDigits_isDig _)

theorem not_all_dig_of_mem (T : Str) (c : Char) (hc : c ∈ T) (hn : isDig c = false) : T.all isDig = false := by
  rw [Bool.eq_false_iff]; intro h
  have := List.all_eq_true.1 h c hc
  rw [hn] at this; cases this

/-- the shapes of a printed float: `D.F[exp]` or `Dexp` -/
inductive Shape (plus : Bool) (T : Str) : Prop where
  | frac (D F X : Str) (hT : T = D ++ '.' :: (F ++ X)) (hD : IntPartOk D) (hF : ∀ c ∈ F, isDig c = true) (hFne : F ≠ [])
      (hX : X = [] ∨ ∃ ex, X = expSuffix plus ex)
  | exp (D : Str) (ex : Int) (hT : T = D ++ expSuffix plus ex) (hD : IntPartOk D)

/-- digits D, a dot, digits F and a suffix X that is empty (ex = 0) or the exponent ex: a `Shape`, read back as
    (D ++ F)·10^(ex - |F|) -/
theorem frac_text (plus neg : Bool) (D F X : Str) (ex : Int) (hD : IntPartOk D) (hF : ∀ c ∈ F, isDig c = true)
    (hFne : F ≠ []) (hX : X = [] ∧ ex = 0 ∨ X = expSuffix plus ex) (h1 : ex - (F.length : Int) ≤ 400)
    (h2 : -1200 - ((D.length + F.length : Nat) : Int) ≤ ex - (F.length : Int)) :
    Shape plus (D ++ '.' :: (F ++ X)) ∧
    F64.parse ((if neg then ['-'] else []) ++ (D ++ '.' :: (F ++ X))) =
      some (sgnB neg (sciOf (digitsVal (D ++ F)) (ex - (F.length : Int)))) := by
  have hX' : NoDigHead X ∧ expoOf X = some ex ∧ (X = [] ∨ ∃ ex, X = expSuffix plus ex) := by
    rcases hX with ⟨rfl, rfl⟩ | rfl
    · exact ⟨noDigHead_nil, rfl, Or.inl rfl⟩
    · exact ⟨noDigHead_expSuffix _ _, expoOf_suffix _ _, Or.inr ⟨_, rfl⟩⟩
  exact ⟨.frac D F X rfl hD hF hFne hX'.2.2, parse_frac_x neg D F X ex hD.2.1 hD.1 hF hX'.1 hX'.2.1 h1 h2⟩

theorem head_take (ds : Str) (n : Nat) (hn : 0 < n) : (ds.take n).head? = ds.head? := by
  cases ds with
  | nil => simp
  | cons d t => cases n with
    | zero => omega
    | succ n => simp

/-- **the five ryu/zmij layouts** of the digits c and the decimal exponent p (with or without `+` in the exponent):
    each is a `Shape`, and `F64.parse` reads c and p back from it -/
theorem layout_ok (plus neg : Bool) (c : Nat) (p : Int) (hc : 0 < c) (hp1 : -400 ≤ p) (hp2 : p ≤ 400) :
    Shape plus (layout plus c p) ∧
    F64.parse ((if neg then ['-'] else []) ++ layout plus c p) = some (sgnB neg (sciOf c p)) := by
  have hds := toDigits_isDig c
  have hne : Nat.toDigits 10 c ≠ [] := Nat.toDigits_ne_nil
  have hval := digitsVal_toDigits c
  have hhead := toDigits_head c hc
  have hlen : 0 < (Nat.toDigits 10 c).length := Nat.length_toDigits_pos
  unfold layout
  simp only []
  generalize Nat.toDigits 10 c = ds at *
  have htake : ∀ n, 0 < n → IntPartOk (ds.take n) := fun n hn =>
    ⟨fun d hd => hds d (List.mem_of_mem_take hd), by
      intro h; have := congrArg List.length h; rw [List.length_take, List.length_nil] at this; omega,
      Or.inr (by rw [head_take ds n hn]; exact hhead)⟩
  have hdrop : ∀ n, ∀ d ∈ ds.drop n, isDig d = true := fun n d hd => hds d (List.mem_of_mem_drop hd)
  have hdropne : ∀ n, n < ds.length → ds.drop n ≠ [] := by
    intro n hn h; have := congrArg List.length h; rw [List.length_drop, List.length_nil] at this; omega
  have hzero : IntPartOk ['0'] := ⟨zero_isDig_list, by simp, Or.inl rfl⟩
  by_cases h1 : 0 ≤ p ∧ (ds.length : Int) + p ≤ 16
  · -- 1234e7 -> 12340000000.0
    have e1 : ds ++ (List.replicate p.toNat '0' ++ ['.', '0']) =
        (ds ++ List.replicate p.toNat '0') ++ '.' :: (['0'] ++ []) := by simp
    have hD : IntPartOk (ds ++ List.replicate p.toNat '0') :=
      ⟨append_isDig hds (replicate_isDig _), by simp [hne], Or.inr (by
        cases ds with
        | nil => exact absurd rfl hne
        | cons d t => simpa using hhead)⟩
    have hl : ((['0'] : Str).length : Int) = 1 := rfl
    obtain ⟨hS, hP⟩ := frac_text plus neg _ ['0'] [] 0 hD zero_isDig_list (by simp) (Or.inl ⟨rfl, rfl⟩)
      (by rw [hl]; omega) (by rw [hl]; omega)
    rw [if_pos h1, e1, hP, hl, digitsVal_snoc_zero, digitsVal_append_zeros, hval]
    refine ⟨hS, ?_⟩
    congr 2
    apply sciOf_congr _ _ _ _ (Nat.mul_pos (Nat.mul_pos hc (Nat.pow_pos (by decide))) (by decide)) hc
      (by omega) (by omega) (by omega) (by omega)
    unfold cnOf cdOf
    rw [if_neg (by omega), if_pos (by omega), if_pos (by omega), if_neg (by omega)]
    have : (-((0 : Int) - 1)).toNat = 1 := by decide
    rw [this]; omega
  · rw [if_neg h1]
    by_cases h2 : 0 < (ds.length : Int) + p ∧ (ds.length : Int) + p ≤ 16
    · -- 1234e-2 -> 12.34
      rw [if_pos h2]
      generalize hn : ((ds.length : Int) + p).toNat = n
      have e1 : List.take n ds ++ '.' :: List.drop n ds = List.take n ds ++ '.' :: (List.drop n ds ++ []) := by simp
      have hl : ((List.drop n ds).length : Int) = -p := by rw [List.length_drop]; omega
      obtain ⟨hS, hP⟩ := frac_text plus neg _ _ [] 0 (htake n (by omega)) (hdrop n) (hdropne n (by omega))
        (Or.inl ⟨rfl, rfl⟩) (by rw [hl]; omega) (by rw [hl]; omega)
      rw [e1, hP, hl, List.take_append_drop, hval]
      exact ⟨hS, by congr 3; omega⟩
    · rw [if_neg h2]
      by_cases h3 : -5 < (ds.length : Int) + p ∧ (ds.length : Int) + p ≤ 0
      · -- 1234e-6 -> 0.001234
        rw [if_pos h3]
        generalize hn : (-((ds.length : Int) + p)).toNat = n
        have e1 : '0' :: '.' :: (List.replicate n '0' ++ ds) = ['0'] ++ '.' :: ((List.replicate n '0' ++ ds) ++ []) := by
          simp
        have hl : ((List.replicate n '0' ++ ds).length : Int) = -p := by
          rw [List.length_append, List.length_replicate]; omega
        have e2 : ['0'] ++ (List.replicate n '0' ++ ds) = List.replicate (n + 1) '0' ++ ds := by
          rw [List.replicate_succ]; rfl
        obtain ⟨hS, hP⟩ := frac_text plus neg _ _ [] 0 hzero (append_isDig (replicate_isDig n) hds) (by simp [hne])
          (Or.inl ⟨rfl, rfl⟩) (by rw [hl]; omega) (by rw [hl]; omega)
        rw [e1, hP, hl, e2, digitsVal_zeros_append, hval]
        exact ⟨hS, by congr 3; omega⟩
      · rw [if_neg h3]
        by_cases h4 : ds.length = 1
        · -- 1e30
          rw [if_pos h4, parse_int_x neg ds _ _ hne hds (noDigHead_expSuffix _ _) (expSuffix_not_dot _ _)
            (expoOf_suffix plus _) (by omega) (by omega), hval]
          exact ⟨.exp ds _ rfl ⟨hds, hne, Or.inr hhead⟩, by congr 3; omega⟩
        · -- 1234e30 -> 1.234e33
          rw [if_neg h4]
          have hl : ((List.drop 1 ds).length : Int) = (ds.length : Int) - 1 := by rw [List.length_drop]; omega
          obtain ⟨hS, hP⟩ := frac_text plus neg _ _ _ ((ds.length : Int) + p - 1) (htake 1 (by omega)) (hdrop 1) (hdropne 1 (by omega))
            (Or.inr rfl) (by rw [hl]; omega) (by rw [hl]; omega)
          rw [hP, hl, List.take_append_drop, hval]
          exact ⟨hS, by congr 3; omega⟩

theorem suffix_facts (plus : Bool) (X : Str) (hX : X = [] ∨ ∃ ex, X = expSuffix plus ex) :
    NoDigHead X ∧ validExp X = true ∧ AllNum X := by
  rcases hX with h | ⟨ex, h⟩
  · rw [h]; exact ⟨noDigHead_nil, rfl, allNum_nil⟩
  · rw [h]; exact ⟨noDigHead_expSuffix _ _, validExp_suffix _ _, allNum_suffix _ _⟩

/-- what the token reader needs to know about a printed float (sign excluded) -/
theorem shape_facts (plus : Bool) (T : Str) (h : Shape plus T) :
    validBody T = true ∧ AllNum T ∧ T.all isDig = false ∧ ∃ d t, T = d :: t ∧ isDig d = true := by
  cases h with
  | frac D F X hT hD hF hFne hX =>
    obtain ⟨x1, x2, x3⟩ := suffix_facts plus X hX
    rw [hT]
    refine ⟨validBody_frac D F X hD hF hFne x1 x2, ?_, ?_, ?_⟩
    · exact allNum_append _ _ (allNum_digits D hD.1) (allNum_cons _ _ (by decide)
        (allNum_append _ _ (allNum_digits F hF) x3))
    · exact not_all_dig_of_mem _ '.' (by simp) (by decide)
    · obtain ⟨hD1, hD2, _⟩ := hD
      cases D with
      | nil => exact absurd rfl hD2
      | cons d t => exact ⟨d, _, rfl, hD1 d (by simp)⟩
  | exp D ex hT hD =>
    rw [hT]
    refine ⟨validBody_int D _ hD (noDigHead_expSuffix _ _) (expSuffix_not_dot _ _) (validExp_suffix _ _), ?_, ?_, ?_⟩
    · exact allNum_append _ _ (allNum_digits D hD.1) (allNum_suffix _ _)
    · exact not_all_dig_of_mem _ 'e' (by unfold expSuffix; simp) (by decide)
    · obtain ⟨hD1, hD2, _⟩ := hD
      cases D with
      | nil => exact absurd rfl hD2
      | cons d t => exact ⟨d, _, rfl, hD1 d (by simp)⟩

theorem numOfTok_neg (T : Str) (hv : validBody T = true) :
    numOfTok ('-' :: T) =
      if T.all isDig then
        (if 0 < digitsVal T ∧ digitsVal T ≤ 2^63 then some (.int (-(digitsVal T : Int))) else floatOfTok ('-' :: T))
      else floatOfTok ('-' :: T) := by
  unfold numOfTok
  rw [validNum_neg, hv]
  rfl

theorem numOfTok_pos (d : Char) (t : Str) (hd : isDig d = true) (hv : validBody (d :: t) = true) :
    numOfTok (d :: t) =
      if (d :: t).all isDig then
        (if digitsVal (d :: t) < 2^64 then some (.int (digitsVal (d :: t) : Int)) else floatOfTok (d :: t))
      else floatOfTok (d :: t) := by
  unfold numOfTok
  rw [validNum_pos d t hd, hv]
  simp only [Bool.not_true, Bool.false_eq_true, if_false]
  split
  · rename_i h; injection h with h _; exact absurd h (digit_ne_minus d hd)
  · rfl

theorem numOfTok_float (neg : Bool) (T : Str) (hv : validBody T = true) (hnd : T.all isDig = false)
    (hd : ∃ d t, T = d :: t ∧ isDig d = true) :
    numOfTok ((if neg then ['-'] else []) ++ T) = floatOfTok ((if neg then ['-'] else []) ++ T) := by
  cases neg
  · obtain ⟨d, t, rfl, hd⟩ := hd
    exact (numOfTok_pos d t hd hv).trans (by rw [hnd]; rfl)
  · exact (numOfTok_neg T hv).trans (by rw [hnd]; rfl)

theorem bits_sciOf_zero : bits (sciOf 0 (0 - 1)) = 0 ∧ bits (-(sciOf 0 (0 - 1))) = 2^63 + 0 := by decide +kernel

/-- the printed float as sign and unsigned text -/
theorem printNum_split (plus : Bool) (x : Float) (hf : isFinite x = true) :
    ∃ T, printNumWith plus x = (if signBit x then ['-'] else []) ++ T ∧ Shape plus T ∧
      F64.parse ((if signBit x then ['-'] else []) ++ T) = some x := by
  unfold printNumWith
  rw [hf]
  simp only [Bool.not_true, Bool.false_eq_true, if_false]
  by_cases hz : isZero x = true
  · rw [if_pos hz]
    obtain ⟨hS, hP⟩ := frac_text plus (signBit x) ['0'] ['0'] [] 0 ⟨zero_isDig_list, by simp, Or.inl rfl⟩
      zero_isDig_list (by simp) (Or.inl ⟨rfl, rfl⟩) (by decide) (by decide)
    refine ⟨_, rfl, hS, hP.trans ?_⟩
    show some (sgnB (signBit x) (sciOf 0 (0 - 1))) = some x
    unfold isZero at hz; rw [decide_eq_true_eq] at hz
    exact congrArg some (eq_by_sign x _ _ 0 hz bits_sciOf_zero.1 bits_sciOf_zero.2)
  · have hz' : isZero x = false := by cases h : isZero x <;> simp_all
    rw [if_neg hz]
    obtain ⟨c1, c2, c3, c4⟩ := shortest_ok x hf hz'
    have hab : (if signBit x then -x else x) = absF x := rfl
    rw [hab]
    generalize shortest (absF x) = cp at *
    obtain ⟨c, p⟩ := cp
    simp only [] at c1 c2 c3 c4 ⊢
    obtain ⟨hS, hP⟩ := layout_ok plus (signBit x) c p c1 c3 c4
    exact ⟨_, rfl, hS, by rw [hP, c2, sgnB_absF x hf hz']⟩

/-- **the token reader returns the printed double** -/
theorem numOfTok_printNum (plus : Bool) (x : Float) (hf : isFinite x = true) :
    numOfTok (printNumWith plus x) = some (.num x) := by
  obtain ⟨T, hT, hS, hP⟩ := printNum_split plus x hf
  obtain ⟨f1, _, f3, f4⟩ := shape_facts plus T hS
  rw [hT, numOfTok_float _ T f1 f3 f4]
  unfold floatOfTok
  rw [hP]
  simp only [hf, if_true]

/-- a text after which a number token ends: empty, or starting with a character that cannot continue a number -/
def NumEnd (rest : Str) : Prop := ∀ c t, rest = c :: t → isNumChar c = false

theorem span_numChars (T X : Str) (hT : AllNum T) (hX : NumEnd X) :
    (T ++ X).takeWhile isNumChar = T ∧ (T ++ X).dropWhile isNumChar = X := by
  rw [List.takeWhile_append_of_pos hT, List.dropWhile_append_of_pos hT]
  cases X with
  | nil => simp
  | cons c t =>
    have := hX c t rfl
    rw [List.takeWhile_cons_of_neg (by simp [this]), List.dropWhile_cons_of_neg (by simp [this])]
    simp

theorem printNum_allNum (plus : Bool) (x : Float) (hf : isFinite x = true) : AllNum (printNumWith plus x) := by
  obtain ⟨T, hT, hS, _⟩ := printNum_split plus x hf
  obtain ⟨_, f2, _, _⟩ := shape_facts plus T hS
  rw [hT]
  apply allNum_append _ _ _ f2
  split
  · exact allNum_cons _ _ (by decide) allNum_nil
  · exact allNum_nil

/-- the printed float starts with `-` or a digit -/
theorem printNum_head (plus : Bool) (x : Float) (hf : isFinite x = true) :
    ∃ c t, printNumWith plus x = c :: t ∧ (c = '-' ∨ isDig c = true) := by
  obtain ⟨T, hT, hS, _⟩ := printNum_split plus x hf
  obtain ⟨_, _, _, d, t, f4, f5⟩ := shape_facts plus T hS
  rw [hT, f4]
  split
  · exact ⟨'-', d :: t, rfl, Or.inl rfl⟩
  · exact ⟨d, t, rfl, Or.inr f5⟩

/-- **the number reader on the printed float, followed by anything that ends a number** -/
theorem parseNumber_printNum (plus : Bool) (x : Float) (hf : isFinite x = true) (rest : Str) (hr : NumEnd rest) :
    parseNumber (printNumWith plus x ++ rest) = some (.num x, rest) := by
  obtain ⟨h1, h2⟩ := span_numChars _ rest (printNum_allNum plus x hf) hr
  unfold parseNumber
  rw [h1, h2, numOfTok_printNum plus x hf]

theorem intPartOk_toDigits (n : Nat) : IntPartOk (Nat.toDigits 10 n) := by
  refine ⟨toDigits_isDig n, Nat.toDigits_ne_nil, ?_⟩
  by_cases h : n = 0
  · left; rw [h]; rfl
  · right; exact toDigits_head n (by omega)

theorem validBody_toDigits (n : Nat) : validBody (Nat.toDigits 10 n) = true := by
  have := validBody_int (Nat.toDigits 10 n) [] (intPartOk_toDigits n) noDigHead_nil (by intro t h; cases h) rfl
  rwa [List.append_nil] at this

theorem all_toDigits (n : Nat) : (Nat.toDigits 10 n).all isDig = true := List.all_eq_true.2 (toDigits_isDig n)

/-- an integer in the u64 / i64 range is read back as the same integer -/
theorem numOfTok_printInt (i : Int) (h1 : -2^63 ≤ i) (h2 : i < 2^64) : numOfTok (printInt i) = some (.int i) := by
  unfold printInt
  by_cases hn : i < 0
  · rw [if_pos hn, numOfTok_neg _ (validBody_toDigits _), all_toDigits, if_pos rfl, digitsVal_toDigits,
      if_pos (by omega)]
    congr 2; omega
  · have hvb := validBody_toDigits i.toNat
    have hall := all_toDigits i.toNat
    have hval := digitsVal_toDigits i.toNat
    have hds := toDigits_isDig i.toNat
    rw [if_neg hn]
    cases hd : Nat.toDigits 10 i.toNat with
    | nil => exact absurd hd Nat.toDigits_ne_nil
    | cons d t =>
      rw [hd] at hvb hall hval hds
      rw [numOfTok_pos d t (hds d (by simp)) hvb, hall, if_pos rfl, hval, if_pos (by omega)]
      congr 2; omega

theorem printInt_allNum (i : Int) : AllNum (printInt i) := by
  unfold printInt
  split
  · exact allNum_cons _ _ (by decide) (allNum_digits _ (toDigits_isDig _))
  · exact allNum_digits _ (toDigits_isDig _)

theorem printInt_head (i : Int) : ∃ c t, printInt i = c :: t ∧ (c = '-' ∨ isDig c = true) := by
  unfold printInt
  split
  · exact ⟨'-', _, rfl, Or.inl rfl⟩
  · have hne : Nat.toDigits 10 i.toNat ≠ [] := Nat.toDigits_ne_nil
    cases hd : Nat.toDigits 10 i.toNat with
    | nil => exact absurd hd hne
    | cons d t => exact ⟨d, t, rfl, Or.inr (toDigits_isDig i.toNat d (by rw [hd]; simp))⟩

theorem parseNumber_printInt (i : Int) (h1 : -2^63 ≤ i) (h2 : i < 2^64) (rest : Str) (hr : NumEnd rest) :
    parseNumber (printInt i ++ rest) = some (.int i, rest) := by
  obtain ⟨e1, e2⟩ := span_numChars _ rest (printInt_allNum i) hr
  unfold parseNumber
  rw [e1, e2, numOfTok_printInt i h1 h2]

end JsonText
end Slac
