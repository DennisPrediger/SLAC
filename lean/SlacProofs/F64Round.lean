/-
  SlacProofs.F64Round — exact cases of core's `UnpackedFloat.round` for binary64 (`round_of_value`: a representable
  value rounds to its canonical representation; `rwa_exact` is the closed form of F64Rwa with denominator 1),
  canonical finite floats (`Canon`, `mkF`) with their bit patterns (`magOf`: one formula for normal and subnormal
  values), and `Float.ofScientific n false 0` for 0 < n < 2^53 (`n as f64` is exact).
  Everything is proved from the definitions in Init/Data/Float/Model/**.
-/
import SlacProofs.F64Rwa
set_option autoImplicit false
namespace Slac
namespace F64
open Float.Model Float.Model.UnpackedFloat

theorem log2_mul_two_pow (m k : Nat) (h : m ≠ 0) : (m * 2^k).log2 = m.log2 + k := by
  induction k with
  | zero => simp
  | succ k ih =>
    have : m * 2^(k+1) = 2 * (m * 2^k) := by rw [Nat.pow_succ]; ac_rfl
    rw [this, Nat.log2_two_mul (by have := Nat.two_pow_pos k; exact Nat.mul_ne_zero h (by omega)), ih]
    omega

theorem tgt_mul (m k : Nat) (e : Int) (h : m ≠ 0) : tgt (m * 2^k) (e - k) = tgt m e := by
  unfold tgt; rw [log2_mul_two_pow m k h]; push_cast; omega

/-- rounding an exactly representable value: m·2^k at exponent T-k where T is its target exponent.
    An instance of the closed form `rwaFrac_eq` with denominator 1: no bit is dropped and nothing is carried. -/
theorem rwa_exact (s : Sign) (m k : Nat) (T : Int) (hm : 0 < m) (hT : tgt m T = T) :
    roundWithAccuracy B64 s (m * 2^k) (T - k) .exact = .finite s m T hm := by
  have hr : rneFrac m 1 = m := by unfold rneFrac; rw [Nat.mod_one, Nat.div_one, if_pos (by decide)]
  rw [← rwaFrac_one, rwaFrac_shift s m 1 k T (by decide) (by rw [Nat.div_one, hT]; exact Int.le_refl T),
    rwaFrac_eq s m 1 T (by decide)]
  simp only [Nat.div_one, hT, Int.sub_self, Int.toNat_zero, Nat.pow_zero, Nat.mul_one, hr, Int.natCast_zero,
    Int.add_zero]
  rw [dif_neg (Nat.ne_of_gt hm)]

/-- Whichever of e, T is larger, `tgt r e = T`; `round` shifts left by e - T and `roundWithAccuracy` right by T - e. -/
theorem round_of_value (s : Sign) (r M : Nat) (e T : Int) (hM : 0 < M) (hT : tgt M T = T)
    (hv : r * 2^(e - T).toNat = M * 2^(T - e).toNat) :
    UnpackedFloat.round B64 s r e = .finite s M T hM := by
  have hM0 : M ≠ 0 := by omega
  have hr0 : r ≠ 0 := by
    intro h; rw [h, Nat.zero_mul] at hv
    exact Nat.ne_of_gt (Nat.mul_pos hM (Nat.two_pow_pos _)) hv.symm
  have hex : e - ((e - T).toNat : Int) = T - ((T - e).toNat : Int) := by omega
  have ht : tgt r e = T := by
    rw [← tgt_mul r (e - T).toNat e hr0, hv, hex, tgt_mul M _ T hM0, hT]
  unfold UnpackedFloat.round decreaseExponent
  simp only [targetExponent_eq, ht, Nat.shiftLeft_eq, hv, hex]
  exact rwa_exact s M _ T hM hT

/-- canonical binary64 representation: `m·2^e`, m < 2^53, exponent equal to the target exponent, no overflow -/
structure Canon (m : Nat) (e : Int) : Prop where
  pos : 0 < m
  tgt_eq : tgt m e = e
  le : e ≤ 971

theorem Canon.cases {m : Nat} {e : Int} (h : Canon m e) :
    (m.log2 = 52 ∧ -1074 ≤ e) ∨ (m.log2 < 52 ∧ e = -1074) := by
  have := h.tgt_eq; unfold tgt at this; omega

theorem Canon.lt {m : Nat} {e : Int} (h : Canon m e) : m < 2^53 := by
  have hm0 : m ≠ 0 := by have := h.pos; omega
  have : m.log2 < 53 := by rcases h.cases with h | h <;> omega
  exact (Nat.log2_lt hm0).1 this

theorem Canon.ge {m : Nat} {e : Int} (h : Canon m e) : -1074 ≤ e := by
  rcases h.cases with ⟨_, h1⟩ | ⟨_, h1⟩ <;> omega

theorem Canon.normal_or_sub {m : Nat} {e : Int} (h : Canon m e) :
    (2^52 ≤ m ∧ m < 2^53 ∧ m.log2 = 52 ∧ -1074 ≤ e) ∨ (m < 2^52 ∧ m.log2 < 52 ∧ e = -1074) := by
  have hm0 : m ≠ 0 := Nat.ne_of_gt h.pos
  rcases h.cases with ⟨hl, he⟩ | ⟨hl, he⟩
  · exact Or.inl ⟨(Nat.le_log2 hm0).1 (by omega), h.lt, hl, he⟩
  · exact Or.inr ⟨(Nat.log2_lt hm0).1 hl, hl, he⟩

theorem Canon.normal {m : Nat} {e : Int} (h : Canon m e) (he : -1074 < e) : 2^52 ≤ m := by
  rcases h.normal_or_sub with ⟨h1, _⟩ | ⟨_, _, h2⟩ <;> omega

theorem Canon.of_normal {m : Nat} {e : Int} (h1 : 2^52 ≤ m) (h2 : m < 2^53) (h3 : -1074 ≤ e) (h4 : e ≤ 971) :
    Canon m e := by
  have hl := log2_eq_of m 52 h1 h2
  exact ⟨by omega, by unfold tgt; omega, h4⟩

theorem Canon.of_subnormal {m : Nat} (h1 : 0 < m) (h2 : m < 2^52) : Canon m (-1074) := by
  have hl := log2_lt_of m 52 h2 (by omega)
  exact ⟨h1, by unfold tgt; omega, by omega⟩

/-- the Float with unpacked form `finite s m e` -/
def mkF (s : Sign) (m : Nat) (e : Int) (hm : 0 < m) : Float :=
  Float.ofModel (Float.Model.pack (.finite s m e hm))

/-- magnitude bits of a canonical float.  The hidden bit of a normal significand (2^52 ≤ m) adds one to the exponent
    field, so the same formula serves normal and subnormal values.  (The literal factor comes first: `Nat.mul` recurses
    on its second argument, and a kernel reduction of `t * 2^52` with t not a literal would take 2^52 steps.) -/
def magOf (m : Nat) (e : Int) : Nat := 2^52 * (e + 1074).toNat + m

theorem magOf_lt (m : Nat) (e : Int) (h : Canon m e) : magOf m e < 0x7FF0000000000000 := by
  have := h.lt; have := h.le; unfold magOf; omega

theorem magOf_pos (m : Nat) (e : Int) (h : Canon m e) : 0 < magOf m e := by
  have := h.pos; unfold magOf; omega

/-- sign, exponent field and fraction of the pattern S·2^63 + (2^52·t + m); a significand m ≥ 2^52 carries its
    leading bit into the exponent field -/
theorem fields (S t m : Nat) (ht : t ≤ 2045) (hm : m < 2^53) :
    (S * 2^63 + (2^52 * t + m)) / 2^63 = S ∧ (S * 2^63 + (2^52 * t + m)) / 2^52 % 2^11 = t + m / 2^52 ∧
    (S * 2^63 + (2^52 * t + m)) % 2^52 = m % 2^52 := by omega

theorem packN_canon (s : Sign) (m : Nat) (e : Int) (h : Canon m e) :
    packN (.finite s m e h.pos) = sbit s * 2^63 + magOf m e := by
  have hle := h.le
  simp only [packN, magOf]
  rw [if_neg (by omega)]
  rcases h.normal_or_sub with ⟨h52, h53, hl, he⟩ | ⟨h52, hl, he⟩
  · rw [if_pos (by omega)]; omega
  · rw [if_neg (by omega)]; omega

theorem unpackN_packN_finite (s : Sign) (m : Nat) (e : Int) (h : Canon m e) :
    unpackN (packN (.finite s m e h.pos)) = .finite s m e h.pos := by
  have hle := h.le
  obtain ⟨f1, f2, f3⟩ := fields (sbit s) (e + 1074).toNat m (by omega) h.lt
  rw [packN_canon s m e h]; unfold magOf
  rcases h.normal_or_sub with ⟨h52, h53, _, he⟩ | ⟨h52, _, he⟩
  · have e1 : 2^52 + m % 2^52 = m := by omega
    have e2 : (((e + 1074).toNat + m / 2^52 : Nat) : Int) - 1075 = e := by omega
    rw [unpackN_normal _ (by rw [f2]; omega) (by rw [f2]; omega), signN_of _ s f1]
    simp only [f2, f3, e1, e2]
  · rw [unpackN_subnormal _ (by rw [f2]; omega) (by rw [f3]; have := h.pos; omega), signN_of _ s f1]
    simp only [f3, Nat.mod_eq_of_lt h52]
    simp only [he]

theorem unpack_mkF (s : Sign) (m : Nat) (e : Int) (h : Canon m e) :
    (mkF s m e h.pos).toModel.unpack = .finite s m e h.pos := by
  rw [unpack_bits, mkF, bits_ofModel_pack, unpackN_packN_finite s m e h]

theorem bits_mkF (s : Sign) (m : Nat) (e : Int) (h : Canon m e) :
    bits (mkF s m e h.pos) = sbit s * 2^63 + magOf m e := by
  rw [mkF, bits_ofModel_pack, packN_canon s m e h]

theorem sign_mul_pos (s : Sign) : s * Sign.positive = s := by cases s <;> rfl

/-- multiplying a canonical finite value by 1.0 in the model -/
theorem mul_one_canon (s : Sign) (m : Nat) (e : Int) (h : Canon m e) :
    UnpackedFloat.mul B64 (.finite s m e h.pos) (.finite .positive (2^52) (-52) (by decide)) = .finite s m e h.pos := by
  simp only [UnpackedFloat.mul, sign_mul_pos]
  exact rwa_exact s m 52 e h.pos h.tgt_eq

theorem canon_ofNat (n : Nat) (h0 : 0 < n) (h : n < 2^53) : Canon (n * 2^(52 - n.log2)) ((n.log2 : Int) - 52) := by
  have hn0 : n ≠ 0 := by omega
  have hl : n.log2 < 53 := (Nat.log2_lt hn0).2 h
  have : (n * 2^(52 - n.log2)).log2 = 52 := by rw [log2_mul_two_pow n _ hn0]; omega
  exact ⟨Nat.mul_pos h0 (Nat.two_pow_pos _), by unfold tgt; omega, by omega⟩

/-- `n as f64` for 0 < n < 2^53 is exact -/
theorem ofNat_unpacked (n : Nat) (h0 : 0 < n) (h : n < 2^53) :
    UnpackedFloat.ofNat B64 n =
      .finite .positive (n * 2^(52 - n.log2)) ((n.log2 : Int) - 52) (Nat.mul_pos h0 (Nat.two_pow_pos _)) := by
  have hn0 : n ≠ 0 := by omega
  have hl : n.log2 < 53 := (Nat.log2_lt hn0).2 h
  unfold UnpackedFloat.ofNat UnpackedFloat.ofInt normalize
  have : compare (n : Int) 0 = .gt := by
    rw [Int.compare_eq_gt]; omega
  simp only [this, Int.toNat_natCast]
  refine round_of_value _ _ _ _ _ _ (canon_ofNat n h0 h).tgt_eq ?_
  have e1 : ((0 : Int) - ((n.log2 : Int) - 52)).toNat = 52 - n.log2 := by omega
  have e2 : ((n.log2 : Int) - 52 - 0).toNat = 0 := by omega
  rw [e1, e2, Nat.pow_zero, Nat.mul_one]

theorem unpack_ofBits_one : (Float.ofBits 0x3FF0000000000000).toModel.unpack = .finite .positive (2^52) (-52) (by decide) := by
  rw [unpack_bits, bits_ofBits_of _ (by decide), unpackN_normal _ (by decide) (by decide)]
  congr 1

theorem toFloat_ofNat (n : Nat) (h0 : 0 < n) (h : n < 2^53) :
    n.toUInt64.toFloat = mkF .positive (n * 2^(52 - n.log2)) ((n.log2 : Int) - 52) (canon_ofNat n h0 h).pos := by
  unfold UInt64.toFloat Float.Model.ofUInt64 UnpackedFloat.ofUInt64 mkF
  have : n.toUInt64.toNat = n := by
    show (UInt64.ofNat n).toNat = n
    rw [UInt64.toNat_ofNat']; omega
  rw [this, ofNat_unpacked n h0 h]

/-- `Float.ofScientific n false 0` (= `n as f64`) for 0 < n < 2^53: the conversion above times the table entry 1.0 -/
theorem ofScientific_nat (n : Nat) (h0 : 0 < n) (h : n < 2^53) :
    Float.ofScientific n false 0 = mkF .positive (n * 2^(52 - n.log2)) ((n.log2 : Int) - 52) (canon_ofNat n h0 h).pos := by
  unfold Float.ofScientific
  rw [dif_pos ⟨h, by decide⟩]
  simp only [Bool.false_eq_true, if_false]
  have hp : Float.exactlyRepresentablePowersOfTen[0]'(by decide) = Float.ofBits 0x3FF0000000000000 := rfl
  rw [hp]
  show Float.mul _ _ = _
  unfold Float.mul
  show Float.ofModel (Float.Model.mul _ _) = _
  unfold Float.Model.mul
  rw [unpack_ofBits_one, toFloat_ofNat n h0 h, unpack_mkF _ _ _ (canon_ofNat n h0 h),
    mul_one_canon _ _ _ (canon_ofNat n h0 h)]
  rfl

end F64
end Slac
