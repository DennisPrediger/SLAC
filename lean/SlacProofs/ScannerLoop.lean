/-
  SlacProofs.ScannerLoop — the token loop: fuel independence, totality, and the layout theorem
  (separators between lexemes are invisible; lexemes are read back as their tokens).
-/
import SlacProofs.ScannerToken
set_option autoImplicit false
namespace Slac
namespace Scanner
variable {N : Type} [NumOps N]

/-- one round of the token loop: skip separators, read a token; `g` is the rest of the loop -/
def scanStep (cc : CharClass) (g : Str → COut N (List (Token N))) (src : Str) : COut N (List (Token N)) :=
  match skipWs .code src with
  | [] => .ok []
  | c :: cs =>
    match nextToken (N := N) cc c cs with
    | .error e => .err e
    | .ok (t, rest) =>
      match g rest with
      | .ok ts => .ok (t :: ts)
      | o => o

theorem scanLoop_succ (cc : CharClass) (n : Nat) (src : Str) :
    scanLoop (N := N) cc (n + 1) src = scanStep cc (scanLoop cc n) src := rfl

theorem scanStep_ok {cc : CharClass} {g : Str → COut N (List (Token N))} {src : Str} {ts : List (Token N)}
    (h : scanStep cc g src = .ok ts) :
    ts = [] ∨ ∃ c cs t rest ts', skipWs .code src = c :: cs ∧ nextToken cc c cs = .ok (t, rest) ∧ g rest = .ok ts' ∧ ts = t :: ts' := by
  unfold scanStep at h
  split at h
  · cases h; exact .inl rfl
  · rename_i c cs hsk
    split at h
    · cases h
    · rename_i t rest hnt
      split at h
      · rename_i ts' hg
        cases h; exact .inr ⟨c, cs, t, rest, ts', hsk, hnt, hg, rfl⟩
      · rename_i hno; exact absurd h (hno _)

theorem scanLoop_skip (cc : CharClass) (f : Nat) (l : Str) : scanLoop (N := N) cc f (skipWs .code l) = scanLoop cc f l := by
  cases f with
  | zero => simp [scanLoop]
  | succ f => simp only [scanLoop, skipWs_idem]

theorem round_length (cc : CharClass) {src cs rest : Str} {c : Char} {t : Token N} (hsk : skipWs .code src = c :: cs)
    (hnt : nextToken cc c cs = .ok (t, rest)) : rest.length < src.length := by
  have h1 := nextToken_length cc c cs t rest hnt
  have h2 := skipWs_length .code src
  rw [hsk, List.length_cons] at h2
  omega

theorem scanStep_congr (cc : CharClass) {g g' : Str → COut N (List (Token N))} (src : Str)
    (h : ∀ rest : Str, rest.length < src.length → g rest = g' rest) : scanStep cc g src = scanStep cc g' src := by
  unfold scanStep
  cases hsk : skipWs .code src with
  | nil => rfl
  | cons c cs =>
    simp only
    cases hnt : nextToken (N := N) cc c cs with
    | error e => rfl
    | ok p => simp only [h p.2 (round_length cc hsk hnt)]

/-- any fuel above the length of the text gives the same result -/
theorem scanLoop_fuel (cc : CharClass) (n m : Nat) (src : Str) (hn : src.length < n) (hm : src.length < m) :
    scanLoop (N := N) cc n src = scanLoop cc m src := by
  induction n generalizing m src with
  | zero => omega
  | succ n ih =>
    cases m with
    | zero => omega
    | succ m => exact scanStep_congr cc src fun rest h => ih m rest (by omega) (by omega)

/-- the loop equation of `scanAll`, free of fuel -/
theorem scanAll_eq (cc : CharClass) (src : Str) : scanAll (N := N) cc src = scanStep cc (scanAll cc) src :=
  scanStep_congr cc src fun rest h => scanLoop_fuel cc _ _ rest h (Nat.lt_succ_self _)

/-- with enough fuel the loop ends with tokens or an error value -/
theorem scanLoop_total (cc : CharClass) (n : Nat) (src : Str) (hn : src.length < n) :
    (∃ ts, scanLoop (N := N) cc n src = .ok ts) ∨ (∃ e, scanLoop (N := N) cc n src = .err e) := by
  induction n generalizing src with
  | zero => omega
  | succ n ih =>
    rw [scanLoop_succ, scanStep]
    cases hsk : skipWs .code src with
    | nil => exact .inl ⟨[], rfl⟩
    | cons c cs =>
      simp only
      cases hnt : nextToken (N := N) cc c cs with
      | error e => exact .inr ⟨e, rfl⟩
      | ok p =>
        obtain ⟨t, rest⟩ := p
        have := round_length cc hsk hnt
        simp only
        rcases ih rest (by omega) with ⟨ts, h⟩ | ⟨e, h⟩
        · rw [h]; exact .inl ⟨t :: ts, rfl⟩
        · rw [h]; exact .inr ⟨e, rfl⟩

theorem scan_total (cc : CharClass) (src : Str) :
    (∃ ts, scan (N := N) cc src = .ok ts) ∨ (∃ e, scan (N := N) cc src = .err e) := by
  unfold scan scanAll
  rcases scanLoop_total (N := N) cc (src.length + 1) src (Nat.lt_succ_self _) with ⟨ts, h⟩ | ⟨e, h⟩
  · rw [h]
    cases ts with
    | nil => exact .inr ⟨.eof, rfl⟩
    | cons t r => exact .inl ⟨t :: r, rfl⟩
  · rw [h]; exact .inr ⟨e, rfl⟩

theorem scanAll_sep (cc : CharClass) {s : Str} (hs : IsSep s) (rest : Str) :
    scanAll (N := N) cc (s ++ rest) = scanAll cc rest := by
  rw [scanAll_eq, scanAll_eq cc rest, scanStep, scanStep, skipWs_sep hs]

theorem scan_sep (cc : CharClass) {s : Str} (hs : IsSep s) (rest : Str) :
    scan (N := N) cc (s ++ rest) = scan cc rest := by
  unfold scan; rw [scanAll_sep cc hs]

theorem scanAll_token (cc : CharClass) {src rest : Str} {t : Token N} (h : ReadsAs cc src t rest) :
    scanAll (N := N) cc src = match scanAll cc rest with
      | .ok ts => .ok (t :: ts)
      | o => o := by
  obtain ⟨c, cs, he, hsk, hnt⟩ := h
  rw [scanAll_eq, scanStep, he, hsk]
  simp only [hnt]

/-- nothing but separators (and possibly an open comment at the end): no tokens -/
theorem scanAll_trail (cc : CharClass) {t : Str} (ht : IsTrail t) : scanAll (N := N) cc t = .ok [] := by
  rw [scanAll_eq, scanStep, skipWs_trail ht]

/-- a token, one of its spellings, and the separator that follows it -/
structure Item (N : Type) where
  tok : Token N
  text : Str
  sep : Str

/-- the source text: each lexeme followed by its separator, then the trailing text -/
def render : List (Item N) → Str → Str
  | [], trail => trail
  | i :: r, trail => i.text ++ (i.sep ++ render r trail)

/-- every lexeme is followed by something that does not continue it -/
def Joinable (cc : CharClass) : List (Item N) → Str → Prop
  | [], _ => True
  | i :: r, trail => NoCont cc i.tok i.text (i.sep ++ render r trail) ∧ Joinable cc r trail

theorem scanAll_layout {cc : CharClass} (hcc : cc.AsciiOk) (items : List (Item N)) (s0 trail : Str)
    (hs0 : IsSep s0) (hitems : ∀ i ∈ items, Lexeme cc i.tok i.text ∧ IsSep i.sep)
    (hjoin : Joinable cc items trail) (htrail : IsTrail trail) :
    scanAll cc (s0 ++ render items trail) = .ok (items.map (·.tok)) := by
  induction items generalizing s0 with
  | nil =>
    rw [scanAll_sep cc hs0]
    exact scanAll_trail cc htrail
  | cons i r ih =>
    obtain ⟨hnc, hj⟩ := hjoin
    have hi := hitems i (by simp)
    rw [scanAll_sep cc hs0, render, scanAll_token cc (lexeme_reads hcc _ hi.1 hnc)]
    rw [ih i.sep hi.2 (fun j hj' => hitems j (by simp [hj'])) hj]
    rfl

theorem scan_layout {cc : CharClass} (hcc : cc.AsciiOk) (items : List (Item N)) (s0 trail : Str)
    (hne : items ≠ []) (hs0 : IsSep s0) (hitems : ∀ i ∈ items, Lexeme cc i.tok i.text ∧ IsSep i.sep)
    (hjoin : Joinable cc items trail) (htrail : IsTrail trail) :
    scan cc (s0 ++ render items trail) = .ok (items.map (·.tok)) := by
  unfold scan
  rw [scanAll_layout hcc items s0 trail hs0 hitems hjoin htrail]
  cases items with
  | nil => exact absurd rfl hne
  | cons i r => rfl

end Scanner
end Slac
