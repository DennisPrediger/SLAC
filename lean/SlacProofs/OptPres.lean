/-
  SlacProofs.OptPres — one `fold_constants` pass never changes what a tree evaluates to (value or error),
  under any environment with the same functions.
-/
import SlacProofs.OptMu
set_option autoImplicit false
namespace Slac.Opt
variable {N : Type} [NumOps N]

/-! the result of a node model depends only on the children's results -/

theorem unModel_res (op : Op) {a a' : R N} (h : a.1 = a'.1) : (unModel op a).1 = (unModel op a').1 := by
  obtain ⟨a1, t⟩ := a; obtain ⟨a1', t'⟩ := a'; simp only at h; subst h
  cases a1 <;> rfl

theorem rightBool_res (t t' : List (Event N)) {b b' : R N} (h : b.1 = b'.1) :
    (rightBool t b).1 = (rightBool t' b').1 := by
  obtain ⟨b1, u⟩ := b; obtain ⟨b1', u'⟩ := b'; simp only at h; subst h
  cases b1 with
  | ok v => rfl
  | error e => cases e <;> rfl

theorem ternModel_res (op : Op) {a a' b b' c c' : R N} (ha : a.1 = a'.1) (hb : b.1 = b'.1) (hc : c.1 = c'.1) :
    (ternModel op a b c).1 = (ternModel op a' b' c').1 := by
  by_cases hop : op = .ternaryCondition
  · subst hop
    obtain ⟨a1, t⟩ := a; obtain ⟨a1', t'⟩ := a'; cases ha
    cases a1 with
    | error e => rfl
    | ok v => simp only [ternModel]; split <;> assumption
  · rw [ternModel_other hop, ternModel_other hop]

theorem isLit_eval {e : Expr N} (h : isLit e = true) (env env' : Env N) : evalT env' e = evalT env e := by
  obtain ⟨v, rfl⟩ := isLit_iff.1 h; rfl

theorem allLit_evalList {es : List (Expr N)} (h : allLit es = true) (env env' : Env N) :
    evalList env' es = evalList env es := by
  obtain ⟨vs, rfl⟩ := allLit_iff.1 h
  rw [evalList_map_lit, evalList_map_lit]

theorem litArgs_eval {env env' : Env N} (hcall : ∀ f vs, env'.call f vs = env.call f vs) {e : Expr N}
    (h : LitArgs env e) : evalT env' e = evalT env e := by
  cases e with
  | unary r op => simp only [evalT, isLit_eval h env env']
  | binary l r op => simp only [evalT, isLit_eval h.1 env env', isLit_eval h.2 env env']
  | array es => simp only [evalT, allLit_evalList h env env']
  | call n ps => simp only [evalT, allLit_evalList h.1 env env', hcall]
  | _ => exact h.elim

/-- folding constants never changes what a tree evaluates to — value or error — under any environment
    that has the same functions (variables arbitrary, defined or not) -/
theorem fold_preserves (env env' : Env N) (hcall : ∀ f vs, env'.call f vs = env.call f vs) (e : Expr N) :
    (evalT env' (fold env e).tree).1 = (evalT env' e).1 := by
  refine (fold_ind env (Q := fun e e' => (evalT env' e').1 = (evalT env' e).1)
    (QL := fun es es' => (evalList env' es').1 = (evalList env' es).1) ?_ ?_ ?_ ?_ ?_ ?_ ?_ ?_ ?_ ?_).1 e
  · intro e; rfl
  · intro e v hl hv; rw [litArgs_eval hcall hl]; exact hv.symm
  · intro c m r; simp only [evalT, ternModel]; cases Value.asBool c <;> rfl
  · intro r r' op ih; exact unModel_res op ih
  · intro l l' r r' op ihl ihr; exact binModel_res op ihl ihr
  · intro l l' m m' r r' op ihl ihm ihr; exact ternModel_res op ihl ihm ihr
  · intro es es' ih; rw [evalT_array, evalT_array, ih]
  · intro n ps ps' ih; rw [evalT_call, evalT_call, ih]
  · rfl
  · intro e e' es es' ihe ihes; rw [evalList_cons, evalList_cons, ihe, ihes]

end Slac.Opt
