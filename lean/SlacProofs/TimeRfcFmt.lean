/-
  SlacProofs.TimeRfcFmt — what SlacProps.C16Rfc needs about chrono's strftime formatter and item parser beyond the default
  formats: one-item formats, the padding writers, failure as a property of the format alone (`Item.failsNaive`), and the
  format `%Y-%m-%d %H:%M:%S%.3f` (`fmtMs`) printed and parsed back.
-/
import SlacProofs.TimeRfcRound
set_option autoImplicit false
set_option linter.unusedSimpArgs false
namespace Slac.Time
open Stdlib TimeRfc

theorem fmtInt_zero_nat (n w : Nat) : fmtInt (n : Int) w .zero false = pad w n := by
  have : ¬ ((n : Int) < 0) := by omega
  simp [fmtInt, pad, this]

theorem fmtInt_none_nat (n w : Nat) : fmtInt (n : Int) w .none false = Nat.toDigits 10 n := by
  have : ¬ ((n : Int) < 0) := by omega
  simp [fmtInt, this]

/-- formatting a format that consists of one specifier producing one item -/
theorem strftime_one (t : DT) {fmt : Str} {it : Item} (h : items fmt = [it]) : strftime t fmt = fmtItem t it := by
  simp only [strftime, h, formatItems]
  cases fmtItem t it <;> simp

theorem formatItems_append (t : DT) (a b : List Item) :
    formatItems t (a ++ b) =
      match formatItems t a, formatItems t b with
      | some x, some y => some (x ++ y)
      | _, _ => none := by
  induction a with
  | nil => cases h : formatItems t b <;> simp [formatItems, h]
  | cons it its ih =>
    simp only [List.cons_append, formatItems, ih]
    cases fmtItem t it <;> cases formatItems t its <;> cases formatItems t b <;> simp

theorem ofNat48_dc : ∀ k, k < 10 → Char.ofNat (48 + k) = k.digitChar := by decide

theorem writeTwo_none (v : Nat) : writeTwo v .none = Nat.toDigits 10 v := by
  unfold writeTwo; split <;> simp

theorem writeTwo_space (v : Nat) :
    writeTwo v .space = if v < 10 then ' ' :: Nat.toDigits 10 v else Nat.toDigits 10 v := by
  unfold writeTwo; split <;> simp

/-- the century writer agrees with plain zero padding below 100 (years 0–9999) -/
theorem writeTwoU8_zero (v : Nat) (h : v < 100) : writeTwoU8 v .zero = pad 2 v := by
  have e : v % 256 = v := by omega
  rw [pad2_spec v h]
  unfold writeTwoU8
  simp only [e]
  by_cases h0 : v / 10 = 0
  · have e1 : v % 10 = v := by omega
    simp [h0, ofNat48_dc v (by omega), e1]
  · simp [h0, ofNat48_dc (v / 10) (by omega), ofNat48_dc (v % 10) (by omega)]

/-- the items that cannot be formatted without an offset, and the error item -/
def Item.failsNaive : Item → Bool
  | .error => true
  | .fixed .timezoneName | .fixed .timezoneOffset | .fixed .timezoneOffsetColon | .fixed .timezoneOffsetDoubleColon
  | .fixed .timezoneOffsetTripleColon | .fixed .timezoneOffsetPermissive | .fixed .rfc3339 => true
  | _ => false

theorem fmtItem_none_iff (t : DT) (it : Item) : fmtItem t it = none ↔ it.failsNaive = true := by
  cases it with
  | literal s => simp [fmtItem, Item.failsNaive]
  | space s => simp [fmtItem, Item.failsNaive]
  | numeric n p => simp [fmtItem, Item.failsNaive]
  | fixed f => cases f <;> simp [fmtItem, fmtFixed, Item.failsNaive]
  | error => simp [fmtItem, Item.failsNaive]

theorem formatItems_none_iff (t : DT) (its : List Item) :
    formatItems t its = none ↔ its.any Item.failsNaive = true := by
  induction its with
  | nil => simp [formatItems]
  | cons it its ih =>
    simp only [formatItems, List.any_cons, Bool.or_eq_true]
    cases h1 : fmtItem t it with
    | none => simp [(fmtItem_none_iff t it).1 h1]
    | some a =>
      have hn : it.failsNaive = false := by
        cases hf : it.failsNaive with
        | false => rfl
        | true => rw [(fmtItem_none_iff t it).2 hf] at h1; cases h1
      cases h2 : formatItems t its with
      | none => simp [hn, ih.1 h2]
      | some b =>
        have : ¬ (its.any Item.failsNaive = true) := fun hc => by rw [ih.2 hc] at h2; cases h2
        simp [hn, this]

/-- `%Y-%m-%d %H:%M:%S%.3f` -/
def fmtMs : Str := fmtDatetime ++ ['%', '.', '3', 'f']

theorem items_fmtMs : items fmtMs =
    [num0 .year, .literal ['-'], num0 .month, .literal ['-'], num0 .day, .space [' '],
     num0 .hour, .literal [':'], num0 .minute, .literal [':'], num0 .second, .fixed .nanosecond3] := by decide

theorem strftime_ms (t : DT) :
    strftime t fmtMs = some (datetimeText t.year t.month t.day t.hour t.minute t.second ++ '.' :: pad 3 t.milli) := by
  simp [strftime, items_fmtMs, formatItems, fmtItem, fmtNumeric, fmtFixed, num0, writeTwo_zero, writeYear_zero,
    datetimeText, dateText, timeText]

/-- the item `%.3f` on `.mmm` -/
theorem item_dot3f (ml : Nat) (hml : ml < 1000) (r : Str) (p : Parsed) (hp : p.nanosecond = none) :
    parseItem (.fixed .nanosecond3) ('.' :: (pad 3 ml ++ r)) p = .ok (r, { p with nanosecond := some (ml * 1000000) }) := by
  have e : ml / 100 * 100 + ml / 10 % 10 * 10 + ml % 10 = ml := by omega
  have hn : ml * 1000000 ≤ 999999999 := by omega
  simp only [parseItem, parseFixed, setNanoFrom, nanosecondFixed, pad3_spec ml hml, List.cons_append, List.nil_append,
    number_3chars _ _ _ (by omega : ml / 100 < 10) (by omega : ml / 10 % 10 < 10) (by omega : ml % 10 < 10) r 3 3 (Nat.le_refl 3)
      (Or.inl rfl), e]
  -- not `simp`: it evaluates `ml * 1000000` by unary recursion on the literal
  rw [show ml * 10 ^ (9 - 3) = ml * 1000000 from rfl, setNanosecond_eval p hp, if_pos hn]
  rfl

section
variable {N : Type} [NumX N]

theorem stringToDatetime_ms (y : Int) (m d h mi s ml : Nat) (h0 : 0 ≤ y) (h1 : y ≤ 9999)
    (hv : validDate y m d = true) (hh : h < 24) (hmi : mi < 60) (hs : s < 60) (hml : ml < 1000) :
    stringToDatetime [(.str (datetimeText y m d h mi s ++ '.' :: pad 3 ml) : Value N), .str fmtMs] =
      some (.ok (encode ⟨daysFromCivil y m d, (h * 3600 + mi * 60 + s) * 1000 + ml⟩)) := by
  rw [stringToDatetime_fields _ fmtMs _ rfl y m d h mi s (some (ml * 1000000)) ?_ hv hs
    (by simp only [Option.getD]; omega), encode_eq]
  · congr 3
    simp only [NDT.millis, NDT.timestamp, DT.totalMs, msPerDay, Option.getD]
    omega
  · rw [parseAll, items_fmtMs, parse_datetimeText y m d h mi s h0 h1 (validDate_bounds hv) hh hmi (by omega),
      ← List.append_nil (pad 3 ml), parseItems_ok (item_dot3f ml hml [] _ rfl)]
    rfl
end

end Slac.Time
