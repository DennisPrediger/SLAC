/-
  SlacProofs.ParserNest — the recursion depth of the parser depends on the number of *opening* tokens
  (`(`, `[`, `not`, `-`), not on the length of the input:

      dPrec f 1 toks ≤ 9 * (1 + openers toks)

  (`dPrec` = number of simultaneously active `parse_precedence` frames, SlacProofs.ParserDepth.)
  Reason: a nested activation either follows an opening token, or is the right operand of a binary operator and then
  runs at a strictly higher precedence than its parent — at most 7 such steps (Or … Unary) before an opener is needed.
  So a flat input of any length (`a + b * c - d …`) is parsed in constant stack.
-/
import SlacProofs.ParserDepth
set_option autoImplicit false
namespace Slac.Parser
variable {N : Type}

/-- tokens after which `do_prefix` recurses, plus `(` as the call operator -/
def isOpener : Token N → Bool
  | .leftParen | .leftBracket | .not | .minus => true
  | _ => false

def openers : List (Token N) → Nat
  | [] => 0
  | t :: r => (if isOpener t then 1 else 0) + openers r

theorem openers_cons (t : Token N) (r : List (Token N)) :
    openers (t :: r) = (if isOpener t then 1 else 0) + openers r := rfl

theorem openers_suffix {a b : List (Token N)} (h : a <:+ b) : openers a ≤ openers b := by
  obtain ⟨pre, rfl⟩ := h
  induction pre with
  | nil => exact Nat.le_refl _
  | cons t p ih => rw [List.cons_append, openers_cons]; omega

theorem openers_le_length (ts : List (Token N)) : openers ts ≤ ts.length := by
  induction ts with
  | nil => exact Nat.le_refl _
  | cons t r ih => rw [openers_cons, List.length_cons]; split <;> omega

theorem dPrec_nest_le (f : Nat) (toks : List (Token N)) : dPrec f 1 toks ≤ 9 * (1 + openers toks) := by
  have hc (t : Token N) (r : List (Token N)) : openers r ≤ openers (t :: r) := Nat.le_add_left _ _
  have := (depth_induction (a := fun p toks => (9 - p) + 1 + 9 * openers toks) (b := fun t rest => 9 * openers (t :: rest))
    (c := fun p toks => (9 - p) + 9 * openers toks) (d := fun t rest => (9 - Token.prec t) + 9 * openers (t :: rest))
    (e := fun toks => 9 + 9 * openers toks)
    (c_mono := fun h => Nat.add_le_add_left (Nat.mul_le_mul_left 9 (openers_suffix h)) _)
    (e_mono := fun h => Nat.add_le_add_left (Nat.mul_le_mul_left 9 (openers_suffix h)) _)
    (nil := Nat.le_add_left _ _) (cons := fun {_ t r} => by have := hc t r; omega)
    (paren := fun {rest} => by show _ ≤ 9 * (1 + openers rest); omega) (array := fun {rest} => by show _ ≤ 9 * (1 + openers rest); omega)
    (unot := fun {rest} => by show _ ≤ 9 * (1 + openers rest); omega) (uminus := fun {rest} => by show _ ≤ 9 * (1 + openers rest); omega)
    (loop := fun hp => by omega)
    (binary := fun {t _ rest} hb => by
      have := (prec_binOp_le hb).2; have := hc t rest
      rw [nextPrec_binOp hb]; omega)
    (call := fun {rest} => by show _ ≤ (9 - 9) + 9 * (1 + openers rest); omega) (item := by intros; omega) f).1 1 toks
  omega

end Slac.Parser
