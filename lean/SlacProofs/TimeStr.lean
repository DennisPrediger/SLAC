/-
  SlacProofs.TimeStr — printing and parsing with the default formats `%Y-%m-%d`, `%H:%M:%S`,
  `%Y-%m-%d %H:%M:%S`: zero-padded decimal fields; chrono's formatter (SlacModel.TimeFmt) prints the canonical texts
  and chrono's parser (SlacModel.TimeParse) inverts them; the reference parsers `parseDate`/`parseTime` on the same texts.
-/
import SlacProofs.TimeNum
import SlacProofs.TimeRfcScan
set_option autoImplicit false
namespace Slac.Time
open Stdlib

theorem digits1 (n : Nat) (h : n < 10) : Nat.toDigits 10 n = [n.digitChar] := Nat.toDigits_of_lt_base h
theorem digits2 (n : Nat) (h1 : 10 ≤ n) (h : n < 100) :
    Nat.toDigits 10 n = [(n / 10).digitChar, (n % 10).digitChar] := by
  rw [Nat.toDigits_of_base_le (by omega) h1, digits1 (n / 10) (by omega)]; rfl

theorem pad_succ (w n : Nat) (hw : 1 ≤ w) : pad (w + 1) n = pad w (n / 10) ++ [(n % 10).digitChar] := by
  simp only [pad]
  by_cases h : n < 10
  · obtain ⟨v, rfl⟩ : ∃ v, w = v + 1 := ⟨w - 1, by omega⟩
    rw [show n / 10 = 0 by omega, show n % 10 = n by omega, digits1 n h, digits1 0 (by omega)]
    exact congrArg (· ++ [n.digitChar]) List.replicate_succ'
  · rw [Nat.toDigits_of_base_le (by omega) (by omega), List.length_append, List.length_singleton,
      Nat.add_sub_add_right, List.append_assoc]

theorem pad2_spec (n : Nat) (h : n < 100) : pad 2 n = [(n / 10).digitChar, (n % 10).digitChar] := by
  rw [pad_succ 1 n (by omega)]
  simp only [pad, digits1 (n / 10) (by omega)]; rfl

theorem pad3_spec (n : Nat) (h : n < 1000) :
    pad 3 n = [(n / 100).digitChar, (n / 10 % 10).digitChar, (n % 10).digitChar] := by
  rw [pad_succ 2 n (by omega), pad2_spec (n / 10) (by omega), Nat.div_div_eq_div_mul]; rfl

theorem pad4_spec (n : Nat) (h : n < 10000) :
    pad 4 n = [(n / 1000).digitChar, (n / 100 % 10).digitChar, (n / 10 % 10).digitChar, (n % 10).digitChar] := by
  rw [pad_succ 3 n (by omega), pad3_spec (n / 10) (by omega), Nat.div_div_eq_div_mul, Nat.div_div_eq_div_mul]; rfl

theorem num2_digitChar (a b : Nat) (ha : a < 10) (hb : b < 10) :
    num2 a.digitChar b.digitChar = some (a * 10 + b) := by
  simp [num2, digit_dc a ha, digit_dc b hb]
theorem num2_pad (n : Nat) (h : n < 100) : num2 (n / 10).digitChar (n % 10).digitChar = some n := by
  rw [num2_digitChar _ _ (by omega) (Nat.mod_lt _ (by decide)), Nat.div_add_mod']
theorem num4_pad (n : Nat) (h : n < 10000) :
    num4 (n / 1000).digitChar (n / 100 % 10).digitChar (n / 10 % 10).digitChar (n % 10).digitChar = some n := by
  simp only [num4, num2_digitChar (n / 1000) (n / 100 % 10) (by omega) (Nat.mod_lt _ (by decide)),
    num2_digitChar (n / 10 % 10) (n % 10) (Nat.mod_lt _ (by decide)) (Nat.mod_lt _ (by decide))]
  show some _ = some n
  congr 1; omega

/-- `YYYY-MM-DD` -/
def dateText (y : Int) (m d : Nat) : Str := fmtYear y ++ '-' :: (pad 2 m ++ '-' :: pad 2 d)
/-- `HH:MM:SS` -/
def timeText (h mi s : Nat) : Str := pad 2 h ++ ':' :: (pad 2 mi ++ ':' :: pad 2 s)
/-- `YYYY-MM-DD HH:MM:SS` -/
def datetimeText (y : Int) (m d h mi s : Nat) : Str := dateText y m d ++ ' ' :: timeText h mi s

theorem fmtYear_small (y : Int) (h0 : 0 ≤ y) (h1 : y ≤ 9999) : fmtYear y = pad 4 y.toNat := by
  simp [fmtYear, h0, h1]

theorem dateText_chars (y : Int) (m d : Nat) (h0 : 0 ≤ y) (h1 : y ≤ 9999) (hm : m < 100) (hd : d < 100) :
    dateText y m d =
      [(y.toNat / 1000).digitChar, (y.toNat / 100 % 10).digitChar, (y.toNat / 10 % 10).digitChar,
       (y.toNat % 10).digitChar, '-', (m / 10).digitChar, (m % 10).digitChar, '-',
       (d / 10).digitChar, (d % 10).digitChar] := by
  rw [dateText, fmtYear_small y h0 h1, pad4_spec _ (by omega), pad2_spec m hm, pad2_spec d hd]; rfl

theorem timeText_chars (h mi s : Nat) (hh : h < 100) (hmi : mi < 100) (hs : s < 100) :
    timeText h mi s =
      [(h / 10).digitChar, (h % 10).digitChar, ':', (mi / 10).digitChar, (mi % 10).digitChar, ':',
       (s / 10).digitChar, (s % 10).digitChar] := by
  rw [timeText, pad2_spec h hh, pad2_spec mi hmi, pad2_spec s hs]; rfl

theorem parseDate_shape (y1 y2 y3 y4 m1 m2 d1 d2 : Char) :
    parseDate [y1, y2, y3, y4, '-', m1, m2, '-', d1, d2] =
      match num4 y1 y2 y3 y4, num2 m1 m2, num2 d1 d2 with
      | some y, some m, some d => some (if validDate y m d then some ((y : Int), m, d) else none)
      | _, _, _ => none := by unfold parseDate; rfl

theorem parseTime_shape (h1 h2 m1 m2 s1 s2 : Char) :
    parseTime [h1, h2, ':', m1, m2, ':', s1, s2] =
      match num2 h1 h2, num2 m1 m2, num2 s1 s2 with
      | some h, some m, some s =>
          some (if h < 24 && m < 60 && s < 60 then some ((h * 3600 + m * 60 + s) * 1000) else none)
      | _, _, _ => none := by unfold parseTime; rfl

theorem parseDate_dateText (y : Int) (m d : Nat) (h0 : 0 ≤ y) (h1 : y ≤ 9999) (hm : m < 100) (hd : d < 100) :
    parseDate (dateText y m d) = some (if validDate y m d then some (y, m, d) else none) := by
  rw [dateText_chars y m d h0 h1 hm hd, parseDate_shape, num4_pad _ (by omega), num2_pad m hm, num2_pad d hd]
  have : ((y.toNat : Nat) : Int) = y := by omega
  simp only [this]

theorem parseTime_timeText (h mi s : Nat) (hh : h < 100) (hmi : mi < 100) (hs : s < 100) :
    parseTime (timeText h mi s) =
      some (if h < 24 && mi < 60 && s < 60 then some ((h * 3600 + mi * 60 + s) * 1000) else none) := by
  rw [timeText_chars h mi s hh hmi hs, parseTime_shape, num2_pad h hh, num2_pad mi hmi, num2_pad s hs]

theorem writeTwo_zero (v : Nat) : writeTwo v .zero = pad 2 v := by
  unfold writeTwo pad
  by_cases h : v < 10
  · simp [h, Nat.toDigits_of_lt_base h]
  · have : 2 ≤ (Nat.toDigits 10 v).length := by
      rw [Nat.toDigits_of_base_le (by omega) (by omega)]
      have := @Nat.length_toDigits_pos 10 (v / 10)
      simp; omega
    simp [h]
    omega

theorem writeYear_zero (y : Int) : writeYear y .zero = fmtYear y := by
  unfold writeYear fmtYear
  by_cases h1 : 1000 ≤ y ∧ y ≤ 9999
  · have : 0 ≤ y ∧ y ≤ 9999 := by omega
    simp [h1, this]
  · by_cases h2 : 0 ≤ y ∧ y < 10000
    · have h3 : 0 ≤ y ∧ y ≤ 9999 := by omega
      have h4 : ¬ y < 0 := by omega
      have h5 : y.natAbs = y.toNat := by omega
      simp [h2, h3, fmtInt, h4, pad, h5]
    · have h3 : ¬ (0 ≤ y ∧ y ≤ 9999) := by omega
      by_cases h4 : y < 0
      · simp [h1, h2, h3, fmtInt, h4, pad]; omega
      · have h5 : y.natAbs = y.toNat := by omega
        simp [h1, h2, h3, fmtInt, h4, pad, h5]; omega

theorem items_fmtDate : items fmtDate = [num0 .year, .literal ['-'], num0 .month, .literal ['-'], num0 .day] := by decide +kernel
theorem items_fmtTime : items fmtTime = [num0 .hour, .literal [':'], num0 .minute, .literal [':'], num0 .second] := by decide +kernel
theorem items_fmtDatetime : items fmtDatetime =
    [num0 .year, .literal ['-'], num0 .month, .literal ['-'], num0 .day, .space [' '],
     num0 .hour, .literal [':'], num0 .minute, .literal [':'], num0 .second] := by decide +kernel

theorem strftime_date (t : DT) : strftime t fmtDate = some (dateText t.year t.month t.day) := by
  simp [strftime, items_fmtDate, formatItems, fmtItem, fmtNumeric, num0, writeTwo_zero, writeYear_zero, dateText]

theorem strftime_time (t : DT) : strftime t fmtTime = some (timeText t.hour t.minute t.second) := by
  simp [strftime, items_fmtTime, formatItems, fmtItem, fmtNumeric, num0, writeTwo_zero, timeText]

theorem strftime_datetime (t : DT) :
    strftime t fmtDatetime = some (datetimeText t.year t.month t.day t.hour t.minute t.second) := by
  simp [strftime, items_fmtDatetime, formatItems, fmtItem, fmtNumeric, num0, writeTwo_zero, writeYear_zero,
    datetimeText, dateText, timeText]

theorem ite_ite_same {α : Type} (a b : Prop) [Decidable a] [Decidable b] (x e : α) :
    (if a then (if b then x else e) else e) = if a ∧ b then x else e := by
  by_cases ha : a <;> simp [ha]

/-- a two-digit field whose setter accepts exactly the values satisfying `c` -/
theorem parseItems_num2 {n : Numeric} (hw : numericWidth n = 2) (hs : numericSigned n = false) {v : Nat} (hv : v < 100)
    {p p' : Parsed} {c : Prop} [Decidable c] (hset : setNumeric n p (v : Int) = if c then .ok p' else .error .outOfRange)
    (r : Str) (its : List Item) :
    parseItems (num0 n :: its) ((v / 10).digitChar :: (v % 10).digitChar :: r) p =
      if c then parseItems its r p' else .error .outOfRange := by
  have h := item_num2 n .zero hw hs v hv r p
  rw [hset] at h
  split
  · rename_i hc; rw [if_pos hc] at h; exact parseItems_ok h
  · rename_i hc; rw [if_neg hc] at h; exact parseItems_err h

/-- fields after parsing `YYYY-MM-DD` (followed by anything) with the items of `%Y-%m-%d` -/
theorem parse_dateText (y : Int) (m d : Nat) (h0 : 0 ≤ y) (h1 : y ≤ 9999) (hm : m < 100) (hd : d < 100) (r : Str)
    (its : List Item) :
    parseItems (num0 .year :: .literal ['-'] :: num0 .month :: .literal ['-'] :: num0 .day :: its)
      (dateText y m d ++ r) {} =
      if (1 ≤ m ∧ m ≤ 12) ∧ (1 ≤ d ∧ d ≤ 31) then parseItems its r { year := some y, month := some m, day := some d }
      else .error .outOfRange := by
  obtain ⟨n, rfl⟩ : ∃ n : Nat, y = n := ⟨y.toNat, by omega⟩
  rw [dateText_chars n m d h0 h1 hm hd]
  simp only [List.cons_append, List.nil_append, Int.toNat_natCast]
  rw [parseItems_ok (by rw [num0, item_year4 _ _ (by omega), setYear_small _ rfl _ (by omega)]; rfl),
    parseItems_ok (item_lit _ _ _), parseItems_num2 (n := .month) rfl rfl hm (setMonth_eval _ rfl m),
    parseItems_ok (item_lit _ _ _), parseItems_num2 (n := .day) rfl rfl hd (setDay_eval _ rfl d), ite_ite_same]

/-- fields after parsing `HH:MM:SS` (followed by anything) with the items of `%H:%M:%S`, on top of date fields -/
theorem parse_timeText (h mi s : Nat) (hh : h < 100) (hmi : mi < 100) (hs : s < 100) (oy : Option Int) (om od : Option Nat)
    (r : Str) (its : List Item) :
    parseItems (num0 .hour :: .literal [':'] :: num0 .minute :: .literal [':'] :: num0 .second :: its)
      (timeText h mi s ++ r) { year := oy, month := om, day := od } =
      if h < 24 ∧ mi < 60 ∧ s ≤ 60 then
        parseItems its r { year := oy, month := om, day := od, hourDiv12 := some (h / 12), hourMod12 := some (h % 12), minute := some mi, second := some s }
      else .error .outOfRange := by
  rw [timeText_chars h mi s hh hmi hs]
  simp only [List.cons_append, List.nil_append]
  rw [parseItems_num2 (n := .hour) rfl rfl hh (setHour_eval _ rfl rfl h), parseItems_ok (item_lit _ _ _),
    parseItems_num2 (n := .minute) rfl rfl hmi (setMinute_eval _ rfl mi), parseItems_ok (item_lit _ _ _),
    parseItems_num2 (n := .second) rfl rfl hs (setSecond_eval _ rfl s), ite_ite_same (mi < 60), ite_ite_same]

theorem parse_datetimeText (y : Int) (m d h mi s : Nat) (h0 : 0 ≤ y) (h1 : y ≤ 9999)
    (hb : (1 ≤ m ∧ m ≤ 12) ∧ (1 ≤ d ∧ d ≤ 31)) (hh : h < 24) (hmi : mi < 60) (hs : s ≤ 60) (sp r : Str) (its : List Item) :
    parseItems (num0 .year :: .literal ['-'] :: num0 .month :: .literal ['-'] :: num0 .day :: .space sp ::
        num0 .hour :: .literal [':'] :: num0 .minute :: .literal [':'] :: num0 .second :: its)
      (datetimeText y m d h mi s ++ r) {} =
      parseItems its r
        { year := some y, month := some m, day := some d, hourDiv12 := some (h / 12), hourMod12 := some (h % 12),
          minute := some mi, second := some s } := by
  have hsp : parseItem (.space sp) (' ' :: (timeText h mi s ++ r)) { year := some y, month := some m, day := some d } =
      .ok (timeText h mi s ++ r, { year := some y, month := some m, day := some d }) := by
    rw [timeText_chars h mi s (by omega) (by omega) (by omega)]; exact item_space_dc sp _ (by omega) _ _
  rw [datetimeText, List.append_assoc, List.cons_append, parse_dateText y m d h0 h1 (by omega) (by omega), if_pos hb,
    parseItems_ok hsp, parse_timeText h mi s (by omega) (by omega) (by omega), if_pos ⟨hh, hmi, hs⟩]

section
variable {N : Type} [NumX N]

theorem encode_eq (t : DT) : (encode t : Value N) = encodeMs t.totalMs := rfl

theorem dateToString_str (fmt : Str) (v : Value N) :
    dateToString [.str fmt, v] =
      match decode v with
      | .error e => some (.error e)
      | .ok t => some (fmtResult (strftime t fmt)) := by unfold dateToString; rfl

theorem stringToDate_dateText (y : Int) (m d : Nat) (h0 : 0 ≤ y) (h1 : y ≤ 9999) (hm : m < 100) (hd : d < 100) :
    stringToDate [(.str (dateText y m d) : Value N)] =
      if validDate y m d then some (.ok (encode ⟨daysFromCivil y m d, 0⟩))
      else some (.error (custom "input is out of range")) := by
  have hp := parse_dateText y m d h0 h1 hm hd [] []
  rw [List.append_nil] at hp
  simp only [stringToDate, defaultString, List.getElem?_cons_succ, List.getElem?_nil, parseAll, items_fmtDate]
  rw [hp]
  by_cases hv : validDate y m d = true
  · have hb := validDate_bounds hv
    simp [hb, parseItems, toNaiveDate_ymd y m d none, hv, optEqOr, finish, encode, encodeMs, DT.totalMs,
      dateOverflow_isoWeek_none, Except.map]
  · by_cases hb : (1 ≤ m ∧ m ≤ 12) ∧ (1 ≤ d ∧ d ≤ 31)
    · simp [hb, parseItems, toNaiveDate_ymd y m d none, hv, finish, PErr.msg, dateOverflow_isoWeek_none, Except.map]
    · simp [hb, hv, PErr.msg]

theorem stringToTime_timeText (h mi s : Nat) (hh : h < 100) (hmi : mi < 100) (hs : s < 100) :
    stringToTime [(.str (timeText h mi s) : Value N)] =
      if h < 24 ∧ mi < 60 ∧ s < 60 then some (.ok (encode ⟨0, ((h * 60 + mi) * 60 + s) * 1000⟩))
      else some (.error (custom "input is out of range")) := by
  have hp := parse_timeText h mi s hh hmi hs none none none [] []
  rw [List.append_nil] at hp
  rw [← hms_millis]
  simp only [stringToTime, defaultString, List.getElem?_cons_succ, List.getElem?_nil, parseAll, items_fmtTime]
  rw [hp]
  by_cases hv : h < 24 ∧ mi < 60 ∧ s ≤ 60
  · rw [if_pos hv]
    have ht := toNaiveTime_hms
      ({ hourDiv12 := some (h / 12), hourMod12 := some (h % 12), minute := some mi, second := some s } : Parsed)
      h mi s none rfl rfl rfl rfl rfl
    simp only [parseItems, bind, Except.bind, ht]
    by_cases h60 : s = 60
    · simp [rejectLeap, h60, finish, PErr.msg]
    · have h3 : h < 24 ∧ mi < 60 ∧ s < 60 := by omega
      have h4 : min s 59 = s := by omega
      simp [rejectLeap, h60, finish, h3, h4, pure, Except.pure, NDT.millis, NDT.timestamp, encode, encodeMs, DT.totalMs, msPerDay]
  · have : ¬ (h < 24 ∧ mi < 60 ∧ s < 60) := by omega
    simp [hv, this, bind, Except.bind, finish, PErr.msg]

/-- `string_to_datetime` on a text whose parsed fields give a date and a time of day outside a leap second;
    `fmt` is the second argument or the default format -/
theorem stringToDatetime_of_parse (s fmt : Str) (rest : List (Value N))
    (hfmt : defaultString (.str s :: rest) 1 fmtDatetime = .ok fmt) (p : Parsed) (d : Int) (t : NTime)
    (hp : parseAll (items fmt) s = .ok p) (hw : p.isoWeek = none) (hts : p.timestamp = none)
    (hd : p.toNaiveDate = .ok d) (ht : p.toNaiveTime = .ok t) (hl : t.nano < 1000000000) :
    stringToDatetime (.str s :: rest) = some (.ok (encodeMs (NDT.millis ⟨d, t⟩))) := by
  have hl' : ¬ t.nano ≥ 1000000000 := by omega
  simp only [stringToDatetime, hfmt, hp, datetimeOverflow_ok p 0 hw d t hd ht, Bool.false_eq_true, if_false,
    Parsed.toNaiveDatetime, hd, ht, hts, bind, Except.bind, rejectLeap, hl', finish, pure, Except.pure]

theorem stringToDatetime_fields (txt fmt : Str) (rest : List (Value N))
    (hfmt : defaultString (.str txt :: rest) 1 fmtDatetime = .ok fmt) (y : Int) (m d h mi s : Nat) (ns : Option Nat)
    (hp : parseAll (items fmt) txt = .ok
      { year := some y, month := some m, day := some d, hourDiv12 := some (h / 12), hourMod12 := some (h % 12),
        minute := some mi, second := some s, nanosecond := ns })
    (hv : validDate y m d = true) (hs : s < 60) (hns : ns.getD 0 < 1000000000) :
    stringToDatetime (.str txt :: rest) =
      some (.ok (encodeMs (NDT.millis ⟨daysFromCivil y m d, ⟨h * 3600 + mi * 60 + s, ns.getD 0⟩⟩))) := by
  refine stringToDatetime_of_parse txt fmt rest hfmt _ _ _ hp rfl rfl ?_ ?_ hns
  · exact (toNaiveDate_ymd_of _ y m d none rfl rfl rfl rfl rfl rfl rfl rfl rfl rfl rfl rfl rfl).trans (if_pos hv)
  · rw [toNaiveTime_hms _ h mi s ns rfl rfl rfl rfl rfl, if_neg (by omega), Nat.min_eq_left (by omega), Nat.zero_add]

theorem stringToDatetime_datetimeText (y : Int) (m d h mi s : Nat) (h0 : 0 ≤ y) (h1 : y ≤ 9999)
    (hv : validDate y m d = true) (hh : h < 24) (hmi : mi < 60) (hs : s < 60) :
    stringToDatetime [(.str (datetimeText y m d h mi s) : Value N)] =
      some (.ok (encode ⟨daysFromCivil y m d, ((h * 60 + mi) * 60 + s) * 1000⟩)) := by
  rw [stringToDatetime_fields _ fmtDatetime [] rfl y m d h mi s none ?_ hv hs (by decide), encode_eq]
  · congr 3
    simp only [NDT.millis, NDT.timestamp, DT.totalMs, msPerDay, Option.getD]
    omega
  · rw [← List.append_nil (datetimeText y m d h mi s), parseAll, items_fmtDatetime,
      parse_datetimeText y m d h mi s h0 h1 (validDate_bounds hv) hh hmi (by omega)]
    rfl

end

variable {N : Type} [NumX N] [LawfulTimeNum N]

theorem dateToString_encode (fmt : Str) (t : DT) (h : t.Enc) :
    dateToString [.str fmt, (encode t : Value N)] =
      some (fmtResult (strftime t fmt)) := by
  rw [dateToString_str, decode_encode t h]

end Slac.Time
