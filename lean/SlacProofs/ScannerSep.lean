/-
  SlacProofs.ScannerSep — when is the text after a lexeme harmless?  A non-empty separator always is (except
  `//…` directly after the token `/`); with no separator it depends on the two tokens only (`needsSep`).
-/
import SlacProofs.ScannerLoop
set_option autoImplicit false
namespace Slac
namespace Scanner
variable {N : Type}

/-- the first character of a separator does not continue any lexeme — except `/` after the token `/` -/
theorem fuse_sepHead {cc : CharClass} (hcc : cc.AsciiOk) (t : Token N) (x : Str) (c : Char)
    (hc : isWs c = true ∨ c = '{' ∨ c = '/') (hsl : lexClass t = .slash → c ≠ '/') : fuse cc t x c = false := by
  have hsp : isSpecial c = true := by
    rcases hc with h | h | h
    · exact isWs_special c h
    · subst h; decide
    · subst h; decide
  have h1 := special_identCont hcc c hsp
  have h2 := special_numeric hcc c hsp
  have hne : c ≠ '.' ∧ c ≠ '\'' ∧ c ≠ '=' ∧ c ≠ '>' := by
    rcases hc with h | h | h
    · simp only [isWs, Bool.or_eq_true, beq_iff_eq] at h
      rcases h with ((h | h) | h) | h <;> subst h <;> decide
    · subst h; decide
    · subst h; decide
  unfold fuse
  cases hcl : lexClass t <;> simp [h1, h2, hne]
  exact hsl hcl

theorem IsTrail.head {t : Str} (h : IsTrail t) : ∀ (c : Char) (r : Str), t = c :: r →
    isWs c = true ∨ c = '{' ∨ (c = '/' ∧ ∃ r', r = '/' :: r') := by
  induction h with
  | nil => intro c r h; cases h
  | lineEof _ => intro c r h; cases h; exact .inr (.inr ⟨rfl, _, rfl⟩)
  | blockEof _ => intro c r h; cases h; exact .inr (.inl rfl)
  | @sep s t hs _ ih =>
    intro c r h
    cases s with
    | nil => exact ih c r h
    | cons d s' =>
      simp only [List.cons_append, List.cons.injEq] at h
      obtain ⟨rfl, rfl⟩ := h
      rcases hs.head with h | h | ⟨h, r', hr'⟩
      · exact .inl h
      · exact .inr (.inl h)
      · exact .inr (.inr ⟨h, r' ++ t, by rw [hr']; rfl⟩)

/-- the separator `s` may follow the token `t`: after the token `/` it must not begin with `/`
    (`/` followed by `// …` would read as the comment `/// …`) -/
def SepFits (t : Token N) (s : Str) : Prop := lexClass t = .slash → ∀ r, s ≠ '/' :: r

/-- a non-empty separator (or trailing text) never continues the lexeme before it -/
theorem noCont_trail [NumOps N] {cc : CharClass} (hcc : cc.AsciiOk) (t : Token N) (x s : Str) (hs : IsTrail s)
    (hfit : SepFits t s) : NoCont cc t x s := by
  cases s with
  | nil => exact HeadNot.nil _
  | cons c r =>
    apply HeadNot.cons
    apply fuse_sepHead hcc
    · rcases hs.head c r rfl with h | h | ⟨h, _⟩
      · exact .inl h
      · exact .inr (.inl h)
      · exact .inr (.inr h)
    · intro hcl hc; subst hc; exact hfit hcl r rfl

theorem noCont_sep [NumOps N] {cc : CharClass} (hcc : cc.AsciiOk) (t : Token N) (x s rest : Str) (hs : IsSep s)
    (hne : s ≠ []) (hfit : SepFits t s) : NoCont cc t x (s ++ rest) := by
  cases s with
  | nil => exact absurd rfl hne
  | cons c r =>
    have := noCont_trail hcc t x (c :: r) hs.trail hfit
    exact HeadNot.cons this.of_cons

/-- how a lexeme begins -/
inductive StartClass | word | number | quote | eq | gt | slash | other
deriving DecidableEq

def startClass : Token N → StartClass
  | .identifier _ | .and | .or | .xor | .not | .div | .mod | .literal (.bool _) => .word
  | .literal (.num _) => .number
  | .literal (.str _) => .quote
  | .equal => .eq
  | .greater | .greaterEqual => .gt
  | .slash => .slash
  | _ => .other

/-- `needsSep t t'`: the texts of `t` and `t'` may not be written next to each other without a separator:
    identifier/keyword/number before identifier/keyword/number; string before string; `<` before `=`, `>`, `>=`;
    `>` before `=`; `/` before `/`.  (Conservative: e.g. `1` directly before `x` is in fact read as two tokens.) -/
def needsSep (t t' : Token N) : Bool :=
  match lexClass t, startClass t' with
  | .word, .word | .word, .number | .number, .word | .number, .number => true
  | .string, .quote => true
  | .less, .eq | .less, .gt => true
  | .greater, .eq => true
  | .slash, .slash => true
  | _, _ => false

/-- what is known about the first character of a lexeme -/
def StartsOk (cc : CharClass) : StartClass → Char → Prop
  | .word, c => isIdentStart cc c = true
  | .number, c => cc.isNumeric c = true ∨ c = '.'
  | .quote, c => c = '\''
  | .eq, c => c = '='
  | .gt, c => c = '>'
  | .slash, c => c = '/'
  | .other, c => c ∈ ['(', ')', '[', ']', ',', '+', '-', '*', '<']

theorem kwToken_startClass (low : Str) (t : Token N) (h : kwToken low = some t) : startClass t = .word :=
  kwToken_elim (P := fun t => startClass t = .word) h rfl rfl rfl rfl rfl rfl rfl rfl

theorem Lexeme.start [NumOps N] {cc : CharClass} {t : Token N} {x : Str} (hx : Lexeme cc t x) :
    ∃ c r, x = c :: r ∧ StartsOk cc (startClass t) c := by
  cases hx with
  | punct h =>
    simp only [Scanner.punct, List.mem_cons, Prod.mk.injEq, List.not_mem_nil, or_false] at h
    rcases h with ⟨rfl, rfl⟩ | ⟨rfl, rfl⟩ | ⟨rfl, rfl⟩ | ⟨rfl, rfl⟩ | ⟨rfl, rfl⟩ | ⟨rfl, rfl⟩ | ⟨rfl, rfl⟩ |
      ⟨rfl, rfl⟩ | ⟨rfl, rfl⟩ | ⟨rfl, rfl⟩ | ⟨rfl, rfl⟩ | ⟨rfl, rfl⟩ | ⟨rfl, rfl⟩ | ⟨rfl, rfl⟩ | ⟨rfl, rfl⟩ <;>
      exact ⟨_, _, rfl, by simp [startClass, StartsOk]⟩
  | word hs hk =>
    cases x with
    | nil => simp [identShape] at hs
    | cons c tl =>
      simp only [identShape, Bool.and_eq_true] at hs
      exact ⟨c, tl, rfl, by rw [kwToken_startClass _ _ hk]; exact hs.1⟩
  | ident hs _ =>
    cases x with
    | nil => simp [identShape] at hs
    | cons c tl =>
      simp only [identShape, Bool.and_eq_true] at hs
      exact ⟨c, tl, rfl, hs.1⟩
  | num hs _ =>
    cases x with
    | nil => simp [numShape] at hs
    | cons c tl =>
      simp only [numShape, Bool.and_eq_true, Bool.or_eq_true, beq_iff_eq] at hs
      exact ⟨c, tl, rfl, hs.1.2⟩
  | str => exact ⟨'\'', _, rfl, rfl⟩

theorem needsSep_false {t t' : Token N} (h : needsSep t t' = false) :
    match lexClass t with
    | .word | .number => startClass t' ≠ .word ∧ startClass t' ≠ .number
    | .string => startClass t' ≠ .quote
    | .less => startClass t' ≠ .eq ∧ startClass t' ≠ .gt
    | .greater => startClass t' ≠ .eq
    | .slash => startClass t' ≠ .slash
    | .plain => True := by
  unfold needsSep at h
  revert h
  cases lexClass t <;> cases startClass t' <;> decide

theorem StartsOk.char {cc : CharClass} (hcc : cc.AsciiOk) {sc : StartClass} {c : Char} (h : StartsOk cc sc c) :
    (sc = .word ∨ sc = .number ∨ (isIdentCont cc c = false ∧ cc.isNumeric c = false ∧ c ≠ '.')) ∧
      (c = '\'' → sc = .quote) ∧ (c = '=' → sc = .eq) ∧ (c = '>' → sc = .gt) ∧ (c = '/' → sc = .slash) := by
  have notSpecial : isSpecial c = false → (c = '\'' → sc = .quote) ∧ (c = '=' → sc = .eq) ∧ (c = '>' → sc = .gt) ∧ (c = '/' → sc = .slash) :=
    fun hns => ⟨fun e => absurd (e ▸ hns) (by decide), fun e => absurd (e ▸ hns) (by decide), fun e => absurd (e ▸ hns) (by decide),
      fun e => absurd (e ▸ hns) (by decide)⟩
  have special : ∀ d, isSpecial d = true → d ≠ '.' → isIdentCont cc d = false ∧ cc.isNumeric d = false ∧ d ≠ '.' :=
    fun d hd hdot => ⟨special_identCont hcc d hd, special_numeric hcc d hd, hdot⟩
  cases sc with
  | word => exact ⟨.inl rfl, notSpecial (identStart_notSpecial hcc c h)⟩
  | number => exact ⟨.inr (.inl rfl), h.elim (fun h => notSpecial (numeric_notSpecial hcc c h)) (by rintro rfl; decide)⟩
  | other =>
    have : ∀ d ∈ ['(', ')', '[', ']', ',', '+', '-', '*', '<'],
        (isSpecial d = true ∧ d ≠ '.') ∧ d ≠ '\'' ∧ d ≠ '=' ∧ d ≠ '>' ∧ d ≠ '/' := by decide
    obtain ⟨⟨h1, h2⟩, h3, h4, h5, h6⟩ := this c h
    exact ⟨.inr (.inr (special c h1 h2)), fun e => absurd e h3, fun e => absurd e h4, fun e => absurd e h5, fun e => absurd e h6⟩
  | _ => subst h; exact ⟨.inr (.inr (special _ (by decide) (by decide))), by decide⟩

/-- if `needsSep t t'` is false, the first character of a lexeme of `t'` does not continue a lexeme of `t` -/
theorem fuse_start {cc : CharClass} (hcc : cc.AsciiOk) (t t' : Token N) (x : Str) (c : Char)
    (hc : StartsOk cc (startClass t') c) (hn : needsSep t t' = false) : fuse cc t x c = false := by
  have hn := needsSep_false hn
  obtain ⟨hw, hq, he, hg, hs⟩ := hc.char hcc
  unfold fuse
  cases hl : lexClass t <;> rw [hl] at hn <;> simp only at hn ⊢
  · exact ((hw.resolve_left hn.1).resolve_left hn.2).1
  · have h := (hw.resolve_left hn.1).resolve_left hn.2
    simp [h.2.1, h.2.2]
  · simpa using fun h => hn (hq h)
  · simpa using ⟨fun h => hn.1 (he h), fun h => hn.2 (hg h)⟩
  · simpa using fun h => hn (he h)
  · simpa using fun h => hn (hs h)

/-- the token-level condition on a layout: where two lexemes touch, `needsSep` is false; no separator after the
    token `/` begins with `/` -/
def JoinableTok : List (Item N) → Str → Prop
  | [], _ => True
  | [i], trail => SepFits i.tok (i.sep ++ trail)
  | i :: j :: r, trail =>
    (i.sep = [] → needsSep i.tok j.tok = false) ∧ SepFits i.tok i.sep ∧ JoinableTok (j :: r) trail

theorem joinable_of_tok [NumOps N] {cc : CharClass} (hcc : cc.AsciiOk) (items : List (Item N)) (trail : Str)
    (hitems : ∀ i ∈ items, Lexeme cc i.tok i.text ∧ IsSep i.sep) (htrail : IsTrail trail)
    (h : JoinableTok items trail) : Joinable cc items trail := by
  induction items with
  | nil => trivial
  | cons i r ih =>
    have hi := hitems i (by simp)
    cases r with
    | nil =>
      refine ⟨?_, trivial⟩
      simp only [render]
      exact noCont_trail hcc _ _ _ (.sep hi.2 htrail) h
    | cons j r' =>
      obtain ⟨h1, h2, h3⟩ := h
      refine ⟨?_, ih (fun k hk => hitems k (by simp [hk])) h3⟩
      by_cases hsep : i.sep = []
      · have hj := hitems j (by simp)
        obtain ⟨c, tl, hx, hc⟩ := hj.1.start
        simp only [hsep, render, List.nil_append, hx, List.cons_append]
        exact HeadNot.cons (fuse_start hcc _ _ _ _ hc (h1 hsep))
      · exact noCont_sep hcc _ _ _ _ hi.2 hsep h2

end Scanner
end Slac
