/-
  SlacProofs.OptMu — what the two passes and the loop of `optimize` do to a tree, as induction principles over a
  relation between the tree before and after, and the termination measure μ.
-/
import SlacModel.Optimizer
import SlacProofs.InterpLemmas
set_option autoImplicit false
set_option linter.unusedSectionVars false
namespace Slac.Opt
variable {N : Type} [NumOps N]

theorem isLit_iff {e : Expr N} : isLit e = true ↔ ∃ v, e = .lit v := by
  cases e <;> simp [isLit]

theorem allLit_iff {es : List (Expr N)} : allLit es = true ↔ ∃ vs : List (Value N), es = vs.map .lit := by
  induction es with
  | nil => exact ⟨fun _ => ⟨[], rfl⟩, fun _ => rfl⟩
  | cons e es ih =>
    simp only [allLit, List.all_cons, Bool.and_eq_true, isLit_iff] at ih ⊢
    constructor
    · rintro ⟨⟨v, rfl⟩, h⟩; obtain ⟨vs, rfl⟩ := ih.1 h; exact ⟨v :: vs, rfl⟩
    · rintro ⟨vs, h⟩
      cases vs with
      | nil => cases h
      | cons v vs => cases h; exact ⟨⟨v, rfl⟩, ih.2 ⟨vs, rfl⟩⟩

theorem evalList_map_lit (env : Env N) (vs : List (Value N)) : evalList env (vs.map .lit) = (.ok vs, []) := by
  induction vs with
  | nil => rfl
  | cons v vs ih => simp only [List.map_cons, evalList, evalT, ih, List.append_nil]

/-- whether a call node is a three-argument `if_then` depends only on name and argument count -/
def callI (n : Str) (k : Nat) : Nat := if n = ifThenName then (if k = 3 then 1 else 0) else 0

theorem length_eq_three {α : Type} {l : List α} : l.length = 3 ↔ ∃ a b c, l = [a, b, c] := by
  constructor
  · intro h
    match l, h with
    | [a, b, c], _ => exact ⟨a, b, c, rfl⟩
  · rintro ⟨a, b, c, rfl⟩; rfl

theorem transform_call (n : Str) (ps : List (Expr N)) (h : callI n ps.length = 0) :
    transform (.call n ps) = .call n (transformL ps) := by
  simp only [transform]
  split
  · rename_i hn
    split
    · simp [callI, hn] at h
    · rfl
  · rfl

theorem transform_ind {Q : Expr N → Expr N → Prop} {QL : List (Expr N) → List (Expr N) → Prop}
    (lit : ∀ v, Q (.lit v) (.lit v)) (var : ∀ n, Q (.var n) (.var n))
    (ifThen : ∀ a b c, Q (.call ifThenName [a, b, c]) (.ternary a b c .ternaryCondition))
    (unary : ∀ {r r'} op, Q r r' → Q (.unary r op) (.unary r' op))
    (binary : ∀ {l l' r r'} op, Q l l' → Q r r' → Q (.binary l r op) (.binary l' r' op))
    (ternary : ∀ {l l' m m' r r'} op, Q l l' → Q m m' → Q r r' → Q (.ternary l m r op) (.ternary l' m' r' op))
    (array : ∀ {es es'}, QL es es' → Q (.array es) (.array es'))
    (call : ∀ n {ps ps'}, callI n ps.length = 0 → QL ps ps' → Q (.call n ps) (.call n ps'))
    (nil : QL [] []) (cons : ∀ {e e' es es'}, Q e e' → QL es es' → QL (e :: es) (e' :: es')) :
    (∀ e, Q e (transform e)) ∧ ∀ es, QL es (transformL es) := by
  refine Expr.rec_both ?_ ?_ ?_ ?_ ?_ ?_ ?_ ?_ ?_
  · intro r op ih; exact unary op ih
  · intro l r op ihl ihr; exact binary op ihl ihr
  · intro l m r op ihl ihm ihr; exact ternary op ihl ihm ihr
  · intro es ih; exact array ih
  · exact lit
  · exact var
  · intro n ps ih
    by_cases h : callI n ps.length = 0
    · rw [transform_call n ps h]; exact call n h ih
    · simp only [callI] at h
      split at h
      · rename_i hn; subst hn
        split at h
        · rename_i h3
          obtain ⟨a, b, c, rfl⟩ := length_eq_three.1 h3
          exact ifThen a b c
        · exact absurd rfl h
      · exact absurd rfl h
  · exact nil
  · intro e es ihe ihes; exact cons ihe ihes

/-- the nodes `fold` hands to `execute`: every operand is a literal (and a call is known to be pure) -/
def LitArgs (env : Env N) : Expr N → Prop
  | .unary r _ => isLit r = true
  | .binary l r _ => isLit l = true ∧ isLit r = true
  | .array es => allLit es = true
  | .call n ps => allLit ps = true ∧ env.fnExists n ps.length = .exist true
  | _ => False

/-- one `fold` pass, completed or aborted; the children after a failing one are kept, hence `refl` -/
theorem fold_ind (env : Env N) {Q : Expr N → Expr N → Prop} {QL : List (Expr N) → List (Expr N) → Prop}
    (refl : ∀ e, Q e e)
    (lit : ∀ e v, LitArgs env e → evalR env e = .ok v → Q e (.lit v))
    (pick : ∀ c m r, Q (.ternary (.lit c) m r .ternaryCondition) (if Value.asBool c then m else r))
    (unary : ∀ {r r'} op, Q r r' → Q (.unary r op) (.unary r' op))
    (binary : ∀ {l l' r r'} op, Q l l' → Q r r' → Q (.binary l r op) (.binary l' r' op))
    (ternary : ∀ {l l' m m' r r'} op, Q l l' → Q m m' → Q r r' → Q (.ternary l m r op) (.ternary l' m' r' op))
    (array : ∀ {es es'}, QL es es' → Q (.array es) (.array es'))
    (call : ∀ n {ps ps'}, QL ps ps' → Q (.call n ps) (.call n ps'))
    (nil : QL [] []) (cons : ∀ {e e' es es'}, Q e e' → QL es es' → QL (e :: es) (e' :: es')) :
    (∀ e, Q e (fold env e).tree) ∧ ∀ es, QL es (foldL env es).1 := by
  have reflL : ∀ es, QL es es := fun es => by
    induction es with
    | nil => exact nil
    | cons e es ih => exact cons (refl e) ih
  have exec' : ∀ e, LitArgs env e → Q e (exec env e).tree := fun e he => by
    simp only [exec]
    split
    · exact lit e _ he ‹_›
    · exact refl e
  refine Expr.rec_both ?_ ?_ ?_ ?_ ?_ ?_ ?_ ?_ ?_
  · intro r op ih
    simp only [fold]
    split
    · exact exec' _ ‹_›
    · exact unary op ih
  · intro l r op ihl ihr
    simp only [fold]
    split
    · exact exec' _ ((Bool.and_eq_true _ _).mp ‹_›)
    · split
      · exact binary op ihl (refl r)
      · exact binary op ihl ihr
  · intro l m r op ihl ihm ihr
    simp only [fold]
    split
    · exact pick _ m r
    · split
      · exact ternary op ihl (refl m) (refl r)
      · split
        · exact ternary op ihl ihm (refl r)
        · exact ternary op ihl ihm ihr
  · intro es ih
    simp only [fold]
    split
    · exact exec' _ ‹_›
    · exact array ih
  · intro v; exact refl _
  · intro n; exact refl _
  · intro n ps ih
    simp only [fold]
    split
    · split
      · exact exec' _ ⟨‹_›, ‹_›⟩
      · exact refl _
    · exact call n ih
  · exact nil
  · intro e es ihe ihes
    simp only [foldL]
    split
    · exact cons ihe (reflL es)
    · exact cons ihe ihes

theorem if3_call (n : Str) (ps : List (Expr N)) : if3 (.call n ps) = callI n ps.length + if3L ps := by
  simp only [if3, callI]
  split
  · split
    · rfl
    · rename_i h; rw [if_neg (fun h3 => by obtain ⟨a, b, c, rfl⟩ := length_eq_three.1 h3; exact h a b c rfl)]; omega
  · omega

theorem mu_call (n : Str) (ps : List (Expr N)) : mu (.call n ps) = 1 + callI n ps.length + muL ps := by
  simp only [mu, callI]
  split
  · split
    · rfl
    · rename_i h; rw [if_neg (fun h3 => by obtain ⟨a, b, c, rfl⟩ := length_eq_three.1 h3; exact h a b c rfl)]
  · rfl

/-- "decreases by at least one if something was rewritten" adds up over siblings -/
theorem min_one_add {a a' b b' i j : Nat} (h1 : a' + min i 1 ≤ a) (h2 : b' + min j 1 ≤ b) :
    a' + b' + min (i + j) 1 ≤ a + b := by omega

/-- one transform pass never increases μ, and strictly decreases it when it rewrites something -/
theorem mu_transform (e : Expr N) : mu (transform e) + min (if3 e) 1 ≤ mu e := by
  refine (transform_ind (Q := fun e e' => mu e' + min (if3 e) 1 ≤ mu e)
    (QL := fun es es' => es'.length = es.length ∧ muL es' + min (if3L es) 1 ≤ muL es)
    ?_ ?_ ?_ ?_ ?_ ?_ ?_ ?_ ?_ ?_).1 e
  · intro v; simp only [mu, if3]; omega
  · intro n; simp only [mu, if3]; omega
  · intro a b c; simp only [if3_call, callI, mu, muL, List.length_cons, List.length_nil]; simp; omega
  · intro r r' op h; simp only [mu, if3]; omega
  · intro l l' r r' op h1 h2; have h := min_one_add h1 h2; clear h1 h2; simp only [mu, if3]; omega
  · intro l l' m m' r r' op h1 h2 h3
    have h := min_one_add (min_one_add h1 h2) h3; clear h1 h2 h3; simp only [mu, if3]; omega
  · intro es es' h; simp only [mu, if3]; omega
  · intro n ps ps' hc h; simp only [mu_call, if3_call, h.1, hc]; omega
  · exact ⟨rfl, by simp only [muL, if3L]; omega⟩
  · intro e e' es es' h1 h2
    exact ⟨by simp only [List.length_cons, h2.1], min_one_add h1 h2.2⟩

/-- one `fold` pass never increases μ, and strictly decreases it when it found something and did not fail -/
def FOK (env : Env N) (e : Expr N) : Prop :=
  mu (fold env e).tree ≤ mu e ∧
  ((fold env e).found = true → (fold env e).err = none → mu (fold env e).tree + 1 ≤ mu e)
def FLOK (env : Env N) (es : List (Expr N)) : Prop :=
  (foldL env es).1.length = es.length ∧
  muL (foldL env es).1 ≤ muL es ∧
  ((foldL env es).2.1 = true → (foldL env es).2.2 = none → muL (foldL env es).1 + 1 ≤ muL es)

theorem exec_ok (env : Env N) (e : Expr N) (h : 1 ≤ mu e) :
    mu (exec env e).tree ≤ mu e ∧
    ((exec env e).found = true → (exec env e).err = none → mu (exec env e).tree + 1 ≤ mu e) := by
  simp only [exec]
  split
  · simp only [mu]; omega
  · simp

theorem mu_fold (env : Env N) (e : Expr N) : FOK env e := by
  refine Expr.rec (motive_1 := fun e => FOK env e) (motive_2 := fun es => FLOK env es)
    ?_ ?_ ?_ ?_ ?_ ?_ ?_ ?_ ?_ e
  · intro r op ⟨h1, h2⟩
    simp only [FOK, fold]
    split
    · exact exec_ok env _ (by simp only [mu]; omega)
    · simp only [mu]
      exact ⟨by omega, fun hf he => by have := h2 hf he; omega⟩
  · intro l r op ⟨l1, l2⟩ ⟨r1, r2⟩
    simp only [FOK, fold]
    split
    · exact exec_ok env _ (by simp only [mu]; omega)
    · split
      · simp only [mu]; exact ⟨by omega, fun _ h => nomatch h⟩
      · rename_i hnone
        simp only [mu, Bool.or_eq_true]
        refine ⟨by omega, fun hf he => ?_⟩
        rcases hf with hf | hf
        · have := l2 hf hnone; omega
        · have := r2 hf he; omega
  · intro l m r op ⟨l1, l2⟩ ⟨m1, m2⟩ ⟨r1, r2⟩
    simp only [FOK, fold]
    split
    · simp only [mu]
      split <;> omega
    · split
      · simp only [mu]; exact ⟨by omega, fun _ h => nomatch h⟩
      · rename_i hl
        split
        · simp only [mu]; exact ⟨by omega, fun _ h => nomatch h⟩
        · rename_i hm
          simp only [mu, Bool.or_eq_true]
          refine ⟨by omega, fun hf he => ?_⟩
          rcases hf with (hf | hf) | hf
          · have := l2 hf hl; omega
          · have := m2 hf hm; omega
          · have := r2 hf he; omega
  · intro es ⟨_, h2, h3⟩
    simp only [FOK, fold]
    split
    · exact exec_ok env _ (by simp only [mu]; omega)
    · simp only [mu]
      exact ⟨by omega, fun hf he => by have := h3 hf he; omega⟩
  · intro v; simp [FOK, fold]
  · intro n; simp [FOK, fold]
  · intro n ps ⟨h1, h2, h3⟩
    simp only [FOK, fold]
    split
    · split
      · exact exec_ok env _ (by rw [mu_call]; omega)
      · simp
    · simp only [mu_call, h1]
      exact ⟨by omega, fun hf he => by have := h3 hf he; omega⟩
  · simp [FLOK, foldL, muL]
  · intro e es ⟨e1, e2⟩ ⟨g1, g2, g3⟩
    simp only [FLOK, foldL]
    split
    · simp only [muL, List.length_cons]; exact ⟨trivial, by omega, fun _ h => nomatch h⟩
    · rename_i hnone
      simp only [muL, List.length_cons, Bool.or_eq_true]
      refine ⟨by omega, by omega, fun hf he => ?_⟩
      rcases hf with hf | hf
      · have := e2 hf hnone; omega
      · have := g3 hf he; omega

/-- what every round (`transform`, then `fold`) keeps holds of the tree the caller is left with, `Ok` or `Err` -/
theorem optimize_ind (env : Env N) {I : Expr N → Prop} (step : ∀ e, I e → I (fold env (transform e)).tree) :
    ∀ (fuel : Nat) (e e' : Expr N), I e → (optimize env fuel e).tree? = some e' → I e' := by
  intro fuel
  induction fuel with
  | zero => intro e e' _ h; cases h
  | succ fuel ih =>
    intro e e' hi h
    simp only [optimize] at h
    split at h
    · cases h; exact step e hi
    · split at h
      · exact ih _ _ (step e hi) h
      · cases h; exact step e hi

/-- the repeat-until-stable loop never runs out of fuel μ e + 1 -/
theorem optimize_terminates (env : Env N) :
    ∀ fuel (e : Expr N), mu e < fuel → optimize env fuel e ≠ .outOfFuel := by
  intro fuel
  induction fuel with
  | zero => intro e h; omega
  | succ fuel ih =>
    intro e h
    simp only [optimize]
    split
    · simp
    · rename_i hnone
      split
      · rename_i hc
        apply ih
        have ht := mu_transform e
        have hf := mu_fold env (transform e)
        simp only [transformFound, Bool.or_eq_true, decide_eq_true_eq] at hc
        rcases hc with hc | hc
        · have : min (if3 e) 1 = 1 := by omega
          have := hf.1; omega
        · have := hf.2 hc hnone; omega
      · simp

theorem optimize_tree_some (env : Env N) (fuel : Nat) (e : Expr N) (h : mu e < fuel) :
    ∃ e', (optimize env fuel e).tree? = some e' := by
  have := optimize_terminates env fuel e h
  cases ho : optimize env fuel e with
  | ok t => exact ⟨t, rfl⟩
  | err t er => exact ⟨t, rfl⟩
  | outOfFuel => exact absurd ho this

end Slac.Opt
