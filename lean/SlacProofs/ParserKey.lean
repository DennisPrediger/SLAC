/-
  SlacProofs.ParserKey — the Pratt-loop lemma: parsing any rendering of `e` (SlacModel.Render `Rn`) followed by `rest`
  behaves like the infix loop started with `e` on `rest`:

      Rn q' e ts → q ≤ min q' 8 → follow rest ≤ min q' 7 →
        infixLoop f q e rest = ok R → ∃ f', parsePrec f' q (ts ++ rest) = ok R

  One lemma per constructor of `Bare`/`Rn`/`RnList` (`c_lit` … `c_cons`: the case of that constructor), assembled in `key_rn`
  with the generated recursor; `M2` is the statement for `Bare`/`Rn`, `M3` the one for `RnList`.
-/
import SlacProofs.ParserRender
set_option autoImplicit false
namespace Slac.Parser
open Slac.Render
variable {N : Type}

/-- precedence of the token that follows (0 at end of input) -/
def follow : List (Token N) → Nat
  | [] => 0
  | t :: _ => Token.prec t

/-- the loop stops when the next token binds weaker than p -/
theorem infixLoop_stop (f p : Nat) (e : Expr N) (rest : List (Token N)) (h : follow rest < p) :
    infixLoop (f+1) p e rest = .ok (e, rest) := by
  cases rest with
  | nil => rw [infixLoop_nil]
  | cons t r => simp only [follow] at h; rw [infixLoop_cons, if_neg (by omega)]

theorem isClose_closeTok (b : Bool) : isClose b (closeTok b : Token N) = true := by cases b <;> rfl

theorem follow_closeTok (b : Bool) (rest : List (Token N)) : follow (closeTok b :: rest) = 0 := by cases b <;> rfl

def M2 (q' : Nat) (e : Expr N) (ts : List (Token N)) : Prop :=
  ∀ q rest, q ≤ q' → q ≤ 8 → follow rest ≤ q' → follow rest ≤ 7 →
    ∀ f R, infixLoop f q e rest = .ok R → ∃ f', parsePrec f' q (ts ++ rest) = .ok R
def M3 (es : List (Expr N)) (ts : List (Token N)) : Prop :=
  ∀ b rest, ∃ f', exprList f' b (ts ++ closeTok b :: rest) = .ok (es, rest)

theorem after_prefix {f q : Nat} {t : Token N} {r rest : List (Token N)} {e : Expr N} {R} (f0 : Nat)
    (hp : ∀ f', f0 ≤ f' → doPrefix (f' + 1) t r = .ok (e, rest)) (hL : infixLoop f q e rest = .ok R) :
    ∃ f', parsePrec f' q (t :: r) = .ok R :=
  ⟨max f0 f + 1 + 1, by rw [parsePrec_cons, hp _ (Nat.le_max_left _ _)]; exact infixLoop_mono hL (by omega)⟩

theorem c_lit (v : Value N) : M2 10 (.lit v) [.literal v] :=
  fun _ _ _ _ _ _ _ _ hL => after_prefix 0 (fun _ _ => rfl) hL

theorem c_var (n : Str) : M2 (N := N) 10 (.var n) [.identifier n] :=
  fun _ _ _ _ _ _ _ _ hL => after_prefix 0 (fun _ _ => rfl) hL

theorem c_unary {t : Token N} {op : Op} {r : Expr N} {ts : List (Token N)}
    (ht : ∀ f rest, doPrefix (f + 1) t rest = andThen (parsePrec f 8 rest) fun x => .ok (.unary x.1 op, x.2))
    (ih : M2 8 r ts) : M2 8 (.unary r op) (t :: ts) := by
  intro q rest _ _ _ h7 f R hL
  obtain ⟨f1, h1⟩ := ih 8 rest (Nat.le_refl _) (Nat.le_refl _) (by omega) h7 1 (r, rest) (infixLoop_stop 0 8 r rest (by omega))
  show ∃ f', parsePrec f' q (t :: (ts ++ rest)) = .ok R
  exact after_prefix f1 (fun f' hf => by rw [ht, parsePrec_mono h1 hf]; rfl) hL

theorem c_binary {l r : Expr N} {op : Op} {t : Token N} {tl tr : List (Token N)} (hb : Token.binOp? t = some op)
    (ihl : M2 (Token.prec t) l tl) (ihr : M2 (Token.prec t + 1) r tr) :
    M2 (lvl (.binary l r op)) (.binary l r op) (tl ++ t :: tr) := by
  intro q rest hq hq8 hfo h7 f R hL
  have ⟨hp1, hp7⟩ := prec_binOp_le hb
  rw [show lvl (.binary l r op) = Token.prec t from opLvl_binOp hb] at hq hfo
  obtain ⟨f1, h1⟩ := ihr (Token.prec t + 1) rest (Nat.le_refl _) (by omega) (by omega) h7 1 (r, rest)
    (infixLoop_stop 0 _ r rest (by omega))
  have step : infixLoop (max f1 f + 1 + 1) q l (t :: (tr ++ rest)) = .ok R := by
    rw [infixLoop_cons, if_pos hq, doInfix_succ]
    simp only [hb]
    rw [nextPrec_binOp hb, parsePrec_mono h1 (Nat.le_max_left _ _)]
    exact infixLoop_mono hL (by omega)
  rw [List.append_assoc]
  exact ihl q (t :: (tr ++ rest)) hq hq8 (Nat.le_refl _) hp7 _ R step

theorem c_array {es : List (Expr N)} {ts : List (Token N)} (ih : M3 es ts) :
    M2 10 (.array es) (.leftBracket :: (ts ++ [.rightBracket])) := by
  intro q rest _ _ _ _ f R hL
  obtain ⟨f1, h1⟩ := ih false rest
  show ∃ f', parsePrec f' q (.leftBracket :: (ts ++ [.rightBracket] ++ rest)) = .ok R
  refine after_prefix f1 (fun f' hf => ?_) hL
  rw [doPrefix_succ, List.append_assoc]
  exact (congrArg (andThen · _) (exprList_mono h1 hf)).trans rfl

theorem c_call {n : Str} {ps : List (Expr N)} {ts : List (Token N)} (ih : M3 ps ts) :
    M2 10 (.call n ps) (.identifier n :: .leftParen :: (ts ++ [.rightParen])) := by
  intro q rest _ hq8 _ _ f R hL
  obtain ⟨f1, h1⟩ := ih true rest
  show ∃ f', parsePrec f' q (.identifier n :: .leftParen :: (ts ++ [.rightParen] ++ rest)) = .ok R
  refine after_prefix (f := max f1 f + 1 + 1) 0 (fun _ _ => rfl) ?_
  rw [infixLoop_cons, if_pos (Nat.le_trans hq8 (Nat.le_of_ble_eq_true rfl)), doInfix_succ, List.append_assoc]
  refine (congrArg (andThen · _) ((congrArg (andThen · _) (exprList_mono h1 (Nat.le_max_left _ _))).trans rfl)).trans ?_
  exact infixLoop_mono hL (by omega)

theorem c_bare {q' : Nat} {e : Expr N} {ts : List (Token N)} (hq' : q' ≤ lvl e) (ih : M2 (lvl e) e ts) : M2 q' e ts :=
  fun q rest hq hq8 hfo h7 => ih q rest (Nat.le_trans hq hq') hq8 (Nat.le_trans hfo hq') h7

theorem c_paren {q' : Nat} {e : Expr N} {ts : List (Token N)} (ih : M2 1 e ts) :
    M2 q' e (.leftParen :: (ts ++ [.rightParen])) := by
  intro q rest _ _ _ _ f R hL
  obtain ⟨f1, h1⟩ := ih 1 (.rightParen :: rest) (Nat.le_refl _) (by omega) (Nat.zero_le _) (Nat.zero_le _) 1 (e, .rightParen :: rest)
    (infixLoop_stop 0 1 e _ Nat.one_pos)
  show ∃ f', parsePrec f' q (.leftParen :: (ts ++ [.rightParen] ++ rest)) = .ok R
  refine after_prefix f1 (fun f' hf => ?_) hL
  rw [doPrefix_succ, List.append_assoc]
  exact (congrArg (andThen · _) (parsePrec_mono h1 hf)).trans rfl

/-- a successful `parse_precedence` did not start at a closing token, so `expression_list` takes what it parsed as an element -/
theorem exprList_item {f : Nat} {b : Bool} {toks : List (Token N)} {x} (h : parsePrec f 1 toks = .ok x) :
    exprList (f + 1) b toks = andThen (exprList f b (dropComma x.2)) fun y => .ok (x.1 :: y.1, y.2) := by
  cases f with
  | zero => cases h
  | succ f =>
    cases toks with
    | nil => cases h
    | cons t r =>
      have hc : isClose b t = false := by
        rw [parsePrec_cons, andThen_eq_ok] at h
        obtain ⟨a, ha, -⟩ := h
        cases f with
        | zero => cases ha
        | succ f => cases b <;> cases t <;> first | rfl | cases ha
      rw [exprList_cons, hc, h]; rfl

theorem exprList_close (f : Nat) (b : Bool) (rest : List (Token N)) :
    exprList (f+1) b (closeTok b :: rest) = .ok ([], rest) := by
  rw [exprList_cons, isClose_closeTok]; rfl

theorem c_nil : M3 (N := N) [] [] := fun b rest => ⟨1, exprList_close 0 b rest⟩

theorem c_single {e : Expr N} {ts : List (Token N)} (ih : M2 1 e ts) : M3 [e] ts := by
  intro b rest
  have h0 := follow_closeTok b rest
  obtain ⟨f1, h1⟩ := ih 1 (closeTok b :: rest) (Nat.le_refl _) (by omega) (by omega) (by omega) 1 (e, closeTok b :: rest)
    (infixLoop_stop 0 1 e _ (by omega))
  refine ⟨f1 + 1 + 1, ?_⟩
  rw [exprList_item (parsePrec_mono h1 (Nat.le_succ f1))]
  cases b <;> exact (congrArg (andThen · _) (exprList_close f1 _ rest)).trans rfl

theorem c_cons {e e' : Expr N} {es : List (Expr N)} {ts ts' : List (Token N)} (ih1 : M2 1 e ts)
    (ih2 : M3 (e' :: es) ts') : M3 (e :: e' :: es) (ts ++ .comma :: ts') := by
  intro b rest
  obtain ⟨f1, h1⟩ := ih1 1 (.comma :: (ts' ++ closeTok b :: rest)) (Nat.le_refl _) (by omega) (Nat.zero_le _) (Nat.zero_le _) 1
    (e, .comma :: (ts' ++ closeTok b :: rest)) (infixLoop_stop 0 1 e _ Nat.one_pos)
  obtain ⟨f2, h2⟩ := ih2 b rest
  refine ⟨max f1 f2 + 1, ?_⟩
  rw [List.append_assoc, List.cons_append, exprList_item (parsePrec_mono h1 (Nat.le_max_left f1 f2))]
  exact (congrArg (andThen · _) (exprList_mono h2 (Nat.le_max_right f1 f2))).trans rfl

theorem key_rn {q' : Nat} {e : Expr N} {ts : List (Token N)} (h : Rn q' e ts) : M2 q' e ts := by
  refine Rn.rec (motive_1 := fun e ts _ => M2 (lvl e) e ts) (motive_2 := fun q e ts _ => M2 q e ts)
    (motive_3 := fun es ts _ => M3 es ts) ?_ ?_ ?_ ?_ ?_ ?_ ?_ ?_ ?_ ?_ ?_ ?_ h
  · exact c_lit
  · exact c_var
  · intro r ts _ ih; exact c_unary (fun _ _ => rfl) ih
  · intro r ts _ ih; exact c_unary (fun _ _ => rfl) ih
  · intro l r op t tl tr hb _ _ ihl ihr; exact c_binary hb ihl ihr
  · intro es ts _ ih; exact c_array ih
  · intro n ps ts _ ih; exact c_call ih
  · intro q e ts hq _ ih; exact c_bare hq ih
  · intro q e ts _ ih; exact c_paren ih
  · exact c_nil
  · intro e ts _ ih; exact c_single ih
  · intro e e' es ts ts' _ _ ih1 ih2; exact c_cons ih1 ih2

end Slac.Parser
