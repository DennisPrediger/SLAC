/-
  SlacProofs.F64SemRat — the rational value of a double: `toRat x = units x / 2^1074`.
  `toQ_eq_toRat`: it is the value `toQ` (sign · significand · 2^exponent) that F64Arith's standard model speaks of;
  `toRat_trunc`, `toRat_rem`: the ℚ readings of `units_trunc`, `units_rem`;
  `nearest_rat`: if `NearestDouble cn cd x` and x is finite then |x - cn/cd| ≤ |y - cn/cd| for every finite double y.
-/
import SlacProofs.F64SemNearest
import SlacProofs.F64Arith
import Mathlib.Algebra.Order.Field.Basic
import Mathlib.Algebra.Order.AbsoluteValue.Basic
import Mathlib.Data.Rat.Cast.Order
import Mathlib.Tactic.FieldSimp
import Mathlib.Tactic.Positivity
import Mathlib.Tactic.Ring
set_option autoImplicit false
namespace Slac
namespace F64

/-- the exact rational value of a finite double -/
def toRat (x : Float) : ℚ := (units x : ℚ) / 2^1074

theorem toQ_eq_toRat (x : Float) : toQ x = toRat x := by
  have hge := decode_ge x
  unfold toQ toRat units unitsN
  generalize decode x = d at hge ⊢
  obtain ⟨m, e⟩ := d
  simp only [] at hge ⊢
  have hk : ((e + 1074).toNat : ℤ) = e + (1074 : ℕ) := by omega
  have h : (((m * 2^(e + 1074).toNat : Nat) : ℚ)) = (m:ℚ) * (2:ℚ)^e * (2:ℚ)^1074 := by
    rw [Nat.cast_mul, Nat.cast_pow, Nat.cast_ofNat, ← zpow_natCast (2:ℚ) (e + 1074).toNat, hk,
      zpow_add₀ (by norm_num), zpow_natCast, mul_assoc]
  have hP : (2:ℚ)^1074 ≠ 0 := by positivity
  generalize (2:ℚ)^1074 = P at h hP
  cases signBit x <;> simp only [Bool.false_eq_true, if_false, if_true, Int.cast_neg, Int.cast_natCast, h] <;> field_simp

set_option exponentiation.threshold 2100 in
/-- |x - cn/cd| as a rational with the common denominator 2^1074·cd -/
theorem abs_toRat_sub (x : Float) (cn cd : Nat) (hcd : 0 < cd) :
    |toRat x - (cn : ℚ) / (cd : ℚ)| =
      (((units x * (cd : Int) - (cn : Int) * 2^1074).natAbs : Nat) : ℚ) / (2^1074 * (cd : ℚ)) := by
  have hc : (0 : ℚ) < (cd : ℚ) := by exact_mod_cast hcd
  have hP : (0 : ℚ) < 2^1074 := by positivity
  generalize hPP : (2 : ℚ)^1074 = P at hP
  have hden : (0 : ℚ) < P * (cd : ℚ) := mul_pos hP hc
  have h1 : toRat x - (cn : ℚ) / (cd : ℚ) = ((units x : ℚ) * (cd : ℚ) - (cn : ℚ) * P) / (P * (cd : ℚ)) := by
    unfold toRat; rw [hPP]; field_simp
  have h2 : (((units x * (cd : Int) - (cn : Int) * 2^1074).natAbs : Nat) : ℚ) =
      |(units x : ℚ) * (cd : ℚ) - (cn : ℚ) * P| := by
    rw [Nat.cast_natAbs, ← hPP]; push_cast; rfl
  rw [h1, h2, abs_div, abs_of_pos hden]

/-- **ℚ reading of "nearest"**: no finite double is closer to cn/cd than x -/
theorem nearest_rat (cn cd : Nat) (hcd : 0 < cd) (x : Float) (h : NearestDouble cn cd x) (hx : isFinite x = true)
    (y : Float) (hy : isFinite y = true) :
    |toRat x - (cn : ℚ) / (cd : ℚ)| ≤ |toRat y - (cn : ℚ) / (cd : ℚ)| := by
  rw [abs_toRat_sub x cn cd hcd, abs_toRat_sub y cn cd hcd]
  have hc : (0 : ℚ) < (cd : ℚ) := by exact_mod_cast hcd
  have hden : (0 : ℚ) < 2^1074 * (cd : ℚ) := by positivity
  apply div_le_div_of_nonneg_right _ (le_of_lt hden)
  exact_mod_cast h.nearest hx y hy

/-- `trunc x` is an integer: the quotient of x by 1 rounded toward zero -/
theorem toRat_trunc (x : Float) (hx : isFinite x = true) :
    toRat (trunc x) = (((units x).tdiv (2^1074) : Int) : ℚ) := by
  unfold toRat
  rw [units_trunc x hx, Int.cast_mul, Int.cast_pow, Int.cast_ofNat]
  have hP : (2 : ℚ)^1074 ≠ 0 := by positivity
  generalize (2 : ℚ)^1074 = P at hP
  exact mul_div_cancel_right₀ _ hP

/-- C `fmod`, exactly: `rem x y = x - y·k` with the integer k = x/y rounded toward zero -/
theorem toRat_rem (x y : Float) (hx : isFinite x = true) (hy : isFinite y = true) (hy0 : isZero y = false) :
    toRat (rem x y) = toRat x - toRat y * (((units x).tdiv (units y) : Int) : ℚ) := by
  unfold toRat
  rw [units_rem x y hx hy hy0, Int.tmod_def]
  generalize (2 : ℚ)^1074 = P
  push_cast
  ring

theorem abs_toRat (x : Float) : |toRat x| = (unitsN x : ℚ) / 2^1074 := by
  unfold toRat
  have hP : (0 : ℚ) < 2^1074 := by positivity
  generalize (2 : ℚ)^1074 = P at hP
  rw [abs_div, abs_of_pos hP, ← natAbs_units x, Nat.cast_natAbs, Int.cast_abs]

theorem abs_toRat_rem_lt (x y : Float) (hx : isFinite x = true) (hy : isFinite y = true) (hy0 : isZero y = false) :
    |toRat (rem x y)| < |toRat y| := by
  rw [abs_toRat, abs_toRat]
  have hP : (0 : ℚ) < 2^1074 := by positivity
  generalize (2 : ℚ)^1074 = P at hP
  apply div_lt_div_of_pos_right _ hP
  exact_mod_cast unitsN_rem_lt x y hx hy hy0

end F64
end Slac
