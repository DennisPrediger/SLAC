/-
  SlacProofs.F64Sem — the VALUE of a double.  Every finite double is an integer number of units of 2^-1074 (the
  smallest subnormal): `unitsN x : Nat` magnitude, `units x : Int` signed value (x = units x · 2^-1074).
  * the magnitude bits order the magnitudes (for every Float, `unitsN` reading the patterns of ±inf and NaN as
    numbers too), so `partial_cmp` and `==` on finite doubles are the order and equality of `units`;
  * `ofNatScaled_exact`: for 0 < m < 2^53, e ≥ -1074, m·2^e < 2^1024 the double `ofNatScaled neg m e` IS ± m·2^e;
  * `rem_finite`: C `fmod` is exact: `unitsN (rem x y) = unitsN x % unitsN y`, sign bit of x (`units_rem`: `Int.tmod`);
  * `trunc` and `truncToInt` are the integer part ⌊|x|⌋ with the sign of x.
-/
import SlacProofs.F64Frac
set_option autoImplicit false
namespace Slac
namespace F64
open Float.Model Float.Model.UnpackedFloat

/-- magnitude of a finite double in units of 2^-1074 -/
def unitsN (x : Float) : Nat := (decode x).1 * 2^((decode x).2 + 1074).toNat
/-- value of a finite double in units of 2^-1074: x = units x · 2^-1074 -/
def units (x : Float) : Int := if signBit x then -(unitsN x : Int) else (unitsN x : Int)

theorem natAbs_units (x : Float) : (units x).natAbs = unitsN x := by
  unfold units; split <;> omega

/-- a sign and a magnitude as an integer: the shape of `keyN`, `units` and `truncToInt` -/
def skey (n : Bool) (g : Nat) : Int := if n then -(g : Int) else g

theorem keyN_def (b : Nat) : keyN b = skey (negN b) (magN b) := rfl
theorem units_def (x : Float) : units x = skey (signBit x) (unitsN x) := rfl

theorem skey_eq_iff (n n' : Bool) (g g' : Nat) :
    skey n g = skey n' g' ↔ (g = 0 ∧ g' = 0) ∨ (n = n' ∧ g = g') := by
  cases n <;> cases n' <;>
    simp only [skey, Bool.false_eq_true, Bool.true_eq_false, if_false, if_true, eq_self, true_and, false_and, or_false] <;>
    omega

theorem skey_mul (b : Bool) (a P : Nat) : skey b (a * P) = skey b a * (P : Int) := by
  cases b <;> simp only [skey, Bool.false_eq_true, if_false, if_true, Int.natCast_mul, Int.neg_mul]

theorem skey_div_mul (b : Bool) (u P : Nat) : skey b (u / P * P) = (skey b u).tdiv P * P := by
  cases b <;> simp only [skey, Bool.false_eq_true, if_false, if_true, Int.neg_tdiv, Int.neg_mul] <;> norm_cast

theorem skey_natAbs (n : Int) : skey (decide (n < 0)) n.natAbs = n := by
  unfold skey
  by_cases hn : n < 0
  · rw [decide_eq_true hn, if_pos rfl]; omega
  · rw [decide_eq_false hn, if_neg Bool.false_ne_true]; omega

theorem cmpInt_congr {a b a' b' : Int} (h1 : a < b ↔ a' < b') (h2 : b < a ↔ b' < a') :
    cmpInt a b = cmpInt a' b' := by
  unfold cmpInt; simp only [h1, h2]

theorem skey_lt_congr (n n' : Bool) (g g' u u' : Nat) (hlt : g < g' ↔ u < u') (hgt : g' < g ↔ u' < u)
    (h0 : g = 0 ↔ u = 0) (h0' : g' = 0 ↔ u' = 0) : skey n g < skey n' g' ↔ skey n u < skey n' u' := by
  cases n <;> cases n' <;> simp only [skey, Bool.false_eq_true, if_false, if_true] <;> omega

theorem cmpInt_skey (n n' : Bool) (g g' u u' : Nat) (hlt : g < g' ↔ u < u') (hgt : g' < g ↔ u' < u)
    (h0 : g = 0 ↔ u = 0) (h0' : g' = 0 ↔ u' = 0) :
    cmpInt (skey n g) (skey n' g') = cmpInt (skey n u) (skey n' u') :=
  cmpInt_congr (skey_lt_congr n n' g g' u u' hlt hgt h0 h0') (skey_lt_congr n' n g' g u' u hgt hlt h0' h0)

theorem negN_bits (x : Float) : negN (bits x) = signBit x := by
  rw [negN_eq _ (bits_lt x), signBit_eq]

theorem bits_split (b : Nat) (hb : b < 2^64) : b = (if negN b then 2^63 else 0) + magN b := by
  rw [negN_eq b hb]; unfold magN
  by_cases h : b / 2^63 = 1
  · rw [decide_eq_true h, if_pos rfl]; omega
  · rw [decide_eq_false h, if_neg Bool.false_ne_true]; omega

theorem fin_not_nan (x : Float) (hf : isFinite x = true) : isNaN x = false ∧ isInf x = false := by
  unfold isFinite at hf; rw [decide_eq_true_eq] at hf
  unfold isNaN isNaNN isInf
  constructor <;> rw [decide_eq_false_iff_not] <;> omega

theorem unitsN_mkF (s : Sign) (m : Nat) (e : Int) (h : Canon m e) :
    unitsN (mkF s m e h.pos) = m * 2^(e + 1074).toNat := by
  unfold unitsN; rw [decode_mkF s m e h]

theorem units_mkF (s : Sign) (m : Nat) (e : Int) (h : Canon m e) :
    units (mkF s m e h.pos) = s.apply ((m * 2^(e + 1074).toNat : Nat) : Int) := by
  rw [units_def, signBit_mkF s m e h, unitsN_mkF s m e h]; cases s <;> rfl

/-- magnitude in units as a function of the magnitude bits -/
def unitsOfMag (g : Nat) : Nat := if g / 2^52 = 0 then g % 2^52 else (g % 2^52 + 2^52) * 2^(g / 2^52 - 1)

theorem unitsN_eq_mag (x : Float) : unitsN x = unitsOfMag (magN (bits x)) := by
  have hb := bits_lt x
  unfold unitsN decode unitsOfMag
  simp only [expBits_eq, fracBits_eq]
  have hE : bits x / 2^52 % 2^11 = magN (bits x) / 2^52 := by unfold magN; omega
  have hM : bits x % 2^52 = magN (bits x) % 2^52 := by unfold magN; omega
  rw [hE, hM]
  generalize magN (bits x) = g
  by_cases h0 : g / 2^52 = 0
  · have : (g / 2^52 == 0) = true := by rw [h0]; rfl
    simp only [if_true, h0]
    show g % 2^52 * 2^0 = g % 2^52
    omega
  · have : (g / 2^52 == 0) = false := by rw [beq_eq_false_iff_ne]; exact h0
    simp only [this, Bool.false_eq_true, if_false, h0]
    congr 2
    omega

theorem unitsOfMag_lt (g g' : Nat) (h : g < g') : unitsOfMag g < unitsOfMag g' := by
  unfold unitsOfMag
  have hM := Nat.mod_lt g (show 0 < 2^52 by decide)
  have hM' := Nat.mod_lt g' (show 0 < 2^52 by decide)
  have hEle : g / 2^52 ≤ g' / 2^52 := Nat.div_le_div_right (Nat.le_of_lt h)
  by_cases h0 : g / 2^52 = 0
  · rw [if_pos h0]
    by_cases h0' : g' / 2^52 = 0
    · rw [if_pos h0']; omega
    · rw [if_neg h0']
      calc g % 2^52 < 2^52 * 1 := by omega
        _ ≤ 2^52 * 2^(g' / 2^52 - 1) := Nat.mul_le_mul_left _ (Nat.two_pow_pos _)
        _ ≤ (g' % 2^52 + 2^52) * 2^(g' / 2^52 - 1) := Nat.mul_le_mul_right _ (by omega)
  · have h0' : g' / 2^52 ≠ 0 := by omega
    rw [if_neg h0, if_neg h0']
    by_cases hE : g / 2^52 = g' / 2^52
    · rw [hE]; exact Nat.mul_lt_mul_of_pos_right (by omega) (Nat.two_pow_pos _)
    · have hElt : g / 2^52 < g' / 2^52 := by omega
      have hpow : 2^(g / 2^52 - 1) * 2 ≤ 2^(g' / 2^52 - 1) := by
        rw [← Nat.pow_succ]; exact Nat.pow_le_pow_right (by decide) (by omega)
      calc (g % 2^52 + 2^52) * 2^(g / 2^52 - 1) < (2^52 * 2) * 2^(g / 2^52 - 1) :=
            Nat.mul_lt_mul_of_pos_right (by omega) (Nat.two_pow_pos _)
        _ = 2^52 * (2^(g / 2^52 - 1) * 2) := by ac_rfl
        _ ≤ 2^52 * 2^(g' / 2^52 - 1) := Nat.mul_le_mul_left _ hpow
        _ ≤ (g' % 2^52 + 2^52) * 2^(g' / 2^52 - 1) := Nat.mul_le_mul_right _ (by omega)

/-- the magnitude bits order the magnitudes -/
theorem unitsN_lt_iff (x y : Float) : magN (bits x) < magN (bits y) ↔ unitsN x < unitsN y := by
  rw [unitsN_eq_mag x, unitsN_eq_mag y]
  rcases Nat.lt_trichotomy (magN (bits x)) (magN (bits y)) with h | h | h
  · have := unitsOfMag_lt _ _ h; omega
  · rw [h]; omega
  · have := unitsOfMag_lt _ _ h; omega

theorem unitsN_eq_zero_iff (x : Float) : magN (bits x) = 0 ↔ unitsN x = 0 := by
  have h0 : unitsOfMag 0 = 0 := by decide
  rw [unitsN_eq_mag]
  refine ⟨fun h => by rw [h, h0], fun h => ?_⟩
  rcases Nat.eq_zero_or_pos (magN (bits x)) with hg | hg
  · exact hg
  · have := unitsOfMag_lt 0 _ hg; omega

theorem isZero_iff_unitsN (x : Float) : isZero x = true ↔ unitsN x = 0 := by
  unfold isZero; rw [decide_eq_true_eq]; exact unitsN_eq_zero_iff x

theorem eq_of_units (x y : Float) (hs : signBit x = signBit y) (hu : unitsN x = unitsN y) : x = y := by
  have l1 := unitsN_lt_iff x y; have l2 := unitsN_lt_iff y x
  apply eq_of_bits_eq
  rw [bits_split _ (bits_lt x), bits_split _ (bits_lt y), negN_bits, negN_bits, hs]
  congr 1; omega

theorem pcmp_def (a b : Float) :
    pcmp a b = if isNaN a || isNaN b then none else some (cmpInt (keyN (bits a)) (keyN (bits b))) := rfl

theorem pcmp_nan (a b : Float) (h : isNaN a = true ∨ isNaN b = true) : pcmp a b = none := by
  rw [pcmp_def]; rcases h with h | h <;> simp [h]

theorem pcmp_some (a b : Float) (ha : isNaN a = false) (hb : isNaN b = false) :
    pcmp a b = some (cmpInt (keyN (bits a)) (keyN (bits b))) := by
  rw [pcmp_def, ha, hb]; rfl

/-- **ordering of finite doubles is the ordering of their values** -/
theorem pcmp_units (x y : Float) (hx : isFinite x = true) (hy : isFinite y = true) :
    pcmp x y = some (cmpInt (units x) (units y)) := by
  rw [pcmp_some x y (fin_not_nan x hx).1 (fin_not_nan y hy).1, keyN_def, keyN_def, units_def, units_def,
    negN_bits, negN_bits]
  exact congrArg some (cmpInt_skey _ _ _ _ _ _ (unitsN_lt_iff x y) (unitsN_lt_iff y x)
    (unitsN_eq_zero_iff x) (unitsN_eq_zero_iff y))

theorem beq_units (x y : Float) (hx : isFinite x = true) (hy : isFinite y = true) :
    beq x y = decide (units x = units y) := by
  have hnx := (fin_not_nan x hx).1; have hny := (fin_not_nan y hy).1
  unfold isNaN at hnx hny
  unfold beq beqN
  rw [hnx, hny, keyN_def, keyN_def, units_def, units_def, negN_bits, negN_bits]
  show decide _ = decide _
  have l1 := unitsN_lt_iff x y; have l2 := unitsN_lt_iff y x
  have hinj : magN (bits x) = magN (bits y) ↔ unitsN x = unitsN y := by omega
  rw [Bool.eq_iff_iff, decide_eq_true_eq, decide_eq_true_eq, skey_eq_iff, skey_eq_iff,
    unitsN_eq_zero_iff x, unitsN_eq_zero_iff y, hinj]

theorem decode_of_isZero (x : Float) (hz : isZero x = true) : decode x = (0, -1074) := by
  have hb := bits_lt x
  unfold isZero magN at hz; rw [decide_eq_true_eq] at hz
  unfold decode
  simp only [expBits_eq, fracBits_eq]
  have hE : bits x / 2^52 % 2^11 = 0 := by omega
  have hM : bits x % 2^52 = 0 := by omega
  rw [hE, hM]; rfl

theorem unitsN_zeroF (s : Sign) : unitsN (zeroF s) = 0 := (isZero_iff_unitsN _).1 (isZero_zeroF s)

theorem units_zeroF (s : Sign) : units (zeroF s) = 0 := by
  unfold units; rw [unitsN_zeroF]; split <;> rfl

theorem add_exact (x y z : Float) (hx : isFinite x = true) (hx0 : isZero x = false) (hy : isFinite y = true)
    (hy0 : isZero y = false) (hz : isFinite z = true) (hz0 : isZero z = false) (h : units x + units y = units z) :
    x + y = z := by
  obtain ⟨s1, m1, e1, h1, rfl⟩ := exists_mkF x hx hx0
  obtain ⟨s2, m2, e2, h2, rfl⟩ := exists_mkF y hy hy0
  obtain ⟨s, M, T, hc, rfl⟩ := exists_mkF z hz hz0
  rw [units_mkF _ _ _ h1, units_mkF _ _ _ h2, units_mkF _ _ _ hc] at h
  refine add_mkF_exact _ _ _ _ _ _ _ _ _ (-1074) h1 h2 hc h1.ge h2.ge hc.ge ?_
  simp only [Int.sub_neg]; exact h

theorem ofNatScaled_zero (neg : Bool) (e : Int) : ofNatScaled neg 0 e = zeroF (signOf neg) := by
  unfold ofNatScaled; simp only [beq_self_eq_true, if_true]; exact ofParts_zero neg

theorem ofParts_magOf (neg : Bool) (g m : Nat) (e : Int) (h : Canon m e) (hg : g = magOf m e) :
    ofParts neg g = mkF (signOf neg) m e h.pos := by
  apply eq_of_bits_eq
  rw [hg, bits_mkF _ _ _ h, bits_ofParts neg _ (Nat.le_of_lt (magOf_lt m e h)), sbit_signOf]
  cases neg <;> simp only [Bool.false_eq_true, if_false, if_true] <;> omega

/-- for 0 < m < 2^53, e ≥ -1074 and m·2^e < 2^1024 the double `ofNatScaled neg m e` is the canonical float
    ± (m·2^j)·2^(e-j): the value ± m·2^e, exactly -/
theorem ofNatScaled_exact (neg : Bool) (m : Nat) (e : Int) (hm : 0 < m) (h53 : m < 2^53) (he : -1074 ≤ e)
    (htop : e + (m.log2 : Int) ≤ 1023) :
    ∃ (j : Nat) (hc : Canon (m * 2^j) (e - j)), ofNatScaled neg m e = mkF (signOf neg) (m * 2^j) (e - j) hc.pos := by
  have hm0 : m ≠ 0 := by omega
  have hL : m.log2 < 53 := (Nat.log2_lt hm0).2 h53
  have hbeq : (m == 0) = false := by simp [hm0]
  unfold ofNatScaled
  simp only [hbeq, Bool.false_eq_true, if_false]
  generalize hLL : m.log2 = L at *
  have hlo : 2^L ≤ m := by rw [← hLL]; exact Nat.log2_self_le hm0
  have hhi : m < 2^(L + 1) := by rw [← hLL]; exact Nat.lt_log2_self
  by_cases hsub : e + ((L + 1 : Nat) : Int) - 1 < -1022
  · rw [if_pos hsub, if_pos (by omega)]
    generalize hj : (e + 1074).toNat = j
    have hlt : m * 2^j < 2^52 := by
      calc m * 2^j < 2^(L + 1) * 2^j := Nat.mul_lt_mul_of_pos_right hhi (Nat.two_pow_pos j)
        _ = 2^(L + 1 + j) := (Nat.pow_add _ _ _).symm
        _ ≤ 2^52 := Nat.pow_le_pow_right (by decide) (by omega)
    have hej : e - (j : Int) = -1074 := by omega
    have hc : Canon (m * 2^j) (e - (j : Int)) := by
      rw [hej]; exact Canon.of_subnormal (Nat.mul_pos hm (Nat.two_pow_pos j)) hlt
    rw [Nat.shiftLeft_eq]
    exact ⟨j, hc, ofParts_magOf neg _ _ _ hc (by unfold magOf; omega)⟩
  · rw [if_neg hsub, if_pos (by omega)]
    have hsh : ((53 : Int) - ((L + 1 : Nat) : Int)).toNat = 52 - L := by omega
    rw [hsh, Nat.shiftLeft_eq]
    have hlog : (m * 2^(52 - L)).log2 = 52 := by rw [log2_mul_two_pow m _ hm0, hLL]; omega
    have hpos : 0 < m * 2^(52 - L) := Nat.mul_pos hm (Nat.two_pow_pos _)
    have h52 : 2^52 ≤ m * 2^(52 - L) := (Nat.le_log2 (by omega)).1 (by omega)
    have h53' : m * 2^(52 - L) < 2^53 := (Nat.log2_lt (by omega)).1 (by omega)
    have hc : Canon (m * 2^(52 - L)) (e - ((52 - L : Nat) : Int)) :=
      Canon.of_normal h52 h53' (by omega) (by omega)
    exact ⟨52 - L, hc, ofParts_magOf neg _ _ _ hc (by unfold magOf; omega)⟩

/-- value of `ofNatScaled` in units of 2^-1074 -/
theorem unitsN_ofNatScaled (neg : Bool) (m : Nat) (e : Int) (h53 : m < 2^53) (he : -1074 ≤ e)
    (htop : e + (m.log2 : Int) ≤ 1023) :
    unitsN (ofNatScaled neg m e) = m * 2^(e + 1074).toNat ∧ signBit (ofNatScaled neg m e) = neg ∧
    isFinite (ofNatScaled neg m e) = true := by
  by_cases hm : m = 0
  · subst hm
    rw [ofNatScaled_zero, unitsN_zeroF, signBit_zeroF, isFinite_zeroF, sbit_signOf]
    cases neg <;> simp
  · obtain ⟨j, hc, heq⟩ := ofNatScaled_exact neg m e (by omega) h53 he htop
    rw [heq, unitsN_mkF _ _ _ hc, signBit_mkF _ _ _ hc, isFinite_mkF _ _ _ hc, sbit_signOf]
    have hge := hc.ge
    refine ⟨?_, by cases neg <;> simp, rfl⟩
    rw [Nat.mul_assoc, ← Nat.pow_add]
    congr 2; omega

theorem rem_zero_left (x y : Float) (hx : isZero x = true) (hy : isFinite y = true) (hy0 : isZero y = false) :
    rem x y = x := by
  have hfx : isFinite x = true := by
    unfold isZero at hx; unfold isFinite; rw [decide_eq_true_eq] at hx ⊢; omega
  obtain ⟨hn, hi⟩ := fin_not_nan x hfx
  obtain ⟨hny, hiy⟩ := fin_not_nan y hy
  unfold rem
  simp only [hn, hi, hny, hiy, hy0, hx, Bool.or_self, Bool.false_eq_true, if_false, if_true]

theorem rem_mkF_units (s1 s2 : Sign) (m1 m2 : Nat) (e1 e2 : Int) (h1 : Canon m1 e1) (h2 : Canon m2 e2) :
    signBit (rem (mkF s1 m1 e1 h1.pos) (mkF s2 m2 e2 h2.pos)) = decide (sbit s1 = 1) ∧
    isFinite (rem (mkF s1 m1 e1 h1.pos) (mkF s2 m2 e2 h2.pos)) = true ∧
    unitsN (rem (mkF s1 m1 e1 h1.pos) (mkF s2 m2 e2 h2.pos)) =
      ((m1 * 2^(e1 - min e1 e2).toNat) % (m2 * 2^(e2 - min e1 e2).toNat)) * 2^(min e1 e2 + 1074).toNat := by
  rw [rem_mkF s1 s2 m1 m2 e1 e2 h1 h2, Nat.shiftLeft_eq, Nat.shiftLeft_eq]
  have hg1 := h1.ge; have hg2 := h2.ge
  have hl1 := h1.lt; have hl2 := h2.lt
  have hle2 := h2.le
  generalize he : min e1 e2 = e
  generalize ha : (e1 - e).toNat = a
  generalize hb : (e2 - e).toNat = b
  have hYpos : 0 < m2 * 2^b := Nat.mul_pos h2.pos (Nat.two_pow_pos b)
  have hRY : m1 * 2^a % (m2 * 2^b) < m2 * 2^b := Nat.mod_lt _ hYpos
  have hRX : m1 * 2^a % (m2 * 2^b) ≤ m1 * 2^a := Nat.mod_le _ _
  generalize hR : m1 * 2^a % (m2 * 2^b) = R at *
  have hR53 : R < 2^53 := by
    by_cases hc : e1 ≤ e2
    · have : a = 0 := by omega
      rw [this, Nat.pow_zero, Nat.mul_one] at hRX; omega
    · have : b = 0 := by omega
      rw [this, Nat.pow_zero, Nat.mul_one] at hRY; omega
  have htop : e + (R.log2 : Int) ≤ 1023 := by
    by_cases hR0 : R = 0
    · rw [hR0, Nat.log2_zero]; omega
    · have : R < 2^(53 + b) := by
        calc R < m2 * 2^b := hRY
          _ < 2^53 * 2^b := Nat.mul_lt_mul_of_pos_right hl2 (Nat.two_pow_pos b)
          _ = 2^(53 + b) := (Nat.pow_add _ _ _).symm
      have := (Nat.log2_lt hR0).2 this
      omega
  obtain ⟨u1, u2, u3⟩ := unitsN_ofNatScaled (decide (sbit s1 = 1)) R e hR53 (by omega) htop
  exact ⟨u2, u3, u1⟩

/-- **C `fmod`, exactly**: for finite x and finite non-zero y the result is finite, carries the sign bit of x
    (also when it is zero) and its magnitude is the remainder of the magnitudes, in units of 2^-1074 -/
theorem rem_finite (x y : Float) (hx : isFinite x = true) (hy : isFinite y = true) (hy0 : isZero y = false) :
    signBit (rem x y) = signBit x ∧ isFinite (rem x y) = true ∧ unitsN (rem x y) = unitsN x % unitsN y := by
  obtain ⟨s2, m2, e2, h2, rfl⟩ := exists_mkF y hy hy0
  rcases finite_cases x hx with ⟨s, rfl⟩ | ⟨s1, m1, e1, h1, rfl⟩
  · rw [rem_zero_left _ _ (isZero_zeroF s) hy hy0, unitsN_zeroF]
    exact ⟨rfl, isFinite_zeroF s, by simp⟩
  · obtain ⟨r1, r2, r3⟩ := rem_mkF_units s1 s2 m1 m2 e1 e2 h1 h2
    refine ⟨by rw [r1, signBit_mkF s1 m1 e1 h1], r2, ?_⟩
    rw [r3, unitsN_mkF _ _ _ h1, unitsN_mkF _ _ _ h2]
    generalize he : min e1 e2 = e
    have hge : -1074 ≤ e := he ▸ Int.le_min.2 ⟨h1.ge, h2.ge⟩
    have e1' := toNat_sub_add e1 e (-1074) hge (he ▸ Int.min_le_left e1 e2)
    have e2' := toNat_sub_add e2 e (-1074) hge (he ▸ Int.min_le_right e1 e2)
    rw [Int.sub_neg, Int.sub_neg] at e1' e2'
    rw [e1', e2', Nat.pow_add, Nat.pow_add, ← Nat.mul_assoc, ← Nat.mul_assoc, Nat.mul_mod_mul_right]

/-- the same on signed values: the truncated remainder `x - trunc(x/y)·y` of the exact values -/
theorem units_rem (x y : Float) (hx : isFinite x = true) (hy : isFinite y = true) (hy0 : isZero y = false) :
    units (rem x y) = (units x).tmod (units y) := by
  obtain ⟨r1, _, r3⟩ := rem_finite x y hx hy hy0
  unfold units
  rw [r1, r3]
  cases signBit x <;> cases signBit y <;>
    simp only [Bool.false_eq_true, if_false, if_true, Int.tmod_neg, Int.neg_tmod, Int.ofNat_tmod]

theorem unitsN_rem_lt (x y : Float) (hx : isFinite x = true) (hy : isFinite y = true) (hy0 : isZero y = false) :
    unitsN (rem x y) < unitsN y := by
  rw [(rem_finite x y hx hy hy0).2.2]
  apply Nat.mod_lt
  have : unitsN y ≠ 0 := fun h0 => by
    have := (isZero_iff_unitsN y).2 h0; rw [hy0] at this; cases this
  omega

/-- decode-level form: with x = ± mx·2^ex, y = ± my·2^ey and e = min ex ey, the result is the double
    `ofNatScaled (sign x) ((mx·2^(ex-e)) mod (my·2^(ey-e))) e`, which represents that number exactly -/
theorem rem_decoded (x y : Float) (hx : isFinite x = true) (hx0 : isZero x = false)
    (hy : isFinite y = true) (hy0 : isZero y = false) :
    rem x y = ofNatScaled (signBit x)
      (((decode x).1 * 2^((decode x).2 - min (decode x).2 (decode y).2).toNat) %
        ((decode y).1 * 2^((decode y).2 - min (decode x).2 (decode y).2).toNat)) (min (decode x).2 (decode y).2) ∧
    unitsN (rem x y) =
      (((decode x).1 * 2^((decode x).2 - min (decode x).2 (decode y).2).toNat) %
        ((decode y).1 * 2^((decode y).2 - min (decode x).2 (decode y).2).toNat)) *
        2^(min (decode x).2 (decode y).2 + 1074).toNat := by
  obtain ⟨s1, m1, e1, h1, rfl⟩ := exists_mkF x hx hx0
  obtain ⟨s2, m2, e2, h2, rfl⟩ := exists_mkF y hy hy0
  rw [decode_mkF _ _ _ h1, decode_mkF _ _ _ h2, signBit_mkF _ _ _ h1]
  refine ⟨?_, (rem_mkF_units s1 s2 m1 m2 e1 e2 h1 h2).2.2⟩
  rw [rem_mkF s1 s2 m1 m2 e1 e2 h1 h2, Nat.shiftLeft_eq, Nat.shiftLeft_eq]

theorem units_div_unit (m : Nat) (e : Int) (he : -1074 ≤ e) :
    m * 2^(e + 1074).toNat / 2^1074 = if e ≥ 0 then m * 2^e.toNat else m / 2^(-e).toNat := by
  split
  · have : (e + 1074).toNat = e.toNat + 1074 := by omega
    rw [this, Nat.pow_add, ← Nat.mul_assoc, Nat.mul_div_cancel _ (Nat.two_pow_pos 1074)]
  · generalize hk : (-e).toNat = k
    have hk' : (e + 1074).toNat = 1074 - k := by omega
    have hpow : (2:Nat)^1074 = 2^k * 2^(1074 - k) := by rw [← Nat.pow_add]; congr 1; omega
    rw [hk', hpow, Nat.mul_div_mul_right _ _ (Nat.two_pow_pos _)]

set_option exponentiation.threshold 2000 in
/-- `trunc x` is the integer part of x, rounded toward zero: in units of 2^-1074 (1 = 2^1074 units) -/
theorem unitsN_trunc (x : Float) (hx : isFinite x = true) :
    unitsN (trunc x) = unitsN x / 2^1074 * 2^1074 ∧ isFinite (trunc x) = true := by
  rcases finite_cases x hx with ⟨s, rfl⟩ | ⟨s, m, e, h, rfl⟩
  · rw [trunc_zeroF, unitsN_zeroF]; exact ⟨by simp, isFinite_zeroF s⟩
  · have hlt := h.lt; have hge := h.ge
    by_cases he0 : 0 ≤ e
    · rw [trunc_mkF_int s m e h (Or.inl he0), unitsN_mkF _ _ _ h]
      refine ⟨?_, isFinite_mkF _ _ _ h⟩
      have : (e + 1074).toNat = e.toNat + 1074 := by omega
      rw [this, Nat.pow_add, ← Nat.mul_assoc, Nat.mul_div_cancel _ (Nat.two_pow_pos 1074)]
    · by_cases he : e < -52
      · rw [trunc_mkF_small s m e h he, unitsN_zeroF, unitsN_mkF _ _ _ h]
        refine ⟨?_, isFinite_zeroF s⟩
        have : m * 2^(e + 1074).toNat < 2^1074 := by
          calc m * 2^(e + 1074).toNat < 2^53 * 2^(e + 1074).toNat :=
                Nat.mul_lt_mul_of_pos_right hlt (Nat.two_pow_pos _)
            _ = 2^(53 + (e + 1074).toNat) := (Nat.pow_add _ _ _).symm
            _ ≤ 2^1074 := Nat.pow_le_pow_right (by decide) (by omega)
        rw [Nat.div_eq_of_lt this, Nat.zero_mul]
      · obtain ⟨hc', ht⟩ := trunc_mkF_mid s m e h (by omega) (by omega)
        rw [ht, unitsN_mkF _ _ _ hc', unitsN_mkF _ _ _ h]
        refine ⟨?_, isFinite_mkF _ _ _ hc'⟩
        have hk : (-e).toNat + (e + 1074).toNat = 1074 := by omega
        rw [units_div_unit m e hge, if_neg (by omega), Nat.mul_assoc, ← Nat.pow_add, hk]

set_option exponentiation.threshold 2000 in
theorem units_trunc (x : Float) (hx : isFinite x = true) :
    units (trunc x) = (units x).tdiv (2^1074) * 2^1074 := by
  rw [units_def, units_def, trunc_signBit, (unitsN_trunc x hx).1, skey_div_mul, Int.natCast_pow]
  rfl

theorem decode_ge (x : Float) : -1074 ≤ (decode x).2 := by
  unfold decode; simp only []
  split
  · exact Int.le_refl _
  · rename_i h
    have : expBits x ≠ 0 := by simpa using h
    show -1074 ≤ (expBits x : Int) - 1075
    omega

theorem truncToInt_eq (x : Float) : truncToInt x = skey (signBit x) (unitsN x / 2^1074) := by
  have hge := decode_ge x
  unfold truncToInt unitsN skey
  generalize decode x = d at hge ⊢
  obtain ⟨m, e⟩ := d
  simp only [] at hge ⊢
  rw [units_div_unit m e hge, Nat.shiftLeft_eq, Nat.shiftRight_eq_div_pow]

theorem trunc_eq_self (x : Float) (hx : isFinite x = true) (h : unitsN x / 2^1074 * 2^1074 = unitsN x) :
    trunc x = x :=
  eq_of_units _ _ (trunc_signBit x) (by rw [(unitsN_trunc x hx).1, h])

end F64
end Slac
