/-
  SlacProofs.DebugFmt — helper lemmas about SlacModel.DebugFmt (core only, no Mathlib):
  * `display_eq`: `F64.display` is literally the digit search `shortestDigits` followed by `plainBody`, so
    `Debug` (which prints `shortestDigits`) and `Display` print the SAME digits;
  * `debugF64_plain`: outside the exponent range `Debug for f64` is `Display for f64`, plus `.0` when `Display`
    printed no fraction;
  * `debugListWith_eq`: `Debug for Vec` = elements joined with `, ` between brackets;
  * `escapeChar_control`: every C0/C1 control character (and DEL, NBSP) comes out as printable ASCII.
-/
import SlacModel.DebugFmt
set_option autoImplicit false
namespace Slac
namespace DebugFmt
open F64

/-- A computed text is compared with a string literal by taking the literal as `String.ofList` of its characters (an
    identification the kernel makes at no cost): the kernel's own evaluation of `"…".toList` takes time quadratic in
    the length of the literal. -/
theorem eq_lit {l r : Str} (h : l = r) : l = (String.ofList r).toList := h.trans String.toList_ofList.symm

theorem display_eq (x : Float) : F64.display x = displayViaDigits x := by
  unfold F64.display displayViaDigits shortestDigits plainBody
  rfl

/-- `digits_to_dec_str` with `frac_digits = 1` against `frac_digits = 0`, on the digits of `c` scaled by `10^p` -/
theorem decForm_eq (c : Nat) (p : Int) :
    decForm (Nat.toDigits 10 c) (((Nat.toDigits 10 c).length : Int) + p) =
      if p ≥ 0 then plainBody c p ++ ['.', '0'] else plainBody c p := by
  have hne : Nat.toDigits 10 c ≠ [] := Nat.toDigits_ne_nil
  have hlen : 0 < (Nat.toDigits 10 c).length := List.length_pos_iff.mpr hne
  generalize hds : Nat.toDigits 10 c = ds at *
  unfold decForm plainBody
  simp only [hds]
  by_cases hp : p ≥ 0
  · have h1 : ¬ ((ds.length : Int) + p ≤ 0) := by omega
    have h2 : ¬ (((ds.length : Int) + p).toNat < ds.length) := by omega
    have h3 : ((ds.length : Int) + p).toNat - ds.length = p.toNat := by omega
    simp only [hp, h1, h2, h3, if_true, if_false]
  · by_cases hq : ds.length ≤ (-p).toNat
    · have h1 : ((ds.length : Int) + p ≤ 0) := by omega
      have h3 : (-((ds.length : Int) + p)).toNat = (-p).toNat - ds.length := by omega
      simp only [hp, h1, h3, hq, if_true, if_false]
    · have h1 : ¬ ((ds.length : Int) + p ≤ 0) := by omega
      have h2 : ds.length - (-p).toNat < ds.length := by omega
      have h3 : ((ds.length : Int) + p).toNat = ds.length - (-p).toNat := by omega
      simp only [hp, h1, h3, h2, hq, if_true, if_false]

theorem dot_not_mem_toDigits (c : Nat) : '.' ∉ Nat.toDigits 10 c := by
  intro h
  have := Nat.isDigit_of_mem_toDigits (b := 10) (by decide) (by decide) h
  revert this; decide

theorem dot_mem_plainBody (c : Nat) (p : Int) : '.' ∈ plainBody c p ↔ p < 0 := by
  have hd := dot_not_mem_toDigits c
  unfold plainBody
  by_cases hp : p ≥ 0
  · simp [hp, hd, List.mem_replicate]
  · have : p < 0 := by omega
    simp only [hp, if_false, this, iff_true]
    split <;> simp

/-- In the plain-decimal range (`1e-4 ≤ |x| < 1e16`, or zero) `Debug for f64` is `Display for f64`, with `.0`
    appended exactly when `Display` printed no fraction.  (NaN and ±inf print the same in both.) -/
theorem debugF64_plain (x : Float) (hn : isNaN x = false) (hi : isInf x = false) (he : useExp x = false) :
    debugF64 x = if '.' ∈ F64.display x then F64.display x else F64.display x ++ ['.', '0'] := by
  rw [display_eq]
  unfold debugF64 displayViaDigits
  simp only [hn, hi, he, Bool.false_eq_true, if_false]
  by_cases hz : isZero x = true
  · simp only [hz, if_true]
    by_cases hs : signBit x = true <;> simp [hs]
  · simp only [hz]
    generalize shortestDigits (if signBit x = true then -x else x) = cp
    obtain ⟨c, p⟩ := cp
    simp only
    rw [decForm_eq]
    have hm := dot_mem_plainBody c p
    by_cases hp : p ≥ 0
    · have hnm : '.' ∉ plainBody c p := fun h => by have := hm.mp h; omega
      by_cases hs : signBit x = true <;> simp [hs, hp, hnm]
    · have hmm : '.' ∈ plainBody c p := hm.mpr (by omega)
      by_cases hs : signBit x = true <;> simp [hs, hp, hmm]

section
variable {N : Type} (dn : N → Str)

theorem debugTailWith_eq (xs : List (Value N)) :
    debugTailWith dn xs = (xs.map fun v => ',' :: ' ' :: debugValueWith dn v).flatten := by
  induction xs with
  | nil => simp [debugTailWith]
  | cons v r ih => simp [debugTailWith, ih]

theorem intercalate_cons (a : Str) (r : List Str) :
    List.intercalate [',', ' '] (a :: r) = a ++ (r.map fun s => ',' :: ' ' :: s).flatten := by
  induction r generalizing a with
  | nil => simp [List.intercalate]
  | cons b r ih =>
    have := ih b
    simp only [List.intercalate, List.intersperse_cons_cons, List.flatten_cons, List.map_cons] at this ⊢
    rw [this]; simp

/-- `Debug for Vec<Value>`: the elements' `Debug` texts joined with `, ` between `[` and `]` -/
theorem debugListWith_eq (xs : List (Value N)) :
    debugListWith dn xs = '[' :: (List.intercalate [',', ' '] (xs.map (debugValueWith dn)) ++ [']']) := by
  cases xs with
  | nil => simp [debugListWith, List.intercalate]
  | cons v r =>
    simp only [debugListWith, List.map_cons, intercalate_cons, debugTailWith_eq, List.map_map]
    simp [Function.comp_def]
end

def printableAscii (c : Char) : Bool := 0x20 ≤ c.toNat && c.toNat ≤ 0x7E

/-- code points 0–31 and 127–160 (C0, DEL, C1, NBSP) are all written with printable ASCII only
    (kernel-evaluated over the 66 code points) -/
theorem escapeChar_control :
    ∀ n : Fin 161, (n.val < 32 ∨ 127 ≤ n.val) → (escapeChar (Char.ofNat n.val)).all printableAscii = true := by
  decide +kernel

end DebugFmt
end Slac
