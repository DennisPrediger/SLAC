/-
  SlacProofs.MathHex — `Stdlib.upperHexDigits n` really is the upper-case hexadecimal numeral of `n`:
  evaluating the digits in base 16 gives `n` back, every digit is one of 0-9A-F, there is no leading zero
  for n > 0, and the length is the number of base-16 digits.  (C17 `upperHexDigits_is_hex` collects these.)
-/
import SlacModel.Stdlib
set_option autoImplicit false
namespace Slac
namespace MathHex
open Stdlib

/-- value of an upper-case hexadecimal digit (0 for every other character) -/
def hexVal (c : Char) : Nat :=
  if 48 ≤ c.toNat ∧ c.toNat ≤ 57 then c.toNat - 48
  else if 65 ≤ c.toNat ∧ c.toNat ≤ 70 then c.toNat - 55 else 0

def isUpperHex (c : Char) : Bool :=
  (decide (48 ≤ c.toNat) && decide (c.toNat ≤ 57)) || (decide (65 ≤ c.toNat) && decide (c.toNat ≤ 70))

/-- base-16 evaluation of a digit string, most significant digit first -/
def evalHex (ds : Str) : Nat := ds.foldl (fun a c => 16 * a + hexVal c) 0

def hexDigit (d : Nat) : Char := (Nat.digitChar d).toUpper

theorem hexDigit_table : ∀ d, d < 16 →
    hexVal (hexDigit d) = d ∧ isUpperHex (hexDigit d) = true ∧ (hexDigit d = '0' → d = 0) := by
  decide

theorem upperHexDigits_lt {n : Nat} (h : n < 16) : upperHexDigits n = [hexDigit n] := by
  simp [upperHexDigits, Nat.toDigits_of_lt_base h, hexDigit]

theorem upperHexDigits_step {n : Nat} (h : 16 ≤ n) :
    upperHexDigits n = upperHexDigits (n / 16) ++ [hexDigit (n % 16)] := by
  simp [upperHexDigits, Nat.toDigits_of_base_le (by decide : 1 < 16) h, hexDigit]

theorem evalHex_append (ds : Str) (c : Char) : evalHex (ds ++ [c]) = 16 * evalHex ds + hexVal c := by
  simp [evalHex, List.foldl_append]

theorem evalHex_upperHexDigits (n : Nat) : evalHex (upperHexDigits n) = n := by
  induction n using Nat.strongRecOn with | ind n ih
  rcases Nat.lt_or_ge n 16 with h | h
  · rw [upperHexDigits_lt h]; simp [evalHex, (hexDigit_table n h).1]
  · rw [upperHexDigits_step h, evalHex_append, ih (n / 16) (by omega),
      (hexDigit_table _ (Nat.mod_lt n (by decide))).1]
    omega

theorem upperHexDigits_all (n : Nat) : ∀ c ∈ upperHexDigits n, isUpperHex c = true := by
  induction n using Nat.strongRecOn with | ind n ih
  rcases Nat.lt_or_ge n 16 with h | h
  · rw [upperHexDigits_lt h]; intro c hc; simp at hc; subst hc; exact (hexDigit_table n h).2.1
  · rw [upperHexDigits_step h]; intro c hc
    rcases List.mem_append.1 hc with hc | hc
    · exact ih (n / 16) (by omega) c hc
    · simp at hc; subst hc; exact (hexDigit_table _ (Nat.mod_lt n (by decide))).2.1

theorem upperHexDigits_ne_nil (n : Nat) : upperHexDigits n ≠ [] := by
  simp [upperHexDigits]

theorem upperHexDigits_head (n : Nat) (hn : 0 < n) : (upperHexDigits n).head? ≠ some '0' := by
  induction n using Nat.strongRecOn with | ind n ih
  rcases Nat.lt_or_ge n 16 with h | h
  · rw [upperHexDigits_lt h]; intro h0
    simp at h0
    have := (hexDigit_table n h).2.2 h0; omega
  · rw [upperHexDigits_step h]
    have hne := upperHexDigits_ne_nil (n / 16)
    have := ih (n / 16) (by omega) (by omega)
    cases hd : upperHexDigits (n / 16) with
    | nil => exact absurd hd hne
    | cons a as => rw [hd] at this; simpa using this

theorem upperHexDigits_zero : upperHexDigits 0 = ['0'] := by decide

theorem upperHexDigits_length_le (n k : Nat) (hk : 0 < k) : (upperHexDigits n).length ≤ k ↔ n < 16 ^ k := by
  simp only [upperHexDigits, List.length_map]
  exact Nat.length_toDigits_le_iff (by decide) hk

/-- two numbers with the same numeral are equal (the numeral determines the number) -/
theorem upperHexDigits_inj {a b : Nat} (h : upperHexDigits a = upperHexDigits b) : a = b := by
  rw [← evalHex_upperHexDigits a, ← evalHex_upperHexDigits b, h]

example : upperHexDigits 3735928559 = ['D','E','A','D','B','E','E','F'] := by decide
example : evalHex ['D','E','A','D','B','E','E','F'] = 3735928559 := by decide

end MathHex
end Slac
