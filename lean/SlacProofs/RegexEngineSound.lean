/-
  SlacProofs.RegexEngineSound — a declarative matching relation for the regex tree and soundness of the
  backtracking matcher, the search and the `find_iter` iteration of SlacModel.RegexEngine with respect to it.
-/
import SlacModel.RegexEngine
import SlacProofs.RegexEngine
set_option autoImplicit false
namespace Slac.RegexEngine

/-- `n`-fold composition of a relation on positions -/
def iter (R : Cur → Cur → Prop) : Nat → Cur → Cur → Prop
  | 0, c, c' => c = c'
  | n + 1, c, c' => ∃ d, R c d ∧ iter R n d c'

/-- `Matches ast c c'`: the tree matches the text between position `c` and position `c'` (look-around assertions
    are evaluated at the positions where they stand).  Priorities, greediness and captures play no role here.
    (`max mn b`: the parser rejects `{m,n}` with `m > n`; the tree type does not, and the matcher then runs `m` copies.) -/
def Matches : Ast → Cur → Cur → Prop
  | .empty, c, c' => c = c'
  | .chr a, c, c' => ∃ t, c.rest = a :: t ∧ c' = c.adv a t
  | .cls rs, c, c' => ∃ d t, c.rest = d :: t ∧ inRanges rs d = true ∧ c' = c.adv d t
  | .look l, c, c' => lookOk l c = true ∧ c = c'
  | .rep mn mx _ x, c, c' => ∃ n, mn ≤ n ∧ (∀ b, mx = some b → n ≤ max mn b) ∧ iter (Matches x) n c c'
  | .cap _ x, c, c' => Matches x c c'
  | .cat a b, c, c' => ∃ d, Matches a c d ∧ Matches b d c'
  | .alt a b, c, c' => Matches a c c' ∨ Matches b c c'

theorem iter_append (R : Cur → Cur → Prop) (a b : Nat) (c d e : Cur) (h1 : iter R a c d) (h2 : iter R b d e) :
    iter R (a + b) c e := by
  induction a generalizing c with
  | zero => simp only [iter] at h1; subst h1; simpa using h2
  | succ a ih =>
    obtain ⟨x, hx, hr⟩ := h1
    rw [show a + 1 + b = (a + b) + 1 by omega]
    exact ⟨x, hx, ih x hr⟩

/-- "whenever the matcher succeeds, it has called its continuation at a position related by `R`" -/
def SoundM (body : M) (R : Cur → Cur → Prop) : Prop :=
  ∀ cur caps (k : K) r, body cur caps k = some r → ∃ cur' caps', R cur cur' ∧ k cur' caps' = some r

theorem orElse_some {α : Type} (a : Option α) (b : Unit → Option α) (r : α) (h : a.orElse b = some r) :
    a = some r ∨ b () = some r := by
  cases a with
  | none => right; simpa [Option.orElse] using h
  | some x => left; simpa [Option.orElse] using h

theorem greedy_or {α : Type} (g : Bool) (a b : Option α) (r : α)
    (h : (if g = true then a.orElse fun _ => b else b.orElse fun _ => a) = some r) : a = some r ∨ b = some r := by
  cases g
  · exact (orElse_some _ _ _ h).symm
  · exact orElse_some _ _ _ h

theorem repExact_sound (body : M) (R : Cur → Cur → Prop) (hb : SoundM body R) (n : Nat) :
    SoundM (repExact body n) (iter R n) := by
  induction n with
  | zero => intro cur caps k r h; exact ⟨cur, caps, rfl, h⟩
  | succ n ih =>
    intro cur caps k r h
    simp only [repExact] at h
    obtain ⟨d, capsd, hR, hk⟩ := hb _ _ _ _ h
    obtain ⟨e, capse, hI, hk'⟩ := ih _ _ _ _ hk
    exact ⟨e, capse, ⟨d, hR, hI⟩, hk'⟩

theorem repOpt_sound (body : M) (R : Cur → Cur → Prop) (hb : SoundM body R) (g : Bool) (n : Nat) :
    SoundM (repOpt body g n) (fun c c' => ∃ j, j ≤ n ∧ iter R j c c') := by
  induction n with
  | zero => intro cur caps k r h; exact ⟨cur, caps, ⟨0, Nat.le_refl _, rfl⟩, h⟩
  | succ n ih =>
    intro cur caps k r h
    simp only [repOpt] at h
    rcases greedy_or g _ _ r h with h1 | h2
    · obtain ⟨d, capsd, hR, hk⟩ := hb _ _ _ _ h1
      obtain ⟨e, capse, ⟨j, hj, hI⟩, hk'⟩ := ih _ _ _ _ hk
      exact ⟨e, capse, ⟨j + 1, by omega, d, hR, hI⟩, hk'⟩
    · exact ⟨cur, caps, ⟨0, by omega, rfl⟩, h2⟩

theorem repStar_sound (body : M) (R : Cur → Cur → Prop) (hb : SoundM body R) (g : Bool) (f : Nat) :
    SoundM (repStar body g f) (fun c c' => ∃ j, iter R j c c') := by
  induction f with
  | zero => intro cur caps k r h; exact ⟨cur, caps, ⟨0, rfl⟩, h⟩
  | succ f ih =>
    intro cur caps k r h
    simp only [repStar] at h
    rcases greedy_or g _ _ r h with h1 | h2
    · obtain ⟨d, capsd, hR, hk⟩ := hb _ _ _ _ h1
      split at hk
      · obtain ⟨e, capse, ⟨j, hI⟩, hk'⟩ := ih _ _ _ _ hk
        exact ⟨e, capse, ⟨j + 1, d, hR, hI⟩, hk'⟩
      · cases hk
    · exact ⟨cur, caps, ⟨0, rfl⟩, h2⟩

/-- the matcher is sound: a success went through a position pair in the declarative relation -/
theorem m_sound (ast : Ast) : SoundM (m ast) (Matches ast) := by
  induction ast with
  | empty => intro cur caps k r h; exact ⟨cur, caps, rfl, h⟩
  | chr c =>
    intro cur caps k r h
    simp only [m] at h
    split at h
    · cases h
    · rename_i d t hrest
      split at h
      · rename_i hd; subst hd; exact ⟨_, caps, ⟨t, hrest, rfl⟩, h⟩
      · cases h
  | cls rs =>
    intro cur caps k r h
    simp only [m] at h
    split at h
    · cases h
    · rename_i d t hrest
      split at h
      · rename_i hd; exact ⟨_, caps, ⟨d, t, hrest, hd, rfl⟩, h⟩
      · cases h
  | look l =>
    intro cur caps k r h
    simp only [m] at h
    split at h
    · rename_i hl; exact ⟨cur, caps, ⟨hl, rfl⟩, h⟩
    · cases h
  | rep mn mx g x ih =>
    intro cur caps k r h
    simp only [m] at h
    obtain ⟨d, capsd, hI, hk⟩ := repExact_sound _ _ ih mn _ _ _ _ h
    cases mx with
    | none =>
      obtain ⟨e, capse, ⟨j, hJ⟩, hk'⟩ := repStar_sound _ _ ih g _ _ _ _ _ hk
      exact ⟨e, capse, ⟨mn + j, ⟨by omega, ⟨(fun b hb => nomatch hb), iter_append _ _ _ _ _ _ hI hJ⟩⟩⟩, hk'⟩
    | some b =>
      obtain ⟨e, capse, ⟨j, hj, hJ⟩, hk'⟩ := repOpt_sound _ _ ih g _ _ _ _ _ hk
      exact ⟨e, capse, ⟨mn + j, ⟨by omega, ⟨fun b' hb' => by cases hb'; omega, iter_append _ _ _ _ _ _ hI hJ⟩⟩⟩, hk'⟩
  | cap i x ih =>
    intro cur caps k r h
    simp only [m] at h
    obtain ⟨d, capsd, hM, hk⟩ := ih _ _ _ _ h
    exact ⟨d, _, hM, hk⟩
  | cat a b iha ihb =>
    intro cur caps k r h
    simp only [m] at h
    obtain ⟨d, capsd, hA, hk⟩ := iha _ _ _ _ h
    obtain ⟨e, capse, hB, hk'⟩ := ihb _ _ _ _ hk
    exact ⟨e, capse, ⟨d, hA, hB⟩, hk'⟩
  | alt a b iha ihb =>
    intro cur caps k r h
    simp only [m] at h
    rcases orElse_some _ _ _ h with h1 | h2
    · obtain ⟨d, capsd, hA, hk⟩ := iha _ _ _ _ h1
      exact ⟨d, capsd, Or.inl hA, hk⟩
    · obtain ⟨d, capsd, hB, hk⟩ := ihb _ _ _ _ h2
      exact ⟨d, capsd, Or.inr hB, hk⟩

/-- `c'` is reached from `c` by consuming the word `w` -/
def ReachW (c : Cur) (w : Str) (c' : Cur) : Prop :=
  c.rest = w ++ c'.rest ∧ c'.i = c.i + w.length ∧ c'.prev = (match w.getLast? with | some x => some x | none => c.prev)

def Reach (c c' : Cur) : Prop := ∃ w, ReachW c w c'

theorem Reach.refl (c : Cur) : Reach c c := ⟨[], by simp [ReachW]⟩

theorem Reach.adv (c : Cur) (a : Char) (t : Str) (h : c.rest = a :: t) : Reach c (c.adv a t) :=
  ⟨[a], by simp [ReachW, Cur.adv, h]⟩

theorem Reach.trans {c d e : Cur} (h1 : Reach c d) (h2 : Reach d e) : Reach c e := by
  obtain ⟨w1, r1, i1, p1⟩ := h1
  obtain ⟨w2, r2, i2, p2⟩ := h2
  refine ⟨w1 ++ w2, by rw [r1, r2, List.append_assoc], by rw [i2, i1, List.length_append]; omega, ?_⟩
  rw [p2, p1, List.getLast?_append]
  cases w2.getLast? <;> simp

theorem iter_reach (R : Cur → Cur → Prop) (hR : ∀ c c', R c c' → Reach c c') (n : Nat) (c c' : Cur)
    (h : iter R n c c') : Reach c c' := by
  induction n generalizing c with
  | zero => simp only [iter] at h; subst h; exact Reach.refl _
  | succ n ih => obtain ⟨d, hd, hr⟩ := h; exact (hR _ _ hd).trans (ih _ hr)

theorem Matches_reach (ast : Ast) (c c' : Cur) (h : Matches ast c c') : Reach c c' := by
  induction ast generalizing c c' with
  | empty => simp only [Matches] at h; subst h; exact Reach.refl _
  | chr a => obtain ⟨t, ht, rfl⟩ := h; exact Reach.adv _ _ _ ht
  | cls rs => obtain ⟨d, t, ht, _, rfl⟩ := h; exact Reach.adv _ _ _ ht
  | look l => obtain ⟨_, rfl⟩ := h; exact Reach.refl _
  | rep mn mx g x ih => obtain ⟨n, _, _, hI⟩ := h; exact iter_reach _ ih n _ _ hI
  | cap i x ih => exact ih _ _ h
  | cat a b iha ihb => obtain ⟨d, h1, h2⟩ := h; exact (iha _ _ h1).trans (ihb _ _ h2)
  | alt a b iha ihb => rcases h with h | h; exact iha _ _ h; exact ihb _ _ h

/-- `c` is a position of the haystack `h`: index, previous char and remaining text fit together -/
def At (h : Str) (c : Cur) : Prop := ∃ pre, h = pre ++ c.rest ∧ c.i = pre.length ∧ c.prev = pre.getLast?

theorem At.cur0 (h : Str) : At h (cur0 h) := ⟨[], by simp [RegexEngine.cur0]⟩

theorem At.reach {h : Str} {c c' : Cur} (hc : At h c) (hr : Reach c c') : At h c' := by
  obtain ⟨pre, hh, hi, hp⟩ := hc
  obtain ⟨w, r, i, p⟩ := hr
  refine ⟨pre ++ w, by rw [hh, r, List.append_assoc], by rw [i, hi, List.length_append], ?_⟩
  rw [p, hp, List.getLast?_append]
  cases w.getLast? <;> simp

theorem At.le_length {h : Str} {c : Cur} (hc : At h c) : c.i ≤ h.length := by
  obtain ⟨pre, hh, hi, _⟩ := hc
  rw [hh, hi, List.length_append]; omega

theorem extract_reachW {h : Str} {c c' : Cur} {w : Str} (hc : At h c) (hr : ReachW c w c') :
    extract h c.i c'.i = w := by
  obtain ⟨pre, hh, hi, _⟩ := hc
  obtain ⟨r, i, _⟩ := hr
  simp [extract, hh, hi, i, r]

/-- what a search result is: a match of the tree at a position of the haystack not before the search start -/
def GoodMatch (re : Compiled) (h : Str) (lo : Nat) (x : Mt) : Prop :=
  ∃ c, At h c ∧ lo ≤ c.i ∧ c.i = x.s ∧ Matches re.ast c x.e

theorem GoodMatch.mono {re : Compiled} {h : Str} {lo lo' : Nat} {x : Mt} (g : GoodMatch re h lo x) (hl : lo' ≤ lo) :
    GoodMatch re h lo' x := by
  obtain ⟨c, h1, h2, h3, h4⟩ := g
  exact ⟨c, h1, Nat.le_trans hl h2, h3, h4⟩

theorem hit_sound (re : Compiled) (h : Str) (cur : Cur) (r : Res) (hc : At h cur)
    (hm : m re.ast cur (List.replicate re.ncap none) accept = some r) : GoodMatch re h cur.i ⟨cur.i, r.1, r.2⟩ := by
  obtain ⟨c', caps', hM, hk⟩ := m_sound re.ast _ _ _ _ hm
  cases hk
  exact ⟨_, hc, Nat.le_refl _, rfl, hM⟩

theorem searchFrom_sound (re : Compiled) (h : Str) (i : Nat) (prev : Option Char) (s : Str) (x : Mt)
    (hc : At h ⟨i, prev, s⟩) (hs : searchFrom re i prev s = some x) : GoodMatch re h i x := by
  induction s generalizing i prev with
  | nil =>
    simp only [searchFrom] at hs
    split at hs
    · cases hs; exact hit_sound re h _ _ hc ‹_›
    · cases hs
  | cons a t ih =>
    simp only [searchFrom] at hs
    split at hs
    · cases hs; exact hit_sound re h _ _ hc ‹_›
    · exact (ih _ _ (hc.reach (Reach.adv ⟨i, prev, a :: t⟩ a t rfl)) hs).mono (Nat.le_succ _)

theorem search_sound (re : Compiled) (h : Str) (cur : Cur) (x : Mt) (hc : At h cur) (hs : search re cur = some x) :
    GoodMatch re h cur.i x := searchFrom_sound re h _ _ _ x hc hs

theorem GoodMatch.at_end {re : Compiled} {h : Str} {lo : Nat} {x : Mt} (g : GoodMatch re h lo x) : At h x.e := by
  obtain ⟨c, hc, _, _, hM⟩ := g
  exact hc.reach (Matches_reach _ _ _ hM)

theorem GoodMatch.le {re : Compiled} {h : Str} {lo : Nat} {x : Mt} (g : GoodMatch re h lo x) :
    lo ≤ x.s ∧ x.s ≤ x.e.i ∧ x.e.i ≤ h.length := by
  have he := g.at_end.le_length
  obtain ⟨c, hc, hlo, hs, hM⟩ := g
  obtain ⟨w, _, hi, _⟩ := Matches_reach _ _ _ hM
  omega

theorem nextMatch_sound (re : Compiled) (h : Str) (cur : Cur) (last : Option Nat) (y : Mt) (hc : At h cur)
    (hn : nextMatch re cur last = some y) : GoodMatch re h cur.i y := by
  unfold nextMatch at hn
  cases hs : search re cur with
  | none => rw [hs] at hn; cases hn
  | some x =>
    rw [hs] at hn
    simp only at hn
    split at hn
    · cases hr : cur.rest with
      | nil => rw [hr] at hn; cases hn
      | cons a t =>
        rw [hr] at hn
        exact (search_sound re h _ y (hc.reach (Reach.adv cur a t hr)) hn).mono (Nat.le_succ _)
    · cases hn; exact search_sound re h cur _ hc hs

/-- `Chain re h lo ms`: every element of `ms` is a match of the tree in `h`, the first starting at or behind `lo`,
    each further one at or behind the end of its predecessor (ordered, not overlapping) -/
def Chain (re : Compiled) (h : Str) : Nat → List Mt → Prop
  | _, [] => True
  | lo, x :: xs => GoodMatch re h lo x ∧ Chain re h x.e.i xs

theorem findIterAux_chain (re : Compiled) (h : Str) (f : Nat) (cur : Cur) (last : Option Nat) (hc : At h cur) :
    Chain re h cur.i (findIterAux re f cur last) := by
  induction f generalizing cur last with
  | zero => exact trivial
  | succ f ih =>
    rw [findIterAux_succ]
    cases hn : nextMatch re cur last with
    | none => exact trivial
    | some y =>
      have gy := nextMatch_sound re h cur last y hc hn
      exact ⟨gy, ih _ _ gy.at_end⟩

/-- soundness of `find_iter`: every reported match is a match of the compiled tree in the sense of `Matches`,
    located inside the haystack; the matches are ordered and non-overlapping -/
theorem allMatches_chain (re : Compiled) (h : Str) : Chain re h 0 (allMatches re h) :=
  findIterAux_chain re h _ _ _ (At.cur0 h)

theorem Chain.mem {re : Compiled} {h : Str} {lo : Nat} {ms : List Mt} (hch : Chain re h lo ms) (x : Mt) (hx : x ∈ ms) :
    ∃ lo', GoodMatch re h lo' x := by
  induction ms generalizing lo with
  | nil => cases hx
  | cons y ys ih =>
    obtain ⟨gy, hrest⟩ := hch
    rcases List.mem_cons.mp hx with rfl | hx'
    · exact ⟨lo, gy⟩
    · exact ih hrest hx'

/-- the text `re_find` reports for a match is the word consumed between two positions related by `Matches` -/
theorem allMatches_sound (re : Compiled) (h : Str) (x : Mt) (hx : x ∈ allMatches re h) :
    ∃ c w, At h c ∧ Matches re.ast c x.e ∧ ReachW c w x.e ∧ x.text h = w ∧ x.s ≤ x.e.i ∧ x.e.i ≤ h.length := by
  obtain ⟨lo, g⟩ := (allMatches_chain re h).mem x hx
  have hle := g.le
  obtain ⟨c, hc, _, hs, hM⟩ := g
  obtain ⟨w, hw⟩ := Matches_reach _ _ _ hM
  exact ⟨c, w, hc, hM, hw, by rw [Mt.text, ← hs]; exact extract_reachW hc hw, hle.2.1, hle.2.2⟩

/-- non-vacuity: `a+` matches "aa" between positions 1 and 3 of "baa", and the search finds it there -/
example : Matches (.rep 1 none true (.chr 'a')) ⟨1, some 'b', ['a', 'a']⟩ ⟨3, some 'a', []⟩ :=
  ⟨2, by omega, (fun b hb => nomatch hb), ⟨2, some 'a', ['a']⟩, ⟨['a'], rfl, rfl⟩, ⟨3, some 'a', []⟩, ⟨[], rfl, rfl⟩, rfl⟩
example : (search ⟨.rep 1 none true (.chr 'a'), 1, []⟩ (cur0 ['b', 'a', 'a'])).map (fun x => (x.s, x.e.i)) = some (1, 3) := by
  decide

end Slac.RegexEngine
