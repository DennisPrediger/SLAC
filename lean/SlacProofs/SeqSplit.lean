/-
  SlacProofs.SeqSplit — `Seq.splitOn` is *the* split of SlacProofs.SeqSpec: for a non-empty separator the
  result satisfies `IsSplit` and is the only list of pieces that does; for the empty separator it is
  `splitEmpty` (Rust: `"abc".split("") = ["", "a", "b", "c", ""]`).
-/
import SlacProofs.SeqSearch
set_option autoImplicit false
namespace Slac.Seq
open Slac.SeqSpec
variable {α : Type} [DecidableEq α]

theorem splitOn_empty (s : List α) : splitOn [] s = splitEmpty s := by
  induction s with
  | nil => rfl
  | cons c t ih =>
    rw [splitOn_cons, if_pos List.nil_prefix, if_pos rfl, ih]
    simp [splitEmpty, headApp]

theorem splitOn_of_not_infix (x s : List α) (h : ¬ x <:+: s) : splitOn x s = [s] := by
  induction s with
  | nil =>
    rw [splitOn_nil, if_neg]
    intro hx; subst hx; exact h (List.nil_infix)
  | cons c t ih =>
    rw [List.infix_cons_iff, not_or] at h
    rw [splitOn_cons, if_neg h.1, ih h.2]; rfl

theorem splitOn_isSplit (x s : List α) (hx : x ≠ []) : IsSplit x s (splitOn x s) := by
  refine ⟨splitOn_ne_nil x s, join_splitOn x s, ?_⟩
  refine splitOn_induction x
    (motive := fun s => (∀ p, p ∈ (splitOn x s).dropLast → FirstOcc x (p ++ x) p.length) ∧
      ∀ p, (splitOn x s).getLast? = some p → ¬ x <:+: p)
    ?_ (fun hn => absurd hn hx) (fun hn c t hp ih => ?_) (fun c t hp ih => ?_) s
  · rw [splitOn_nil, if_neg hx]
    exact ⟨nofun, fun p hp h => by cases hp; exact hx (List.infix_nil.1 h)⟩
  · rw [splitOn_cons, if_pos hp, if_neg hn]
    obtain ⟨q, qs, e⟩ := List.exists_cons_of_ne_nil (splitOn_ne_nil x (List.drop x.length (c :: t)))
    rw [e] at ih ⊢
    rw [List.dropLast_cons_cons, List.getLast?_cons_cons]
    refine ⟨fun p hp' => ?_, ih.2⟩
    rcases List.mem_cons.1 hp' with rfl | hp'
    · exact firstOcc_zero _ _ (by simp)
    · exact ih.1 p hp'
  · rw [splitOn_cons, if_neg hp]
    have hj := join_splitOn x t
    obtain ⟨q, qs, e⟩ := List.exists_cons_of_ne_nil (splitOn_ne_nil x t)
    rw [e] at ih hj ⊢
    cases qs with
    | nil =>
      subst hj
      refine ⟨nofun, fun p hp' => ?_⟩
      cases hp'
      show ¬ x <:+: c :: q
      rw [List.infix_cons_iff, not_or]
      exact ⟨hp, ih.2 q rfl⟩
    | cons q2 qs =>
      rw [headApp, List.dropLast_cons_cons, List.getLast?_cons_cons]
      rw [List.dropLast_cons_cons, List.getLast?_cons_cons] at ih
      refine ⟨fun p hp' => ?_, ih.2⟩
      rcases List.mem_cons.1 hp' with rfl | hp'
      · refine firstOcc_succ _ _ _ _ (fun hpre => hp (hpre.trans ?_)) (ih.1 q (List.mem_cons_self ..))
        rw [← hj]
        simp only [join, List.append_assoc]
        exact (List.prefix_cons_inj c).2 ((List.prefix_append_right_inj q).2 (List.prefix_append _ _))
      · exact ih.1 p (List.mem_cons_of_mem _ hp')

/-- behind a piece delimited by the leftmost separator the split continues with the rest -/
theorem splitOn_piece (x : List α) (hx : x ≠ []) (p rest : List α) (h : FirstOcc x (p ++ x) p.length) :
    splitOn x (p ++ x ++ rest) = p :: splitOn x rest := by
  induction p with
  | nil =>
    obtain ⟨c, t, e⟩ := List.exists_cons_of_ne_nil (List.append_ne_nil_of_left_ne_nil hx rest)
    rw [List.nil_append, e, splitOn_cons, if_pos (e ▸ List.prefix_append _ _), if_neg hx, ← e, List.drop_left]
  | cons c p ih =>
    obtain ⟨hnp, hfo⟩ := firstOcc_of_succ x c (p ++ x) p.length (by simpa using h)
    have hnp' : ¬ x <+: c :: (p ++ x ++ rest) := by
      intro hpre
      apply hnp
      have h2 : c :: (p ++ x) <+: c :: (p ++ x ++ rest) := by
        rw [← List.cons_append]; exact List.prefix_append _ _
      refine List.prefix_of_prefix_length_le hpre h2 ?_
      simp; omega
    simp only [List.cons_append]
    rw [splitOn_cons, if_neg hnp', ih hfo]; rfl

theorem isSplit_unique (x : List α) (hx : x ≠ []) (s : List α) (ps : List (List α)) (h : IsSplit x s ps) :
    ps = splitOn x s := by
  induction ps generalizing s with
  | nil => exact absurd rfl h.1
  | cons p ps ih =>
    obtain ⟨_, hj, hd, hl⟩ := h
    cases ps with
    | nil =>
      simp only [join] at hj
      subst hj
      exact (splitOn_of_not_infix x p (hl p (by simp))).symm
    | cons q qs =>
      simp only [join] at hj
      subst hj
      rw [splitOn_piece x hx p _ (hd p (by simp))]
      congr 1
      refine ih _ ⟨by simp, rfl, ?_, ?_⟩
      · intro r hr; exact hd r (by rw [List.dropLast_cons_cons]; exact List.mem_cons_of_mem _ hr)
      · intro r hr; exact hl r (by rw [List.getLast?_cons_cons]; exact hr)

end Slac.Seq
