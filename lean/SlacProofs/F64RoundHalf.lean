/-
  SlacProofs.F64RoundHalf — `F64.round` is "nearest integer, ties away from zero", proved from core's float model:
  * `ofInt_add`: addition of exactly representable integers (|a|,|b|,|a+b| < 2^53, non-zero) is exact;
  * `trunc_mkF_mid_ofInt`: for 1 ≤ |x| < 2^52, `trunc x` is the integer float ±⌊|x|⌋;
  * `round_half_away`: for every finite non-zero x with negative binary exponent (|x| < 2^52), decoded ± m·2^e,
    q = m / 2^-e, f = m mod 2^-e:  round x = ±(q+1) if 2f ≥ 2^-e, else trunc x;
  * `round_nearest_arith`: that integer is the unique nearest one, exact ties going up in magnitude;
  * `round_big`, `round_zero`: the remaining inputs are returned unchanged;  `round_cases`: the weak form.
-/
import SlacProofs.F64Cast
set_option autoImplicit false
namespace Slac
namespace F64
open Float.Model Float.Model.UnpackedFloat

/-- addition of exactly representable integers is exact (non-zero sum) -/
theorem ofInt_add (a b : Int) (ha0 : a ≠ 0) (hb0 : b ≠ 0) (hc0 : a + b ≠ 0)
    (ha : a.natAbs < 2^53) (hb : b.natAbs < 2^53) (hc : (a + b).natAbs < 2^53) :
    F64.ofInt a + F64.ofInt b = F64.ofInt (a + b) := by
  have ha := Nat.le_of_lt ha; have hb := Nat.le_of_lt hb; have hc := Nat.le_of_lt hc
  refine add_exact _ _ _ (ofInt_units a ha).1 (isZero_ofInt a ha0 ha) (ofInt_units b hb).1 (isZero_ofInt b hb0 hb)
    (ofInt_units _ hc).1 (isZero_ofInt _ hc0 hc) ?_
  rw [units_ofInt a ha, units_ofInt b hb, units_ofInt _ hc, Int.add_mul]

theorem float_one : (1 : Float) = F64.ofInt 1 := rfl

/-- `trunc x` as an integer float: for 1 ≤ |x| < 2^52 with x = ± m·2^e (canonical), trunc x = ±(m / 2^(-e)) -/
theorem trunc_mkF_mid_ofInt (s : Sign) (m : Nat) (e : Int) (h : Canon m e) (he1 : -52 ≤ e) (he2 : e < 0) :
    trunc (mkF s m e h.pos) = F64.ofInt (s.apply ((m / 2^(-e).toNat : Nat) : Int)) ∧
      1 ≤ m / 2^(-e).toNat ∧ m / 2^(-e).toNat < 2^52 := by
  have hlt := h.lt
  have h52 := h.normal (by omega)
  generalize hk : (-e).toNat = k
  have hk2 : 2^1 ≤ 2^k := Nat.pow_le_pow_right (by decide) (by omega)
  have hkm : 2^k ≤ m := Nat.le_trans (Nat.pow_le_pow_right (by decide) (by omega)) h52
  have hq1 : 1 ≤ m / 2^k := Nat.div_pos hkm (Nat.two_pow_pos k)
  have hq2 : m / 2^k < 2^52 := Nat.lt_of_le_of_lt (Nat.div_le_div_left hk2 (by decide)) (by omega)
  refine ⟨?_, hq1, hq2⟩
  -- both sides are finite with the sign of s and magnitude (m / 2^k)·2^1074 units
  obtain ⟨_, hs, hu⟩ := ofInt_units (s.apply ((m / 2^k : Nat) : Int)) (by rw [apply_natAbs]; omega)
  refine eq_of_units _ _ ?_ ?_
  · rw [trunc_signBit, signBit_mkF s m e h, hs]
    generalize m / 2^k = q at hq1
    cases s
    · exact (decide_eq_true (show -(q:Int) < 0 by omega)).symm
    · exact (decide_eq_false (show ¬ (q:Int) < 0 by omega)).symm
  · rw [(unitsN_trunc _ (isFinite_mkF s m e h)).1, hu, apply_natAbs, unitsN_mkF s m e h, units_div_unit m e h.ge,
      if_neg (by omega), hk]

theorem canon_one : Canon (2^52) (-52) := Canon.of_normal (by decide) (by decide) (by decide) (by decide)

theorem ofInt_one_eq : F64.ofInt 1 = mkF .positive (2^52) (-52) canon_one.pos := by
  rw [ofInt_eq 1 (by decide) (by decide)]
  unfold mkF; congr 3
theorem ofInt_neg_one_eq : F64.ofInt (-1) = mkF .negative (2^52) (-52) canon_one.pos := by
  rw [ofInt_eq (-1) (by decide) (by decide)]
  unfold mkF; congr 3

theorem sub_one_eq (x : Float) : x - 1 = x + F64.ofInt (-1) := by
  rw [float_one, ofInt_one_eq, sub_mkF_eq_add x _ _ _ canon_one, ofInt_neg_one_eq]; rfl

/-- 0 + 1 = 1, -0 + 1 = 1, 0 - 1 = -1, -0 - 1 = -1 -/
theorem zero_pm_one (s : Sign) : zeroF s + 1 = F64.ofInt 1 ∧ zeroF s - 1 = F64.ofInt (-1) := by
  constructor
  · rw [float_one, ofInt_one_eq, zero_add_mkF _ _ _ _ canon_one]
  · rw [sub_one_eq, ofInt_neg_one_eq, zero_add_mkF _ _ _ _ canon_one]

/-- `round` on a canonical float below 2^52: nearest integer, ties away from zero -/
theorem round_mkF (s : Sign) (m : Nat) (e : Int) (h : Canon m e) (he : e < 0) :
    round (mkF s m e h.pos) =
      if 2 * (m % 2^(-e).toNat) ≥ 2^(-e).toNat
      then F64.ofInt (s.apply ((m / 2^(-e).toNat + 1 : Nat) : Int))
      else trunc (mkF s m e h.pos) := by
  have hlt := h.lt; have hm0 : m ≠ 0 := by have := h.pos; omega
  unfold round
  simp only [decode_mkF s m e h, signBit_mkF s m e h]
  rw [if_neg (by rw [expBits_mkF s m e h]; omega)]
  generalize hk : (-e).toNat = k
  have hk1 : 1 ≤ k := by omega
  have hpk : (2:Nat)^k = 2 * 2^(k-1) := by rw [← Nat.pow_succ']; congr 1; omega
  simp only [Nat.shiftLeft_eq, Nat.one_mul]
  have hcond : (m % 2^k ≥ 2^(k-1)) ↔ (2 * (m % 2^k) ≥ 2^k) := by rw [hpk]; omega
  by_cases hc : 2 * (m % 2^k) ≥ 2^k
  · rw [if_pos (hcond.2 hc), if_pos hc]
    by_cases he52 : e < -52
    · -- |x| < 1: trunc is the signed zero, the quotient is 0
      rw [trunc_mkF_small s m e h he52]
      have hbig : m < 2^k := Nat.lt_of_lt_of_le hlt (Nat.pow_le_pow_right (by decide) (by omega))
      have hq : m / 2^k = 0 := Nat.div_eq_of_lt hbig
      rw [hq]
      cases s
      · simp only [sbit]; exact (zero_pm_one .negative).2
      · simp only [sbit]; exact (zero_pm_one .positive).1
    · obtain ⟨ht, hq1, hq52⟩ := trunc_mkF_mid_ofInt s m e h (by omega) he
      rw [hk] at ht hq1 hq52
      rw [ht]
      generalize m / 2^k = q at *
      cases s
      · simp only [sbit]
        show F64.ofInt (-(q:Int)) - 1 = F64.ofInt (-((q + 1 : Nat) : Int))
        rw [sub_one_eq, ofInt_add _ _ (by omega) (by decide) (by omega) (by omega) (by decide) (by omega)]
        congr 1; omega
      · simp only [sbit]
        show F64.ofInt ((q:Int)) + 1 = F64.ofInt (((q + 1 : Nat) : Int))
        rw [float_one, ofInt_add _ _ (by omega) (by decide) (by omega) (by omega) (by decide) (by omega)]
        congr 1
  · rw [if_neg (fun h' => hc (hcond.1 h')), if_neg hc]

/-- **round (half away from zero)** for every finite non-zero x below 2^52 in magnitude (decoded x = ± m·2^e, e < 0):
    with q = ⌊m / 2^-e⌋ and f = m mod 2^-e, the result is ±(q+1) if f/2^-e ≥ 1/2 and trunc x otherwise. -/
theorem round_half_away (x : Float) (hf : isFinite x = true) (hz : isZero x = false) (he : (decode x).2 < 0) :
    round x =
      if 2 * ((decode x).1 % 2^(-(decode x).2).toNat) ≥ 2^(-(decode x).2).toNat
      then F64.ofInt (if signBit x then -(((decode x).1 / 2^(-(decode x).2).toNat + 1 : Nat) : Int)
                      else (((decode x).1 / 2^(-(decode x).2).toNat + 1 : Nat) : Int))
      else trunc x := by
  obtain ⟨s, m, e, h, rfl⟩ := exists_mkF x hf hz
  rw [decode_mkF s m e h] at he ⊢
  simp only [] at he ⊢
  rw [round_mkF s m e h he, signBit_mkF s m e h]
  cases s <;> rfl

/-- the arithmetic behind it: q + [2f ≥ 2^k] is the integer nearest to m / 2^k, ties going up in magnitude -/
theorem round_nearest_arith (m k q f R : Nat) (hq : q = m / 2^k) (hf' : f = m % 2^k)
    (hRq' : R = if 2 * f ≥ 2^k then q + 1 else q) :
    (2 * (R * 2^k - m) ≤ 2^k ∧ 2 * (m - R * 2^k) ≤ 2^k) ∧ (2 * f = 2^k → R = q + 1) ∧
    (∀ R', 2 * (R' * 2^k - m) < 2^k → 2 * (m - R' * 2^k) < 2^k → R' = R) := by
  have hdm : 2^k * q + f = m := by rw [hq, hf']; exact Nat.div_add_mod m (2^k)
  have hf : f < 2^k := by rw [hf']; exact Nat.mod_lt _ (Nat.two_pow_pos k)
  clear hq hf'
  generalize 2^k = P at *
  have hRP : R * P = if 2 * f ≥ P then P * q + P else P * q := by
    rw [hRq']; split
    · rw [Nat.add_mul, Nat.one_mul, Nat.mul_comm]
    · rw [Nat.mul_comm]
  refine ⟨by split at hRP <;> omega, fun h => by rw [hRq', if_pos (by omega)], fun R' h1 h2 => ?_⟩
  -- another integer is a whole unit P away from R, hence more than half a unit from m
  rcases Nat.lt_trichotomy R' R with h | h | h
  · have := Nat.mul_le_mul_right P (show R' + 1 ≤ R from h)
    rw [Nat.add_mul, Nat.one_mul] at this; split at hRP <;> omega
  · exact h
  · have := Nat.mul_le_mul_right P (show R + 1 ≤ R' from h)
    rw [Nat.add_mul, Nat.one_mul] at this; split at hRP <;> omega

/-- |x| ≥ 2^52 (already an integer), NaN, ±inf: `round x = x` -/
theorem round_big (x : Float) (h : expBits x ≥ 1075) : round x = x := by
  unfold round; simp only []; rw [if_pos h]
theorem round_zero : round (Float.ofBits 0) = Float.ofBits 0 ∧
    round (Float.ofBits 0x8000000000000000) = Float.ofBits 0x8000000000000000 := by decide +kernel

/-- weak form used by callers: the result is `trunc x`, `trunc x + 1` or `trunc x - 1`, by sign -/
theorem round_cases (x : Float) :
    round x = x ∨ round x = trunc x ∨ (signBit x = false ∧ round x = trunc x + 1) ∨
      (signBit x = true ∧ round x = trunc x - 1) := by
  unfold round; simp only []
  split
  · exact Or.inl rfl
  · split
    · cases hs : signBit x
      · exact Or.inr (Or.inr (Or.inl ⟨rfl, by simp⟩))
      · exact Or.inr (Or.inr (Or.inr ⟨rfl, by simp⟩))
    · exact Or.inr (Or.inl rfl)

end F64
end Slac
