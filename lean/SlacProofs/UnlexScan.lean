/-
  SlacProofs.UnlexScan — what the scanner can output: every token of a successful `scan` is `ScanValid`, i.e.
  `LexValid` up to the one clause that mentions the number printer.
-/
import SlacProofs.Unlex
set_option autoImplicit false
namespace Slac.Unlex
open Slac.Scanner
variable {N : Type} [NumOps N]

/-- the tokens the scanner can produce:
    * identifiers are identifier-shaped and not keywords;
    * a number literal `x` is what `NumOps.parse` (Rust: `str::parse::<f64>`) returns on *some* number-shaped text;
    * no literal array values;
    * anything else (punctuation, operators, keywords, booleans, any string literal). -/
def ScanValid (cc : CharClass) : Token N → Prop
  | .identifier n => identShape cc n = true ∧ cc.lowerStr n ∉ keywordTexts
  | .literal (.num x) => ∃ text, numShape cc text = true ∧ NumOps.parse text = some x
  | .literal (.arr _) => False
  | _ => True

/-- the clause of `LexValid` that is about the number printer -/
def NumPrintOk (pr : N → Str) : Token N → Prop
  | .literal (.num x) => DecimalText (pr x) ∧ NumOps.parse (pr x) = some x
  | _ => True

theorem lexValid_of_scanValid {cc : CharClass} {pr : N → Str} {t : Token N} (h : ScanValid cc t)
    (hn : NumPrintOk pr t) : LexValid cc pr t := by
  cases t with
  | literal v =>
    cases v with
    | num x => exact hn
    | arr xs => exact h.elim
    | _ => trivial
  | identifier n => exact h
  | _ => trivial

theorem scanValid_of_lexValid {cc : CharClass} (hcc : cc.AsciiOk) {pr : N → Str} {t : Token N}
    (h : LexValid cc pr t) : ScanValid cc t ∧ NumPrintOk pr t := by
  cases t with
  | literal v =>
    cases v with
    | num x => exact ⟨⟨pr x, decimal_numShape hcc h.1, h.2⟩, h⟩
    | arr xs => exact h.elim
    | _ => exact ⟨trivial, trivial⟩
  | identifier n => exact ⟨h, trivial⟩
  | _ => exact ⟨trivial, trivial⟩

theorem kwToken_some_valid (cc : CharClass) {low : Str} {t : Token N} (h : kwToken low = some t) :
    ScanValid cc t :=
  kwToken_elim (P := ScanValid cc) h trivial trivial trivial trivial trivial trivial trivial trivial

theorem identifier_valid (cc : CharClass) (c : Char) (cs : Str) (hc : isIdentStart cc c = true) :
    ScanValid cc (identifier (N := N) cc c cs).1 := by
  unfold identifier
  simp only
  cases hk : kwToken (N := N) (cc.lowerStr (c :: cs.takeWhile (isIdentCont cc))) with
  | some t => exact kwToken_some_valid cc hk
  | none =>
    refine ⟨?_, kwToken_eq_none_iff.mp hk⟩
    simp only [identShape, hc, Bool.true_and, List.all_eq_true]
    exact mem_takeWhile _ _

omit [NumOps N] in
theorem numberLex_shape {cc : CharClass} (hcc : cc.AsciiOk) (c : Char) (cs : Str)
    (hs : isIdentStart cc c = false) (hc : cc.isNumeric c = true ∨ c = '.') :
    numShape cc (numberLex cc c cs).1 = true := by
  have hdot : cc.isNumeric '.' = false := special_numeric hcc '.' (by decide)
  have hhead : (cc.isNumeric c || c == '.') = true := by
    rcases hc with h | h
    · simp [h]
    · simp [h]
  unfold numberLex
  simp only
  split
  · rename_i r _
    have hsp := span_append (p := cc.isNumeric) (a := cs.takeWhile cc.isNumeric)
      (b := '.' :: r.takeWhile cc.isNumeric) (mem_takeWhile _ _) (HeadNot.cons hdot)
    simp only [numShape, hs, hhead, Bool.not_false, Bool.true_and, hsp.2, beq_self_eq_true, List.all_eq_true]
    exact mem_takeWhile _ _
  · have hsp := span_append (p := cc.isNumeric) (a := cs.takeWhile cc.isNumeric) (b := [])
      (mem_takeWhile _ _) (HeadNot.nil _)
    rw [List.append_nil] at hsp
    simp only [numShape, hs, hhead, Bool.not_false, Bool.true_and, hsp.2]

theorem number_valid {cc : CharClass} (hcc : cc.AsciiOk) (c : Char) (cs : Str) (t : Token N) (rest : Str)
    (hs : isIdentStart cc c = false) (hc : cc.isNumeric c = true ∨ c = '.')
    (h : number cc c cs = .ok (t, rest)) : ScanValid cc t := by
  simp only [number] at h
  split at h
  · rename_i x hx
    cases h
    exact ⟨_, numberLex_shape hcc c cs hs hc, hx⟩
  · cases h

/-- every token `next_token` returns is `ScanValid` -/
theorem nextToken_valid {cc : CharClass} (hcc : cc.AsciiOk) (c : Char) (cs : Str) (t : Token N) (rest : Str)
    (h : nextToken cc c cs = .ok (t, rest)) : ScanValid cc t := by
  rcases nextToken_cases h with ⟨h1, hi⟩ | ⟨h1, hc, hn⟩ | hs | ⟨hl, hi, _⟩
  · have := identifier_valid (N := N) cc c cs h1
    rwa [hi] at this
  · exact number_valid hcc c cs t rest h1 hc hn
  · simp only [string] at hs
    split at hs <;> cases hs
    trivial
  · cases t <;> first | trivial | exact absurd rfl (hl _) | exact absurd rfl (hi _)

theorem scanLoop_valid {cc : CharClass} (hcc : cc.AsciiOk) (n : Nat) (src : Str) (ts : List (Token N))
    (h : scanLoop cc n src = .ok ts) : ∀ t ∈ ts, ScanValid cc t := by
  induction n generalizing src ts with
  | zero => cases h
  | succ n ih =>
    rcases scanStep_ok h with rfl | ⟨c, cs, t, rest, ts', _, hnt, hts', rfl⟩
    · nofun
    · intro u hu
      rcases List.mem_cons.mp hu with rfl | hu
      · exact nextToken_valid hcc c cs _ rest hnt
      · exact ih rest ts' hts' u hu

/-- every token of a successful scan is `ScanValid` -/
theorem scan_valid {cc : CharClass} (hcc : cc.AsciiOk) {src : Str} {ts : List (Token N)}
    (h : scan cc src = .ok ts) : ∀ t ∈ ts, ScanValid cc t := by
  unfold scan at h
  split at h
  · cases h
  · exact scanLoop_valid hcc _ src ts h

/-- the printer hypothesis on the number literals of a tree, as a hypothesis on its leaves -/
theorem numPrintOk_leaves {pr : N → Str} {e : Expr N}
    (h : ∀ x ∈ numLits e, DecimalText (pr x) ∧ NumOps.parse (pr x) = some x) :
    ∀ t ∈ leaves e, NumPrintOk pr t := by
  intro t ht
  cases t with
  | literal v =>
    cases v with
    | num x => exact h x (List.mem_filterMap.mpr ⟨_, ht, rfl⟩)
    | _ => trivial
  | _ => trivial

end Slac.Unlex
