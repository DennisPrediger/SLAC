/-
  SlacProofs.F64Time — `instance : LawfulTimeNum Float`: the driver's binary64 numbers satisfy every hypothesis
  the time builtins (C16) make about numbers.  Nothing is assumed: core `Float` `/` and `*` are shown to satisfy
  the standard model in SlacProofs.F64Arith (`div_mkF_std`, `mul_mkF_std`), the rounding analysis over ℚ is
  `Slac.Time.roundtrip_core` (SlacProofs.TimeReal), and `F64.round` is nearest-integer (SlacProofs.F64RoundHalf).
  * `round_mkF_near`     a double within 1/2 (strictly) of a positive integer n < 2^51 rounds to ±n;
  * `div_mul_round`      for 1 ≤ n ≤ 2^48: round ((±n / 86400000) * 86400000) = ±n, and ±n / 86400000 is a finite
                         non-zero double of the same sign (so never -0.0);
  * `decode_encode_ms`   `(round ((T as f64 / 86400000.0) * 86400000.0)) as i64 = T` for |T| ≤ 2^48;
  * `trunc_add_fract_ms` `trunc x + fract x = x` (bit for bit) for x = T as f64 / 86400000.0;
  * small casts and comparisons: `toI32_ofInt`, `toU32_ofNat`, `pcmp_ofInt_zero`.
-/
import SlacProofs.F64Arith
import SlacProofs.F64Cast
import SlacProofs.F64RoundHalf
import SlacProofs.TimeNum
import SlacProofs.TimeReal
set_option autoImplicit false
namespace Slac
namespace F64
open Float.Model Float.Model.UnpackedFloat

theorem toI32_ofInt (k : Int) (h1 : -(2147483648) ≤ k) (h2 : k < 2147483648) : toI32 (F64.ofInt k) = k := by
  unfold toI32
  exact toIntSat_ofInt k _ _ (by omega) (by omega) (by omega)

theorem toU32_ofNat (n : Nat) (h : n < 4294967296) : toU32 (F64.ofNat n) = n := by
  rw [← ofInt_natCast]
  unfold toU32
  rw [toIntSat_ofInt _ _ _ (by omega) (by omega) (by omega)]
  omega

theorem pcmp_ofInt_zero (k : Int) (h1 : -(4294967296) ≤ k) (h2 : k ≤ 4294967296) :
    pcmp (F64.ofInt k) (NumOps.zero : Float) = some (Time.sgnOrd k) := by
  rw [numzero_eq, ← ofInt_natCast, pcmp_units _ _ (ofInt_units _ (by omega)).1 (ofInt_units _ (by omega)).1,
    units_ofInt _ (by omega), units_ofInt _ (by omega)]
  have hP := Int.natCast_pos.2 (Nat.two_pow_pos 1074)
  rw [cmpInt_congr (Int.mul_lt_mul_right hP) (Int.mul_lt_mul_right hP)]
  show some (cmpInt k 0) = _
  unfold cmpInt Time.sgnOrd
  rcases Int.lt_trichotomy k 0 with h | rfl | h
  · rw [if_pos h, if_pos h]
  · rfl
  · rw [if_neg (by omega), if_pos h, if_neg (by omega), if_neg (by omega)]

theorem one_eq : (NumOps.ofBool true : Float) = F64.ofNat 1 := by
  show (1 : Float) = F64.ofNat 1
  rw [float_one, ← ofInt_natCast]; rfl

/-- values below 2^52 have a negative exponent (at exponent ≥ 0 the significand alone is ≥ 2^52) -/
theorem Canon.exp_neg {m : Nat} {e : Int} (h : Canon m e) (hv : (m:ℚ) * (2:ℚ)^e < 2^52) : e < 0 := by
  refine Decidable.byContradiction fun hge => ?_
  have hl : m.log2 = 52 := by rcases h.cases with ⟨hl, _⟩ | ⟨_, h2⟩ <;> omega
  have h52 : 2^52 ≤ m := (Nat.le_log2 (by have := h.pos; omega)).1 (by omega)
  have h52q : (2:ℚ)^52 ≤ (m:ℚ) := by exact_mod_cast h52
  have h1 : (1:ℚ) ≤ (2:ℚ)^e := one_le_zpow₀ (by norm_num) (by omega)
  have := mul_le_mul h52q h1 (by norm_num) (by positivity)
  linarith

/-- `m = v·P` lies within `P/2` of `n·P` when `v` lies within 1/2 of `n` -/
theorem near_scaled {v n m P : ℚ} (hP : 0 < P) (hm : v * P = m) (h : |v - n| < 1 / 2) :
    2 * (n * P) < P + 2 * m ∧ 2 * m < P + 2 * (n * P) := by
  obtain ⟨h1, h2⟩ := abs_sub_lt_iff.1 h
  have a := mul_lt_mul_of_pos_right h1 hP
  have b := mul_lt_mul_of_pos_right h2 hP
  subst hm
  constructor <;> linarith

theorem round_mkF_near (s : Sign) (m : Nat) (e : Int) (h : Canon m e) (n : Nat) (hn : 1 ≤ n) (hn51 : n < 2^51)
    (hv : |(m:ℚ) * (2:ℚ)^e - (n:ℚ)| < 1 / 2) : round (mkF s m e h.pos) = F64.ofInt (s.apply (n : Int)) := by
  have he : e < 0 := by
    have hnq : (n:ℚ) < 2^51 := by exact_mod_cast hn51
    have := (abs_sub_lt_iff.1 hv).1
    exact h.exp_neg (by linarith)
  obtain ⟨k, rfl⟩ : ∃ k : Nat, e = -(k : Int) := ⟨(-e).toNat, by omega⟩
  have hk : (-(-(k : Int))).toNat = k := by omega
  obtain ⟨hq1, hq2⟩ := near_scaled (P := (2:ℚ)^k) (m := (m:ℚ)) (by positivity)
    (by rw [zpow_neg, zpow_natCast]; field_simp) hv
  have hpos := Nat.two_pow_pos k
  have h1 : 2 * (n * 2^k - m) < 2^k := by
    have : 2 * (n * 2^k) < 2^k + 2 * m := by exact_mod_cast hq1
    omega
  have h2 : 2 * (m - n * 2^k) < 2^k := by
    have : 2 * m < 2^k + 2 * (n * 2^k) := by exact_mod_cast hq2
    omega
  clear hv hq1 hq2
  rw [round_mkF s m _ h he, hk]
  obtain ⟨_, _, huniq⟩ := round_nearest_arith m k (m / 2^k) (m % 2^k)
    (if 2 * (m % 2^k) ≥ 2^k then m / 2^k + 1 else m / 2^k) rfl rfl rfl
  have hR := huniq n h1 h2
  by_cases hc : 2 * (m % 2^k) ≥ 2^k
  · rw [if_pos hc] at hR ⊢; rw [hR]
  · rw [if_neg hc] at hR ⊢
    by_cases he52 : -(k:Int) < -52
    · exfalso
      have hbig : m < 2^k := Nat.lt_of_lt_of_le h.lt (Nat.pow_le_pow_right (by decide) (by omega))
      have hq : m / 2^k = 0 := Nat.div_eq_of_lt hbig
      omega
    · obtain ⟨ht, _, _⟩ := trunc_mkF_mid_ofInt s m _ h (by omega) he
      rw [ht, hk, hR]

theorem canon_val_ofNat (n : Nat) (h0 : 0 < n) (h : n < 2^53) :
    ((n * 2^(52 - n.log2) : Nat) : ℚ) * (2:ℚ)^((n.log2 : Int) - 52) = (n : ℚ) := by
  have hL : n.log2 < 53 := (Nat.log2_lt (by omega)).2 h
  have he : ((n.log2 : Int) - 52) = -((52 - n.log2 : Nat) : Int) := by omega
  rw [he, zpow_neg, zpow_natCast]
  push_cast
  have : (0:ℚ) < (2:ℚ)^(52 - n.log2) := by positivity
  field_simp

theorem normal_range {q : ℚ} (h1 : 1 / 2^27 ≤ q) (h2 : q ≤ 2^49) : (2:ℚ)^(-1022:ℤ) ≤ q ∧ q < (2:ℚ)^(1023:ℤ) := by
  have lo := zpow_le_zpow_right₀ (a := (2:ℚ)) (by norm_num) (show (-1022:ℤ) ≤ -27 by norm_num)
  have hi := zpow_lt_zpow_right₀ (a := (2:ℚ)) (by norm_num) (show (49:ℤ) < 1023 by norm_num)
  constructor
  · refine le_trans lo (le_trans (le_of_eq ?_) h1); norm_num
  · refine lt_of_le_of_lt h2 (lt_of_eq_of_lt ?_ hi); norm_num

/-- both exact results of `n / D * D` are in the normal range; then `Time.roundtrip_core` -/
theorem roundtrip_bounds {n D : ℚ} (hn1 : 1 ≤ n) (hn2 : n ≤ 2^48) (hD1 : 1 ≤ D) (hD2 : D ≤ 2^27) :
    ((2:ℚ)^(-1022:ℤ) ≤ n / D ∧ n / D < (2:ℚ)^(1023:ℤ)) ∧
    (∀ x, |x - n / D| ≤ 1 / 2^53 * (n / D) →
      ((2:ℚ)^(-1022:ℤ) ≤ x * D ∧ x * D < (2:ℚ)^(1023:ℤ)) ∧
      ∀ y, |y - x * D| ≤ 1 / 2^53 * (x * D) → |y - n| < 1 / 2) := by
  have hn0 : 0 ≤ n := by linarith
  have hD0 : 0 < D := by linarith
  refine ⟨normal_range ?_ ?_, fun x hx => ?_⟩
  · rw [le_div_iff₀ hD0]; linarith
  · rw [div_le_iff₀ hD0]; linarith
  · replace hx : |x - n / D| ≤ 1 / 2^53 * |n / D| := by
      rw [abs_of_nonneg (show 0 ≤ n / D by positivity)]; exact hx
    have h1 := abs_le.1 (Time.scaled_error hD0 hx)
    rw [abs_of_nonneg hn0] at h1
    have hxpos : 0 ≤ x * D := by linarith
    refine ⟨normal_range (by linarith) (by linarith), fun y hy => ?_⟩
    replace hy : |y - x * D| ≤ 1 / 2^53 * |x * D| := by rw [abs_of_nonneg hxpos]; exact hy
    exact Time.roundtrip_core (u := 1 / 2^53) (B := 2^48) hD0 (by norm_num)
      (by rw [abs_of_nonneg hn0]; exact hn2) (by norm_num) hx hy

theorem sign_div_pos (s : Sign) : s / Sign.positive = s := by cases s <;> rfl

theorem div_mul_round (s : Sign) (n : Nat) (hn1 : 1 ≤ n) (hn2 : n ≤ 2^48)
    (mT : Nat) (eT : Int) (hT : Canon mT eT) (hvT : (mT:ℚ) * (2:ℚ)^eT = (n:ℚ))
    (mD : Nat) (eD : Int) (hD : Canon mD eD) (hvD : (mD:ℚ) * (2:ℚ)^eD = 86400000) :
    ∃ (M1 : Nat) (E1 : Int) (hc1 : Canon M1 E1),
      mkF s mT eT hT.pos / mkF .positive mD eD hD.pos = mkF s M1 E1 hc1.pos ∧
      round (mkF s M1 E1 hc1.pos * mkF .positive mD eD hD.pos) = F64.ofInt (s.apply (n : Int)) := by
  obtain ⟨hq, hrest⟩ := roundtrip_bounds (n := (n:ℚ)) (D := 86400000) (by exact_mod_cast hn1) (by exact_mod_cast hn2)
    (by norm_num) (by norm_num)
  obtain ⟨M1, E1, hc1, heq1, hbd1⟩ := div_mkF_std s .positive mT mD eT eD hT hD
    (by rw [hvT, hvD]; exact hq.1) (by rw [hvT, hvD]; exact hq.2)
  rw [hvT, hvD] at hbd1
  rw [sign_div_pos] at heq1
  obtain ⟨hp, hy⟩ := hrest _ hbd1
  obtain ⟨M2, E2, hc2, heq2, hbd2⟩ := mul_mkF_std s .positive M1 mD E1 eD hc1 hD
    (by rw [hvD]; exact hp.1) (by rw [hvD]; exact hp.2)
  rw [hvD] at hbd2
  rw [sign_mul_pos] at heq2
  exact ⟨M1, E1, hc1, heq1, by rw [heq2]; exact round_mkF_near s M2 E2 hc2 n hn1 (by omega) (hy _ hbd2)⟩

theorem ms_closed_zero :
    toI64 (round ((F64.ofInt 0 / F64.ofNat 86400000) * F64.ofNat 86400000)) = 0 ∧
    trunc (F64.ofInt 0 / F64.ofNat 86400000) + fract (F64.ofInt 0 / F64.ofNat 86400000)
      = F64.ofInt 0 / F64.ofNat 86400000 := by decide +kernel

theorem ms_nonzero (T : Int) (h0 : T ≠ 0) (h : T.natAbs ≤ 2^48) :
    ∃ (M1 : Nat) (E1 : Int) (hc1 : Canon M1 E1),
      F64.ofInt T / F64.ofNat 86400000 = mkF (sgnOf T) M1 E1 hc1.pos ∧
      round ((F64.ofInt T / F64.ofNat 86400000) * F64.ofNat 86400000) = F64.ofInt T := by
  have h53 : T.natAbs < 2^53 := by omega
  have hcT := canon_ofNat T.natAbs (by omega) h53
  have hvD : ((86400000 * 2^(52 - Nat.log2 86400000) : Nat) : ℚ) * (2:ℚ)^((Nat.log2 86400000 : Int) - 52)
      = 86400000 := by
    have := canon_val_ofNat 86400000 (by decide) (by decide)
    rw [this]; norm_num
  obtain ⟨M1, E1, hc1, heq1, hround⟩ := div_mul_round (sgnOf T) T.natAbs (by omega) h _ _ hcT
    (canon_val_ofNat T.natAbs (by omega) h53) _ _ (canon_ofNat 86400000 (by decide) (by decide)) hvD
  rw [ofInt_eq T h0 h53, ofNat_eq 86400000 (by decide) (by decide)]
  refine ⟨M1, E1, hc1, heq1, ?_⟩
  rw [heq1, hround, sgnOf_apply]
  exact ofInt_eq T h0 h53

theorem decode_encode_ms (T : Int) (h1 : -(281474976710656) ≤ T) (h2 : T ≤ 281474976710656) :
    toI64 (round ((F64.ofInt T / F64.ofNat 86400000) * F64.ofNat 86400000)) = T := by
  by_cases h0 : T = 0
  · subst h0; exact ms_closed_zero.1
  · obtain ⟨_, _, _, _, hr⟩ := ms_nonzero T h0 (by omega)
    rw [hr]; exact toI64_ofInt T (by omega)

theorem trunc_add_fract_ms (T : Int) (h1 : -(281474976710656) ≤ T) (h2 : T ≤ 281474976710656) :
    trunc (F64.ofInt T / F64.ofNat 86400000) + fract (F64.ofInt T / F64.ofNat 86400000)
      = F64.ofInt T / F64.ofNat 86400000 := by
  by_cases h0 : T = 0
  · subst h0; exact ms_closed_zero.2
  · obtain ⟨M1, E1, hc1, heq, _⟩ := ms_nonzero T h0 (by omega)
    rw [heq]; exact trunc_add_fract_mkF _ _ _ hc1

end F64

/-- binary64 satisfies every number hypothesis of the C16 time theorems -/
instance : Time.LawfulTimeNum Float where
  decode_encode_ms := F64.decode_encode_ms
  ofInt_natCast := F64.ofInt_natCast
  toI32_ofInt := F64.toI32_ofInt
  toU32_ofNat := F64.toU32_ofNat
  pcmp_ofInt_zero := F64.pcmp_ofInt_zero
  zero_eq := F64.numzero_eq
  one_eq := F64.one_eq
  trunc_add_fract := F64.trunc_add_fract_ms

end Slac
