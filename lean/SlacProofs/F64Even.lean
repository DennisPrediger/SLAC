/-
  SlacProofs.F64Even — `even` on EVERY integer-valued double (any magnitude, either sign, ±0):
  `isEven_of_integer : isFinite x → trunc x = x → Stdlib.isEven x = decide (truncToInt x % 2 = 0)`,
  and its instance `isEven_ofInt` for `n as f64`, |n| ≤ 2^53.
  `even x` is `x.floor() % 2.0 == 0.0`; on an integer-valued x the floor is x, C `fmod` is exact (`rem_finite`), and
  the remainder of q·2^1074 units by 2·2^1074 units is zero iff q is even.
-/
import SlacProofs.F64Cast
set_option autoImplicit false
namespace Slac
namespace F64
open Float.Model Float.Model.UnpackedFloat

theorem float_beq_self (x : Float) (hf : isFinite x = true) : (x == x) = true := by
  rcases finite_cases x hf with ⟨s, rfl⟩ | ⟨s, m, e, h, rfl⟩
  · cases s <;> decide +kernel
  · exact float_beq_self_mkF s m e h

theorem floor_of_integer (x : Float) (hf : isFinite x = true) (hint : trunc x = x) : floor x = x := by
  unfold floor
  simp only [hint, float_beq_self x hf, Bool.not_true, Bool.and_false, Bool.false_and, Bool.false_eq_true, if_false]

theorem beq_zero (r : Float) (hn : isNaN r = false) : beq r (NumOps.zero : Float) = isZero r := by
  unfold isNaN at hn
  unfold beq beqN isZero
  rw [bits_numzero, hn, keyN_def, keyN_def]
  show decide (skey (negN (bits r)) (magN (bits r)) = skey false 0) = _
  rw [Bool.eq_iff_iff, decide_eq_true_eq, decide_eq_true_eq, skey_eq_iff]
  omega

/-- **even on every integer-valued double** (any magnitude, either sign, ±0 included):
    `even(x)` holds iff the integer x represents is divisible by 2. -/
theorem isEven_of_integer (x : Float) (hf : isFinite x = true) (hint : trunc x = x) :
    Stdlib.isEven x = decide (truncToInt x % 2 = 0) := by
  have h2 : isFinite (F64.ofNat 2) = true ∧ isZero (F64.ofNat 2) = false ∧ unitsN (F64.ofNat 2) = 2 * 2^1074 := by
    decide +kernel
  obtain ⟨_, rf, ru⟩ := rem_finite x (F64.ofNat 2) hf h2.1 h2.2.1
  have hq := (unitsN_trunc x hf).1
  rw [hint] at hq
  show beq (rem (floor x) (F64.ofNat 2)) NumOps.zero = _
  rw [floor_of_integer x hf hint, beq_zero _ (fin_not_nan _ rf).1, Bool.eq_iff_iff, isZero_iff_unitsN, ru, h2.2.2,
    decide_eq_true_eq, truncToInt_eq, hq]
  -- only 0 < 2^1074 matters from here on
  have hP := Nat.two_pow_pos 1074
  generalize (2:Nat)^1074 = P at hP ⊢
  rw [Nat.mul_div_cancel _ hP, Nat.mul_mod_mul_right, Nat.mul_eq_zero]
  generalize unitsN x / P = q
  cases signBit x <;> simp only [skey, Bool.false_eq_true, if_false, if_true, Nat.ne_of_gt hP, or_false] <;> omega

/-- `even(n)` holds iff n is divisible by 2, for every integer of either sign that a double represents exactly
    in the contiguous range |n| ≤ 2^53 -/
theorem isEven_ofInt (n : Int) (h : n.natAbs ≤ 2^53) : Stdlib.isEven (F64.ofInt n) = decide (n % 2 = 0) := by
  rw [isEven_of_integer _ (ofInt_units n h).1 (trunc_ofInt n h), truncToInt_ofInt n h]

end F64
end Slac
