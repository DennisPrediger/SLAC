/-
  SlacProofs.InterpLemmas — the node functions of the interpreter model characterised once: the binary node by
  operator class with the operator a variable, array / call / argument-list nodes by their results; where errors
  come from, which events happen, when results are Booleans follow for every operator at once.
-/
import SlacModel.Spec
set_option autoImplicit false
set_option linter.unusedSectionVars false
namespace Slac
variable {N : Type} [NumOps N]

theorem Expr.rec_both {p : Expr N → Prop} {q : List (Expr N) → Prop}
    (unary : ∀ r op, p r → p (.unary r op)) (binary : ∀ l r op, p l → p r → p (.binary l r op))
    (ternary : ∀ l m r op, p l → p m → p r → p (.ternary l m r op)) (array : ∀ es, q es → p (.array es))
    (lit : ∀ v, p (.lit v)) (var : ∀ n, p (.var n)) (call : ∀ n ps, q ps → p (.call n ps))
    (nil : q []) (cons : ∀ e es, p e → q es → q (e :: es)) : (∀ e, p e) ∧ ∀ es, q es := by
  have key : ∀ e, p e := fun e =>
    Expr.rec (motive_1 := p) (motive_2 := q) unary binary ternary array lit var call nil cons e
  refine ⟨key, fun es => ?_⟩
  induction es with
  | nil => exact nil
  | cons e es ih => exact cons e es (key e) ih

theorem Value.rec_both {p : Value N → Prop} {q : List (Value N) → Prop}
    (bool : ∀ b, p (.bool b)) (str : ∀ s, p (.str s)) (num : ∀ x, p (.num x)) (arr : ∀ xs, q xs → p (.arr xs))
    (nil : q []) (cons : ∀ x xs, p x → q xs → q (x :: xs)) : (∀ v, p v) ∧ ∀ vs, q vs := by
  have key : ∀ v, p v := fun v => Value.rec (motive_1 := p) (motive_2 := q) bool str num arr nil cons v
  refine ⟨key, fun vs => ?_⟩
  induction vs with
  | nil => exact nil
  | cons x xs ih => exact cons x xs (key x) ih

theorem evalT_of_evalR {env : Env N} {e : Expr N} {x : Except Err (Value N)} (h : evalR env e = x) :
    evalT env e = (x, (evalT env e).2) := by
  subst h; rfl

theorem evalList_of_fst {env : Env N} {es : List (Expr N)} {x : Except Err (List (Value N))}
    (h : (evalList env es).1 = x) : evalList env es = (x, (evalList env es).2) := by
  subst h; rfl

def boolOps : List Op := [.and, .or, .xor, .equal, .notEqual, .less, .lessEqual, .greater, .greaterEqual]
def arithOps : List Op := [.minus, .multiply, .divide, .div, .mod]

theorem xor_bool {a b v : Value N} (h : Value.xor a b = .ok v) : v.isBoolean = true := by
  cases a <;> cases b <;> simp only [Value.xor] at h <;> cases h; rfl

theorem binVal_bool {op : Op} (hop : op ∈ boolOps) {a b v : Value N} (h : binVal op a b = .ok v) :
    v.isBoolean = true := by
  simp only [boolOps, List.mem_cons, List.mem_nil_iff, or_false] at hop
  rcases hop with rfl | rfl | rfl | rfl | rfl | rfl | rfl | rfl | rfl
  · cases h
  · cases h
  · exact xor_bool h
  all_goals cases h; rfl

theorem arith_num {f : N → N → N} {op : Op} {a b v : Value N} (h : Value.arith f op a b = .ok v) :
    ∃ x y, a = .num x ∧ b = .num y ∧ v = .num (f x y) := by
  cases a <;> cases b <;> simp only [Value.arith] at h <;> cases h
  exact ⟨_, _, rfl, rfl, rfl⟩

theorem binVal_arith {op : Op} (hop : op ∈ arithOps) {a b v : Value N} (h : binVal op a b = .ok v) :
    ∃ x y z, a = .num x ∧ b = .num y ∧ v = .num z := by
  simp only [arithOps, List.mem_cons, List.mem_nil_iff, or_false] at hop
  rcases hop with rfl | rfl | rfl | rfl | rfl <;> simp only [binVal] at h <;>
    (obtain ⟨x, y, h1, h2, h3⟩ := arith_num h; exact ⟨x, y, _, h1, h2, h3⟩)

theorem add_err {a b : Value N} {x : Err} (h : Value.add a b = .error x) : x = .invalidBinary .plus := by
  cases a <;> cases b <;> cases h <;> rfl

theorem arith_err {f : N → N → N} {op : Op} {a b : Value N} {x : Err} (h : Value.arith f op a b = .error x) :
    x = .invalidBinary op := by
  cases a <;> cases b <;> cases h <;> rfl

theorem xor_err {a b : Value N} {x : Err} (h : Value.xor a b = .error x) : x = .invalidBinary .xor := by
  cases a <;> cases b <;> cases h <;> rfl

theorem binVal_err {op : Op} {a b : Value N} {x : Err} (h : binVal op a b = .error x) : x = .invalidBinary op := by
  cases op
  case plus => exact add_err h
  case minus | multiply | divide | div | mod => exact arith_err h
  case xor => exact xor_err h
  case greater | greaterEqual | less | lessEqual | equal | notEqual => cases h
  all_goals cases h; rfl

/-- an undefined variable is absorbed into "empty"; every other error stays -/
def absorb : Except Err (Value N) → Except Err (Opd N)
  | .ok v => .ok (some v)
  | .error (.undefinedVariable _) => .ok none
  | .error e => .error e

theorem absorb_error {e : Err} (he : ∀ n, e ≠ .undefinedVariable n) :
    absorb (.error e : Except Err (Value N)) = .error e := by
  cases e <;> first | exact absurd rfl (he _) | rfl

theorem absorb_eq_error {x : Except Err (Value N)} {e : Err} (h : absorb x = .error e) :
    x = .error e ∧ ∀ n, e ≠ .undefinedVariable n := by
  cases x with
  | ok v => cases h
  | error e' => cases e' <;> cases h <;> exact ⟨rfl, fun _ h => nomatch h⟩

theorem toOpd_ofExcept (x : Except Err (Value N)) : (SRes.ofExcept x).toOpd = absorb x := by
  cases x with
  | ok v => rfl
  | error e => cases e <;> rfl

theorem rightBool_eq (tl : List (Event N)) (y : Except Err (Value N)) (tr : List (Event N)) :
    rightBool tl (y, tr) = ((absorb y).map fun o => .bool o.truthy, tl ++ tr) := by
  cases y with
  | ok v => rfl
  | error e => cases e <;> rfl

theorem Op.cls_strict {op : Op} (h1 : op ≠ .and) (h2 : op ≠ .or) (h3 : op ≠ .equal) (h4 : op ≠ .notEqual) :
    op.cls = .strict := by
  cases op <;> first | rfl | contradiction

/-- The binary node is the language definition's `binSpec` read on `Except`: `and`/`or` decide on the absorbed left
    operand alone where they can, `=`/`<>` compare absorbed operands, every other operator needs two values.
    For the strict operators the arms of `binModel` are selected from `op ≠ and, or, =, <>` alone. -/
theorem binModel_eq (op : Op) (x y : Except Err (Value N)) (tl tr : List (Event N)) :
    binModel op (x, tl) (y, tr) =
      match op.cls with
      | .logical isAnd =>
        match absorb x with
        | .error e => (.error e, tl)
        | .ok a =>
          if a.truthy != isAnd then (.ok (.bool a.truthy), tl)
          else ((absorb y).map fun b => .bool b.truthy, tl ++ tr)
      | .equality neg =>
        match absorb x with
        | .error e => (.error e, tl)
        | .ok a => ((absorb y).map fun b => .bool (a.eq b != neg), tl ++ tr)
      | .strict =>
        match x with
        | .error e => (.error e, tl)
        | .ok a => (y.bind (binVal op a), tl ++ tr) := by
  by_cases h1 : op = .and
  · subst h1
    cases x with
    | ok lv => cases hb : Value.asBool lv <;> simp only [binModel, Op.cls, absorb, Opd.truthy, rightBool_eq, hb] <;> rfl
    | error e => cases e <;> rfl
  by_cases h2 : op = .or
  · subst h2
    cases x with
    | ok lv => cases hb : Value.asBool lv <;> simp only [binModel, Op.cls, absorb, Opd.truthy, rightBool_eq, hb] <;> rfl
    | error e => cases e <;> simp only [binModel, Op.cls, absorb, Opd.truthy, rightBool_eq] <;> rfl
  by_cases h3 : op = .equal
  · subst h3
    cases x with
    | ok lv =>
      cases y with
      | ok rv => simp only [binModel, binVal, Op.cls, absorb, Opd.eq, Except.map, Bool.bne_false]
      | error e => cases e <;> simp only [binModel, Op.cls, absorb, Opd.eq, Except.map, Bool.bne_false]
    | error e =>
      cases e <;> first | rfl | skip
      cases y with
      | ok rv => simp only [binModel, Op.cls, absorb, Opd.eq, Except.map, Bool.bne_false]
      | error e => cases e <;> simp only [binModel, Op.cls, absorb, Opd.eq, Except.map, Bool.bne_false]
  by_cases h4 : op = .notEqual
  · subst h4
    cases x with
    | ok lv =>
      cases y with
      | ok rv => simp only [binModel, binVal, Op.cls, absorb, Opd.eq, Except.map, Bool.bne_true]
      | error e => cases e <;> simp only [binModel, Op.cls, absorb, Opd.eq, Except.map, Bool.bne_true]
    | error e =>
      cases e <;> first | rfl | skip
      cases y with
      | ok rv => simp only [binModel, Op.cls, absorb, Opd.eq, Except.map, Bool.bne_true]
      | error e => cases e <;> simp only [binModel, Op.cls, absorb, Opd.eq, Except.map, Bool.bne_true, Bool.not_true]
  rw [Op.cls_strict h1 h2 h3 h4]
  cases x with
  | error e => simp [binModel, h1, h2, h3, h4]
  | ok lv =>
    cases y with
    | ok rv => simp [binModel, Except.bind]
    | error e => simp [binModel, h3, h4, Except.bind]

theorem binModel_left_error (op : Op) {e : Err} (he : ∀ n, e ≠ .undefinedVariable n) (tl : List (Event N)) (r : R N) :
    binModel op (.error e, tl) r = (.error e, tl) := by
  obtain ⟨y, tr⟩ := r
  rw [binModel_eq, absorb_error he]
  cases op.cls <;> rfl

theorem binModel_cases (op : Op) (l r : R N) :
    (∃ e, l.1 = .error e ∧ binModel op l r = (.error e, l.2)) ∨
    (∃ b, op.cls ≠ .strict ∧ binModel op l r = (.ok (.bool b), l.2)) ∨
    (∃ e, r.1 = .error e ∧ binModel op l r = (.error e, l.2 ++ r.2)) ∨
    (∃ b, op.cls ≠ .strict ∧ binModel op l r = (.ok (.bool b), l.2 ++ r.2)) ∨
    (∃ a b, l.1 = .ok a ∧ r.1 = .ok b ∧ binModel op l r = (binVal op a b, l.2 ++ r.2)) := by
  obtain ⟨x, tl⟩ := l; obtain ⟨y, tr⟩ := r
  rw [binModel_eq]
  cases op.cls with
  | logical isAnd =>
    cases hx : absorb x with
    | error e => exact .inl ⟨e, (absorb_eq_error hx).1, rfl⟩
    | ok a =>
      simp only
      split
      · exact .inr (.inl ⟨_, nofun, rfl⟩)
      · cases hy : absorb y with
        | error e => exact .inr (.inr (.inl ⟨e, (absorb_eq_error hy).1, rfl⟩))
        | ok b => exact .inr (.inr (.inr (.inl ⟨_, nofun, rfl⟩)))
  | equality neg =>
    cases hx : absorb x with
    | error e => exact .inl ⟨e, (absorb_eq_error hx).1, rfl⟩
    | ok a =>
      cases hy : absorb y with
      | error e => exact .inr (.inr (.inl ⟨e, (absorb_eq_error hy).1, rfl⟩))
      | ok b => exact .inr (.inr (.inr (.inl ⟨_, nofun, rfl⟩)))
  | strict =>
    cases x with
    | error e => exact .inl ⟨e, rfl, rfl⟩
    | ok a =>
      cases y with
      | error e => exact .inr (.inr (.inl ⟨e, rfl, rfl⟩))
      | ok b => exact .inr (.inr (.inr (.inr ⟨a, b, rfl, rfl, rfl⟩)))

theorem binModel_trace (op : Op) (l r : R N) :
    (binModel op l r).2 = l.2 ∨ (binModel op l r).2 = l.2 ++ r.2 := by
  rcases binModel_cases op l r with ⟨_, _, h⟩ | ⟨_, _, h⟩ | ⟨_, _, h⟩ | ⟨_, _, h⟩ | ⟨_, _, _, _, h⟩ <;> rw [h] <;>
    first | exact .inl rfl | exact .inr rfl

theorem binModel_res (op : Op) {a a' b b' : R N} (ha : a.1 = a'.1) (hb : b.1 = b'.1) :
    (binModel op a b).1 = (binModel op a' b').1 := by
  obtain ⟨x, t⟩ := a; obtain ⟨x', t'⟩ := a'; obtain ⟨y, u⟩ := b; obtain ⟨y', u'⟩ := b'
  cases ha; cases hb
  rw [binModel_eq, binModel_eq]
  cases op.cls with
  | logical isAnd =>
    cases absorb x with
    | error e => rfl
    | ok a => simp only; split <;> rfl
  | equality neg => cases absorb x <;> rfl
  | strict => cases x <;> rfl

theorem ternModel_other {op : Op} (h : op ≠ .ternaryCondition) (c m r : R N) :
    ternModel op c m r = (.error (.invalidTernary op), []) := by
  cases op <;> first | rfl | exact absurd rfl h

theorem unModel_trace (op : Op) (m : R N) : (unModel op m).2 = m.2 := by
  obtain ⟨x, t⟩ := m
  cases x <;> rfl

theorem ternModel_trace (op : Op) (c m r : R N) :
    (ternModel op c m r).2 = [] ∨ (ternModel op c m r).2 = c.2 ∨
      (ternModel op c m r).2 = c.2 ++ m.2 ∨ (ternModel op c m r).2 = c.2 ++ r.2 := by
  by_cases hop : op = .ternaryCondition
  · subst hop
    obtain ⟨x, tl⟩ := c
    cases x with
    | error e => exact .inr (.inl rfl)
    | ok cv =>
      simp only [ternModel]
      split
      · exact .inr (.inr (.inl rfl))
      · exact .inr (.inr (.inr rfl))
  · rw [ternModel_other hop]; exact .inl rfl

theorem un_err {op : Op} {m : R N} {x : Err} (h : (unModel op m).1 = .error x) :
    m.1 = .error x ∨ x = .invalidUnary op := by
  obtain ⟨m1, m2⟩ := m
  cases m1 with
  | ok v =>
    right
    cases op
    case minus => cases v <;> cases h <;> rfl
    case not => cases h
    all_goals cases h; rfl
  | error e => left; exact h

theorem bin_err {op : Op} {l r : R N} {x : Err} (h : (binModel op l r).1 = .error x) :
    l.1 = .error x ∨ r.1 = .error x ∨ x = .invalidBinary op := by
  rcases binModel_cases op l r with ⟨e, he, h'⟩ | ⟨_, _, h'⟩ | ⟨e, he, h'⟩ | ⟨_, _, h'⟩ | ⟨a, b, _, _, h'⟩ <;>
    rw [h'] at h
  · cases h; exact .inl he
  · cases h
  · cases h; exact .inr (.inl he)
  · cases h
  · exact .inr (.inr (binVal_err h))

theorem tern_err {op : Op} {c m r : R N} {x : Err} (h : (ternModel op c m r).1 = .error x) :
    c.1 = .error x ∨ m.1 = .error x ∨ r.1 = .error x ∨ x = .invalidTernary op := by
  by_cases hop : op = .ternaryCondition
  · subst hop
    obtain ⟨c1, c2⟩ := c
    cases c1 with
    | ok cv =>
      simp only [ternModel] at h
      split at h
      · exact .inr (.inl h)
      · exact .inr (.inr (.inl h))
    | error e => exact .inl h
  · rw [ternModel_other hop] at h; cases h; exact .inr (.inr (.inr rfl))

theorem evalT_array (env : Env N) (es : List (Expr N)) : (evalT env (.array es)).1 = (evalList env es).1.map .arr := by
  simp only [evalT]
  generalize evalList env es = y
  obtain ⟨y1, y2⟩ := y
  cases y1 <;> rfl

theorem evalT_call (env : Env N) (f : Str) (ps : List (Expr N)) :
    (evalT env (.call f ps)).1 =
      (evalList env ps).1.bind fun vs => (env.call f vs).mapError (.native f) := by
  simp only [evalT]
  generalize evalList env ps = y
  obtain ⟨y1, y2⟩ := y
  cases y1 with
  | error e => rfl
  | ok vs => simp only [Except.bind]; cases env.call f vs <;> rfl

theorem evalList_cons (env : Env N) (e : Expr N) (es : List (Expr N)) :
    (evalList env (e :: es)).1 = (evalT env e).1.bind fun v => (evalList env es).1.map (v :: ·) := by
  simp only [evalList]
  generalize evalT env e = y; generalize evalList env es = z
  obtain ⟨y1, y2⟩ := y; obtain ⟨z1, z2⟩ := z
  cases y1 with
  | error e' => rfl
  | ok v => cases z1 <;> rfl

theorem array_err {env : Env N} {es : List (Expr N)} {x : Err} (h : (evalT env (.array es)).1 = .error x) :
    (evalList env es).1 = .error x := by
  rw [evalT_array] at h
  cases hy : (evalList env es).1 <;> rw [hy] at h <;> cases h; rfl

theorem call_err {env : Env N} {f : Str} {ps : List (Expr N)} {x : Err} (h : (evalT env (.call f ps)).1 = .error x) :
    (evalList env ps).1 = .error x ∨
      ∃ vs ne, (evalList env ps).1 = .ok vs ∧ env.call f vs = .error ne ∧ x = .native f ne := by
  rw [evalT_call] at h
  cases hy : (evalList env ps).1 with
  | error e => rw [hy] at h; cases h; exact .inl rfl
  | ok vs =>
    rw [hy] at h
    cases hc : env.call f vs with
    | ok v => simp only [Except.bind, hc] at h; cases h
    | error ne => simp only [Except.bind, hc] at h; cases h; exact .inr ⟨vs, ne, rfl, hc, rfl⟩

theorem cons_err {env : Env N} {e : Expr N} {es : List (Expr N)} {x : Err}
    (h : (evalList env (e :: es)).1 = .error x) : (evalT env e).1 = .error x ∨ (evalList env es).1 = .error x := by
  rw [evalList_cons] at h
  cases hy : (evalT env e).1 with
  | error e' => rw [hy] at h; cases h; exact .inl rfl
  | ok v =>
    rw [hy] at h
    cases hz : (evalList env es).1 <;> simp only [Except.bind, hz] at h <;> cases h
    exact .inr rfl

theorem binModel_bool {op : Op} (hop : op ∈ boolOps) {ml mr : R N} {v : Value N}
    (h : (binModel op ml mr).1 = .ok v) : v.isBoolean = true := by
  rcases binModel_cases op ml mr with ⟨_, _, h'⟩ | ⟨_, _, h'⟩ | ⟨_, _, h'⟩ | ⟨_, _, h'⟩ | ⟨a, b, _, _, h'⟩ <;>
    rw [h'] at h
  · cases h
  · cases h; rfl
  · cases h
  · cases h; rfl
  · exact binVal_bool hop h

/-- for a strict operator the model succeeds only if both operands succeeded, and then through `binVal` -/
theorem binModel_strict_ok {op : Op} (hop : op.cls = .strict) {ml mr : R N} {v : Value N}
    (h : (binModel op ml mr).1 = .ok v) : ∃ a b, ml.1 = .ok a ∧ mr.1 = .ok b ∧ binVal op a b = .ok v := by
  rcases binModel_cases op ml mr with ⟨_, _, h'⟩ | ⟨_, hc, _⟩ | ⟨_, _, h'⟩ | ⟨_, hc, _⟩ | ⟨a, b, ha, hb, h'⟩
  · rw [h'] at h; cases h
  · exact absurd hop hc
  · rw [h'] at h; cases h
  · exact absurd hop hc
  · rw [h'] at h; exact ⟨a, b, ha, hb, h⟩

end Slac
