/-
  SlacProofs.SeqMisc — lemmas for C15 about the non-search builtins: `dedup` (unique), `findIdx?` (array find),
  `replaceArr`, `trim*`, `parseCsv`, against the meanings of SlacProofs.SeqSpec / core `List` functions.
-/
import SlacModel.Stdlib
import SlacProofs.SeqSpec
set_option autoImplicit false
namespace Slac.SeqMisc
open Slac.SeqSpec Slac.Stdlib

section dedup
variable {α : Type} (r : α → α → Bool)

theorem foldl_dedup (acc vs : List α) :
    vs.foldl (fun acc v => if acc.any (fun x => r x v) then acc else acc ++ [v]) acc
      = acc ++ dedupBy r (vs.filter fun w => !acc.any (fun x => r x w)) := by
  induction vs generalizing acc with
  | nil => simp [dedupBy]
  | cons v vs ih =>
    rw [List.foldl_cons]
    by_cases h : acc.any (fun x => r x v) = true
    · rw [if_pos h, ih, List.filter_cons, h]; rfl
    · rw [if_neg h, ih, List.filter_cons]
      have h' : acc.any (fun x => r x v) = false := by simpa using h
      rw [h']
      simp only [Bool.not_false, if_true]
      rw [dedupBy, List.filter_filter, List.append_assoc]
      have : (fun w => !(acc ++ [v]).any fun x => r x w) = (fun a => !r v a && !acc.any fun x => r x a) := by
        funext w
        simp [List.any_append, Bool.and_comm]
      rw [this]; rfl

theorem dedupBy_sublist (l : List α) : List.Sublist (dedupBy r l) l := by
  fun_induction dedupBy r l with
  | case1 => exact List.Sublist.refl _
  | case2 v vs ih => exact List.Sublist.cons_cons _ (ih.trans List.filter_sublist)

theorem dedupBy_pairwise (l : List α) : List.Pairwise (fun a b => r a b = false) (dedupBy r l) := by
  fun_induction dedupBy r l with
  | case1 => exact List.Pairwise.nil
  | case2 v vs ih =>
    refine List.Pairwise.cons ?_ ih
    intro b hb
    have := (dedupBy_sublist r _).mem hb
    simpa using (List.mem_filter.1 this).2

theorem dedupBy_covers (l : List α) : ∀ w, w ∈ l → w ∈ dedupBy r l ∨ ∃ x, x ∈ dedupBy r l ∧ r x w = true := by
  fun_induction dedupBy r l with
  | case1 => intro w hw; cases hw
  | case2 v vs ih =>
    intro w hw
    rcases List.mem_cons.1 hw with rfl | hw
    · exact Or.inl List.mem_cons_self
    · by_cases hr : r v w = true
      · exact Or.inr ⟨v, List.mem_cons_self, hr⟩
      · rcases ih w (List.mem_filter.2 ⟨hw, by simpa using hr⟩) with h | ⟨x, hx, hxw⟩
        · exact Or.inl (List.mem_cons_of_mem _ h)
        · exact Or.inr ⟨x, List.mem_cons_of_mem _ hx, hxw⟩

end dedup

theorem findIdx?_eq_core {α : Type} (p : α → Bool) (l : List α) : Stdlib.findIdx? p l = List.findIdx? p l := by
  induction l with
  | nil => rfl
  | cons a as ih => rw [Stdlib.findIdx?, List.findIdx?_cons, ih]

theorem findIdx?_eq_none_iff {α : Type} (p : α → Bool) (l : List α) :
    Stdlib.findIdx? p l = none ↔ ∀ v, v ∈ l → p v = false := by
  rw [findIdx?_eq_core, List.findIdx?_eq_none_iff]

theorem findIdx?_eq_some_iff {α : Type} (p : α → Bool) (l : List α) (i : Nat) :
    Stdlib.findIdx? p l = some i ↔
      ∃ h : i < l.length, p l[i] = true ∧ ∀ j (hj : j < i), p (l[j]'(Nat.lt_trans hj h)) = false := by
  rw [findIdx?_eq_core, List.findIdx?_eq_some_iff_getElem]
  constructor
  · rintro ⟨h, h1, h2⟩; exact ⟨h, h1, fun j hj => by simpa using h2 j hj⟩
  · rintro ⟨h, h1, h2⟩; exact ⟨h, h1, fun j hj => by simpa using h2 j hj⟩

theorem findIdx?_of_mem {α : Type} {p : α → Bool} {l : List α} (h : ∃ w, w ∈ l ∧ p w = true) :
    ∃ i, ∃ hi : i < l.length, Stdlib.findIdx? p l = some i ∧ p l[i] = true := by
  cases hf : Stdlib.findIdx? p l with
  | none =>
    obtain ⟨w, hw, hpw⟩ := h
    rw [(findIdx?_eq_none_iff p l).1 hf w hw] at hpw; cases hpw
  | some i =>
    obtain ⟨hi, h1, _⟩ := (findIdx?_eq_some_iff p l i).1 hf
    exact ⟨i, hi, rfl, h1⟩

theorem map_range_eq_map {α β : Type} (l : List α) (f : Nat → β) (g : α → β)
    (h : ∀ i (hi : i < l.length), f i = g l[i]) : (List.range l.length).map f = l.map g := by
  apply List.ext_getElem
  · simp
  · intro i h1 _
    simp only [List.length_map, List.length_range] at h1
    simp [h i h1]

section
variable {N : Type} [NumX N]

theorem replaceArr_some (vs : List (Value N)) (frm t : Value N) :
    replaceArr vs frm (some t) = vs.map fun v => if Value.eq v frm then t else v := by
  unfold replaceArr
  induction vs with
  | nil => rfl
  | cons v vs ih =>
    rw [List.filterMap_cons, List.map_cons, ih]
    by_cases h : Value.eq v frm = true <;> simp [h]

theorem replaceArr_none (vs : List (Value N)) (frm : Value N) :
    replaceArr vs frm none = vs.filter fun v => !Value.eq v frm := by
  unfold replaceArr
  induction vs with
  | nil => rfl
  | cons v vs ih =>
    rw [List.filterMap_cons, List.filter_cons, ih]
    by_cases h : Value.eq v frm = true <;> simp [h]
end

theorem trimLeft_decomp (s : Str) : s = s.takeWhile isWhiteSpace ++ trimLeft s :=
  (List.takeWhile_append_dropWhile).symm

theorem trimLeft_head (s : Str) : ∀ c, (trimLeft s).head? = some c → isWhiteSpace c = false := by
  intro c hc
  have h := List.head?_dropWhile_not isWhiteSpace s
  unfold trimLeft at hc
  rw [hc] at h
  exact h

theorem trimRight_decomp (s : Str) : s = trimRight s ++ (s.reverse.takeWhile isWhiteSpace).reverse := by
  unfold trimRight
  rw [← List.reverse_append, List.takeWhile_append_dropWhile, List.reverse_reverse]

theorem trimRight_last (s : Str) : ∀ c, (trimRight s).getLast? = some c → isWhiteSpace c = false := by
  intro c hc
  unfold trimRight at hc
  rw [List.getLast?_reverse] at hc
  exact trimLeft_head s.reverse c hc

theorem trimRight_prefix (s : Str) : trimRight s <+: s := ⟨_, (trimRight_decomp s).symm⟩

theorem head?_of_prefix {s t : Str} (h : s <+: t) (c : Char) (hc : s.head? = some c) : t.head? = some c := by
  obtain ⟨r, rfl⟩ := h
  cases s with
  | nil => simp at hc
  | cons a as => simpa using hc

theorem parseCsvAux_cons (sep : Char) (field : Str) (inQ : Bool) (c : Char) (cs : Str) :
    parseCsvAux sep field inQ (c :: cs) =
      if c = sep ∧ inQ = false then field.reverse :: parseCsvAux sep [] inQ cs
      else if c = '"' then parseCsvAux sep field (!inQ) cs else parseCsvAux sep (c :: field) inQ cs := by
  rw [parseCsvAux]
  simp only [Bool.and_eq_true, beq_iff_eq, Bool.not_eq_true']

theorem parseCsvAux_flatten (sep : Char) (field : Str) (inQ : Bool) (cs : Str) :
    (parseCsvAux sep field inQ cs).flatten = field.reverse ++ csvKeep sep inQ cs := by
  induction cs generalizing field inQ with
  | nil => simp [parseCsvAux, csvKeep]
  | cons c cs ih =>
    rw [parseCsvAux_cons, csvKeep]
    split
    · rw [List.flatten_cons, ih]; simp
    · split
      · exact ih _ _
      · rw [ih]; simp

theorem parseCsvAux_length (sep : Char) (field : Str) (inQ : Bool) (cs : Str) :
    (parseCsvAux sep field inQ cs).length = csvSeps sep inQ cs + 1 := by
  induction cs generalizing field inQ with
  | nil => simp [parseCsvAux, csvSeps]
  | cons c cs ih =>
    rw [parseCsvAux_cons, csvSeps]
    split
    · rw [List.length_cons, ih]
    · split <;> exact ih _ _

/-- the filter of `csvContent` -/
def csvPred (sep : Char) (line : Str) (ck : Char × Nat) : Bool :=
  ck.1 != '"' && !(ck.1 == sep && !quotedAt line ck.2)

theorem csvContent_def (sep : Char) (line : Str) :
    csvContent sep line = ((line.zipIdx 0).filter (csvPred sep line)).map (·.1) := rfl

theorem parity_succ (n : Nat) : ((n + 1) % 2 == 1) = !(n % 2 == 1) := by
  rcases Nat.mod_two_eq_zero_or_one n with h | h <;> simp [Nat.add_mod, h]

theorem csvKeep_eq_content_aux (sep : Char) (hs : sep ≠ '"') (line : Str) :
    ∀ cs pre : Str, pre ++ cs = line →
      csvKeep sep (pre.count '"' % 2 == 1) cs = ((cs.zipIdx pre.length).filter (csvPred sep line)).map (·.1) := by
  intro cs
  induction cs with
  | nil => intro pre _; simp [csvKeep]
  | cons c cs ih =>
    intro pre hl
    have hq : quotedAt line pre.length = (pre.count '"' % 2 == 1) := by
      unfold quotedAt; rw [← hl, List.take_left]
    have ih' := ih (pre ++ [c]) (by rw [← hl]; simp)
    rw [List.length_append, List.length_singleton, List.count_append] at ih'
    have hp : csvPred sep line (c, pre.length) = (c != '"' && !(c == sep && !(pre.count '"' % 2 == 1))) := by
      simp only [csvPred, hq]
    rw [csvKeep, List.zipIdx_cons, List.filter_cons, hp]
    by_cases h2 : c = '"'
    · subst h2; simp [Ne.symm hs, parity_succ, ← ih']
    · have hc : List.count '"' [c] = 0 := List.count_eq_zero.2 (by simpa using Ne.symm h2)
      rw [hc, Nat.add_zero] at ih'
      by_cases h3 : c = sep <;> cases hpar : (pre.count '"' % 2 == 1) <;> simp [h2, h3, hs, hpar, ← ih']

theorem csvKeep_quote_sep (cs : Str) : csvKeep '"' false cs = cs.filter (· != '"') := by
  induction cs with
  | nil => rfl
  | cons c cs ih =>
    rw [csvKeep, List.filter_cons]
    by_cases h : c = '"'
    · rw [if_pos ⟨h, rfl⟩, ih]; simp [h]
    · rw [if_neg (fun h' => h h'.1), if_neg h, ih]; simp [h]

theorem filter_zipIdx_fst (p : Char → Bool) (cs : Str) (k : Nat) :
    ((cs.zipIdx k).filter (fun ck => p ck.1)).map (·.1) = cs.filter p := by
  induction cs generalizing k with
  | nil => rfl
  | cons c cs ih =>
    rw [List.zipIdx_cons, List.filter_cons, List.filter_cons]
    by_cases h : p c = true <;> simp [h, ih]

theorem csvKeep_eq_content (sep : Char) (line : Str) : csvKeep sep false line = csvContent sep line := by
  by_cases hs : sep = '"'
  · subst hs
    rw [csvKeep_quote_sep, csvContent_def]
    have : csvPred '"' line = fun ck => ck.1 != '"' := by
      funext ck
      by_cases h : ck.1 = '"' <;> simp [csvPred, h]
    rw [this]
    exact (filter_zipIdx_fst (fun c => c != '"') line 0).symm
  · have := csvKeep_eq_content_aux sep hs line line [] rfl
    rw [csvContent_def]; simpa using this

end Slac.SeqMisc
