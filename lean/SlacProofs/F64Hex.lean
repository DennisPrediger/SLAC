/-
  SlacProofs.F64Hex — `trunc(x) as i64` is the (saturated) exact integer part `truncToInt x` of every finite double
  (`toI64_trunc`), via `truncToInt (trunc x) = truncToInt x`.  Used by C17 `int_to_hex_of_value`.
-/
import SlacProofs.F64Even
set_option autoImplicit false
namespace Slac
namespace F64

/-- the integer part of `trunc x` is the integer part of x -/
theorem truncToInt_trunc (x : Float) (hf : isFinite x = true) : truncToInt (trunc x) = truncToInt x := by
  rw [truncToInt_eq, truncToInt_eq, trunc_signBit, (unitsN_trunc x hf).1, Nat.mul_div_cancel _ (Nat.two_pow_pos 1074)]

/-- `trunc(x) as i64` is the (saturated) integer part of x, for every finite x -/
theorem toI64_trunc (x : Float) (hf : isFinite x = true) :
    toI64 (trunc x) = (if truncToInt x < -(2^63) then -(2^63) else if truncToInt x > 2^63 - 1 then 2^63 - 1
      else truncToInt x) := by
  obtain ⟨hn, hi⟩ := fin_not_nan _ (unitsN_trunc x hf).2
  unfold toI64 toIntSat
  rw [hn, hi, truncToInt_trunc x hf]
  simp only [Bool.false_eq_true, if_false]

end F64
end Slac
