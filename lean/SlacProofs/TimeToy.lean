/-
  SlacProofs.TimeToy — `LawfulTimeNum` is satisfiable: exact rational arithmetic is an instance.
  (The driver's instance is binary64; this toy instance only shows that the class has a model, so the theorems
  stated under `[LawfulTimeNum N]` are not vacuous.)  Functions irrelevant to time (libm, printing, parsing) are
  placeholders.
-/
import SlacProofs.TimeNum
import Mathlib.Data.Rat.Floor
import Mathlib.Tactic.Linarith
import Mathlib.Tactic.NormNum
import Mathlib.Tactic.FieldSimp
import Mathlib.Tactic.Ring
set_option autoImplicit false
namespace Slac.Time.Toy

/-- truncation toward zero -/
def truncZ (x : ℚ) : ℤ := if 0 ≤ x then ⌊x⌋ else ⌈x⌉
/-- saturating cast -/
def clamp (lo hi z : ℤ) : ℤ := if z < lo then lo else if z > hi then hi else z

theorem truncZ_intCast (k : ℤ) : truncZ (k : ℚ) = k := by
  unfold truncZ; split <;> simp

theorem clamp_of_mem {lo hi z : ℤ} (h1 : lo ≤ z) (h2 : z ≤ hi) : clamp lo hi z = z := by
  unfold clamp; rw [if_neg (by omega), if_neg (by omega)]

/-- exact rationals as a number type -/
@[reducible] def numOps : NumOps ℚ where
  add := (· + ·)
  sub := (· - ·)
  mul := (· * ·)
  div := (· / ·)
  rem := fun a _ => a
  trunc := fun x => (truncZ x : ℚ)
  neg := fun x => -x
  pcmp := fun a b => some (if a < b then .lt else if a = b then .eq else .gt)
  beq := fun a b => decide (a = b)
  zero := 0
  ofBool := fun b => if b then 1 else 0
  parse := fun _ => none

@[reducible] def numX : NumX ℚ where
  toNumOps := numOps
  toUsize := fun x => (clamp 0 (2^64 - 1) (truncZ x)).toNat
  floorUsize := fun x => (clamp 0 (2^64 - 1) ⌊x⌋).toNat
  toU32 := fun x => (clamp 0 (2^32 - 1) (truncZ x)).toNat
  toI32 := fun x => clamp (-(2^31)) (2^31 - 1) (truncZ x)
  toI64 := fun x => clamp (-(2^63)) (2^63 - 1) (truncZ x)
  ofNat := fun n => (n : ℚ)
  ofInt := fun k => (k : ℚ)
  abs := fun x => |x|
  round := fun x => if 0 ≤ x then (⌊x + 1/2⌋ : ℚ) else -(⌊-x + 1/2⌋ : ℚ)   -- half away from zero
  fract := fun x => x - (truncZ x : ℚ)
  floor := fun x => (⌊x⌋ : ℚ)
  sqrt := id
  sin := id
  cos := id
  exp := id
  ln := id
  atan := id
  pow := fun a _ => a
  display := fun _ => []
  isFinite := fun _ => true

theorem floor_int_add_half (k : ℤ) : ⌊(k : ℚ) + 1/2⌋ = k := by
  rw [Int.floor_eq_iff]; constructor <;> linarith

theorem round_intCast (k : ℤ) :
    (if 0 ≤ (k : ℚ) then (⌊(k : ℚ) + 1/2⌋ : ℚ) else -(⌊-(k : ℚ) + 1/2⌋ : ℚ)) = (k : ℚ) := by
  split
  · rw [floor_int_add_half]
  · have := floor_int_add_half (-k)
    push_cast at this
    rw [this]; push_cast; ring

theorem lawful : @LawfulTimeNum ℚ numX := by
  let _inst := numX
  refine
    { decode_encode_ms := ?_, ofInt_natCast := ?_, toI32_ofInt := ?_, toU32_ofNat := ?_, pcmp_ofInt_zero := ?_,
      zero_eq := ?_, one_eq := ?_, trunc_add_fract := ?_ }
  · intro T h1 h2
    show clamp (-(2^63)) (2^63 - 1) (truncZ
      (if 0 ≤ (T : ℚ) / ((86400000 : ℕ) : ℚ) * ((86400000 : ℕ) : ℚ) then
        (⌊(T : ℚ) / ((86400000 : ℕ) : ℚ) * ((86400000 : ℕ) : ℚ) + 1/2⌋ : ℚ)
      else -(⌊-((T : ℚ) / ((86400000 : ℕ) : ℚ) * ((86400000 : ℕ) : ℚ)) + 1/2⌋ : ℚ))) = T
    have e : (T : ℚ) / ((86400000 : ℕ) : ℚ) * ((86400000 : ℕ) : ℚ) = (T : ℚ) := by
      field_simp
    rw [e, round_intCast, truncZ_intCast, clamp_of_mem (by omega) (by omega)]
  · intro n
    show ((n : ℤ) : ℚ) = (n : ℚ)
    simp
  · intro k h1 h2
    show clamp (-(2^31)) (2^31 - 1) (truncZ (k : ℚ)) = k
    rw [truncZ_intCast, clamp_of_mem (by omega) (by omega)]
  · intro n h
    show (clamp 0 (2^32 - 1) (truncZ ((n : ℕ) : ℚ))).toNat = n
    rw [show ((n : ℕ) : ℚ) = ((n : ℤ) : ℚ) by simp, truncZ_intCast, clamp_of_mem (by omega) (by omega)]
    simp
  · intro k _ _
    show some (if (k : ℚ) < 0 then Ordering.lt else if (k : ℚ) = 0 then .eq else .gt) = some (sgnOrd k)
    unfold sgnOrd
    simp only [Int.cast_lt_zero, Int.cast_eq_zero]
  · show (0 : ℚ) = ((0 : ℕ) : ℚ)
    simp
  · show (1 : ℚ) = ((1 : ℕ) : ℚ)
    simp
  · intro T _ _
    show (truncZ ((T : ℚ) / ((86400000 : ℕ) : ℚ)) : ℚ) + ((T : ℚ) / ((86400000 : ℕ) : ℚ) - (truncZ ((T : ℚ) / ((86400000 : ℕ) : ℚ)) : ℚ))
      = (T : ℚ) / ((86400000 : ℕ) : ℚ)
    ring

end Slac.Time.Toy
