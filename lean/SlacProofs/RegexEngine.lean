/-
  SlacProofs.RegexEngine — lemmas about the concrete regex engine model (SlacModel.RegexEngine):
  replacement text without `$` is copied verbatim; plain splicing; `find_iter` as the iteration of `nextMatch`.
-/
import SlacModel.RegexEngine
set_option autoImplicit false
namespace Slac.RegexEngine

/-- `interpolate::string` copies a replacement text without `$` -/
theorem interp_plain (re : Compiled) (h : Str) (gs : List (Option (Nat × Nat))) (f : Nat) (rep : Str)
    (hp : '$' ∉ rep) : interp re h gs f rep = rep := by
  induction rep generalizing f with
  | nil => cases f <;> rfl
  | cons c t ih =>
    cases f with
    | zero => rfl
    | succ f =>
      have hc : c ≠ '$' := fun e => hp (by simp [e])
      have ht : '$' ∉ t := fun e => hp (by simp [e])
      simp [interp, hc, ih f ht]

/-- replacement with plain text: copy the text between the given spans, put `rep` for each span -/
def splicePlain (h rep : Str) : Nat → List (Nat × Nat) → Str
  | last, [] => h.drop last
  | last, (s, e) :: xs => extract h last s ++ rep ++ splicePlain h rep e xs

def Mt.span (x : Mt) : Nat × Nat := (x.s, x.e.i)

theorem spliceFrom_plain (re : Compiled) (h rep : Str) (hp : '$' ∉ rep) (last : Nat) (ms : List Mt) :
    spliceFrom re h rep last ms = splicePlain h rep last (ms.map Mt.span) := by
  induction ms generalizing last with
  | nil => rfl
  | cons x xs ih => simp [spliceFrom, splicePlain, Mt.span, expand, interp_plain re h _ _ rep hp, ih]

/-- `replacen` with plain replacement text rewrites exactly the first `n` matches (all of them for `n = 0`) -/
theorem replacen_plain (re : Compiled) (h rep : Str) (n : Nat) (hp : '$' ∉ rep) :
    replacen re h n rep =
      splicePlain h rep 0 (((if n = 0 then allMatches re h else (allMatches re h).take n)).map Mt.span) := by
  simp only [replacen]
  exact spliceFrom_plain re h rep hp 0 _

/-- `FindMatches::next`: the match reported from `cur` when the previous one ended at `last` -/
def nextMatch (re : Compiled) (cur : Cur) (last : Option Nat) : Option Mt :=
  match search re cur with
  | none => none
  | some x =>
    if x.isEmptyMatch && last == some x.e.i then
      match cur.rest with
      | [] => none
      | c :: t => search re (cur.adv c t)
    else some x

theorem findIterAux_succ (re : Compiled) (f : Nat) (cur : Cur) (last : Option Nat) :
    findIterAux re (f + 1) cur last =
      match nextMatch re cur last with
      | none => []
      | some y => y :: findIterAux re f y.e (some y.e.i) := by
  simp only [findIterAux, nextMatch]
  cases search re cur with
  | none => rfl
  | some x =>
    simp only
    split
    · cases cur.rest with
      | nil => rfl
      | cons c t => simp only; cases search re (cur.adv c t) <;> rfl
    · rfl

theorem nextMatch_first (re : Compiled) (cur : Cur) : nextMatch re cur none = search re cur := by
  unfold nextMatch
  cases search re cur with
  | none => rfl
  | some x => simp only [show (none == some x.e.i) = false from rfl, Bool.and_false, Bool.false_eq_true, if_false]

/-- the first reported match is the first search result; the iteration continues behind it -/
theorem allMatches_eq (re : Compiled) (h : Str) :
    allMatches re h = match search re (cur0 h) with
      | none => []
      | some x => x :: findIterAux re (h.length + 1) x.e (some x.e.i) := by
  rw [allMatches, findIterAux_succ, nextMatch_first]

end Slac.RegexEngine
