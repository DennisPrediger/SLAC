/-
  SlacProofs.F64Frac — `trunc(x) + frac(x) = x` for the driver's doubles, proved from core's float model.
  A finite double is a signed zero or a canonical `mkF` (`finite_cases`, read off its unpacked form); `trunc` on
  canonical floats (zero of the same sign below 1, low mantissa bits cleared between 1 and 2^52, identity above);
  `add_mkF_exact`: a sum whose exact value is representable is computed exactly, so `x - trunc x` and
  `trunc x + (x - trunc x)` are exact (`sub_add_exact`).
  Result: `trunc_add_fract` (bit for bit, every finite x ≠ -0.0), `trunc_add_fract_neg_zero` (the exception:
  -0.0 ↦ +0.0, IEEE-equal), `trunc_add_fract_beq` (IEEE `==`, every finite x), `fract_inf` (NaN at ±inf).
-/
import SlacProofs.F64Int
set_option autoImplicit false
namespace Slac
namespace F64
open Float.Model Float.Model.UnpackedFloat

def zeroF (s : Sign) : Float := Float.ofModel (Float.Model.pack (.zero s))

theorem bits_zeroF (s : Sign) : bits (zeroF s) = sbit s * 2^63 := by
  rw [zeroF, bits_ofModel_pack]; rfl

theorem unpack_zeroF (s : Sign) : (zeroF s).toModel.unpack = .zero s := by
  obtain ⟨f1, f2, f3⟩ := fields (sbit s) 0 0 (by decide) (by decide)
  rw [unpack_bits, bits_zeroF, show sbit s * 2^63 = sbit s * 2^63 + (2^52 * 0 + 0) by omega, unpackN_zero _ f2 f3,
    signN_of _ s f1]

theorem isZero_zeroF (s : Sign) : isZero (zeroF s) = true := by
  have := sbit_le s
  unfold isZero magN; rw [bits_zeroF, decide_eq_true_eq]; omega

theorem signBit_zeroF (s : Sign) : signBit (zeroF s) = decide (sbit s = 1) := by
  have := sbit_le s
  rw [signBit_eq, bits_zeroF]; congr 1; apply propext; omega

theorem isFinite_zeroF (s : Sign) : isFinite (zeroF s) = true := by
  have := sbit_le s
  unfold isFinite magN; rw [bits_zeroF, decide_eq_true_eq]; omega

def signOf (neg : Bool) : Sign := if neg then .negative else .positive

theorem sbit_signOf (neg : Bool) : sbit (signOf neg) = if neg then 1 else 0 := by cases neg <;> rfl

theorem ofParts_zero (neg : Bool) : ofParts neg 0 = zeroF (signOf neg) := by
  apply eq_of_bits_eq
  rw [bits_ofParts neg 0 (by decide), bits_zeroF, sbit_signOf]
  cases neg <;> simp

theorem finite_cases (x : Float) (hf : isFinite x = true) :
    (∃ s, x = zeroF s) ∨ ∃ (s : Sign) (m : Nat) (e : Int) (h : Canon m e), x = mkF s m e h.pos := by
  unfold isFinite magN at hf; rw [decide_eq_true_eq] at hf
  have hx := ofModel_pack_unpack x
  rw [unpack_bits] at hx
  have hM := Nat.mod_lt (bits x) (show 0 < 2^52 by decide)
  by_cases hE : bits x / 2^52 % 2^11 = 0
  · by_cases hM0 : bits x % 2^52 = 0
    · rw [unpackN_zero _ hE hM0] at hx; exact Or.inl ⟨_, hx.symm⟩
    · rw [unpackN_subnormal _ hE hM0] at hx
      exact Or.inr ⟨_, _, _, Canon.of_subnormal (Nat.pos_of_ne_zero hM0) hM, hx.symm⟩
  · rw [unpackN_normal _ (by omega) hE] at hx
    exact Or.inr ⟨_, _, _, Canon.of_normal (by omega) (by omega) (by omega) (by omega), hx.symm⟩

/-- every finite non-zero double is a canonical `mkF` -/
theorem exists_mkF (x : Float) (hf : isFinite x = true) (hz : isZero x = false) :
    ∃ (s : Sign) (m : Nat) (e : Int) (h : Canon m e), x = mkF s m e h.pos := by
  rcases finite_cases x hf with ⟨s, rfl⟩ | h
  · rw [isZero_zeroF] at hz; cases hz
  · exact h

/-- |x| < 1: `trunc` gives the zero of the same sign -/
theorem trunc_mkF_small (s : Sign) (m : Nat) (e : Int) (h : Canon m e) (he : e < -52) :
    trunc (mkF s m e h.pos) = zeroF s := by
  have hlt := h.lt
  unfold trunc; simp only []
  rw [expBits_mkF s m e h, if_neg (by omega), if_pos (by omega), signBit_mkF s m e h, ofParts_zero]
  cases s <;> rfl

theorem trunc_zeroF (s : Sign) : trunc (zeroF s) = zeroF s := by
  have := sbit_le s
  unfold trunc; simp only []
  rw [expBits_eq, bits_zeroF, if_neg (by omega), if_pos (by omega), signBit_zeroF, ofParts_zero]
  cases s <;> rfl

theorem dvd_add_div_mul (c a k : Nat) (h : 2^k ∣ c) : (c + a) / 2^k * 2^k = c + a / 2^k * 2^k := by
  obtain ⟨q, rfl⟩ := h
  rw [Nat.mul_add_div (Nat.two_pow_pos k), Nat.add_mul, Nat.mul_comm q]

/-- 1 ≤ |x| < 2^52: `trunc` clears the k = -e low mantissa bits -/
theorem trunc_mkF_mid (s : Sign) (m : Nat) (e : Int) (h : Canon m e) (he1 : -52 ≤ e) (he2 : e < 0) :
    ∃ h' : Canon (m / 2^(-e).toNat * 2^(-e).toNat) e,
      trunc (mkF s m e h.pos) = mkF s (m / 2^(-e).toNat * 2^(-e).toNat) e h'.pos := by
  have hlt := h.lt
  have h52 := h.normal (by omega)
  generalize hk : (-e).toNat = k
  have d52 : 2^k ∣ 2^52 := Nat.pow_dvd_pow 2 (by omega)
  have hm'1 : 2^52 ≤ m / 2^k * 2^k := by
    rw [← Nat.div_mul_cancel d52]; exact Nat.mul_le_mul_right _ (Nat.div_le_div_right h52)
  have hm'2 : m / 2^k * 2^k ≤ m := Nat.div_mul_le_self _ _
  have hc' : Canon (m / 2^k * 2^k) e := Canon.of_normal hm'1 (by omega) (by omega) h.le
  refine ⟨hc', eq_of_bits_eq ?_⟩
  -- the exponent field is 1075 - k, so `truncN` drops k bits; they lie inside the significand
  have hE : expBits (mkF s m e h.pos) = 1075 - k := by rw [expBits_mkF s m e h]; omega
  rw [expBits_eq, bits_mkF s m e h] at hE
  have hkk : 1075 - (1075 - k) = k := by omega
  rw [bits_trunc, bits_mkF _ _ _ hc', bits_mkF s m e h, truncN_mid _ (by rw [hE]; omega) (by rw [hE]; omega), hE, hkk]
  unfold magOf
  rw [dvd_add_div_mul _ _ _ (Nat.dvd_mul_left_of_dvd (Nat.pow_dvd_pow 2 (by omega)) _),
    dvd_add_div_mul _ _ _ (Nat.dvd_mul_right_of_dvd d52 _)]

/-- a canonical float whose value is an integer is fixed by `trunc` -/
theorem trunc_mkF_int (s : Sign) (m : Nat) (e : Int) (h : Canon m e) (hi : 0 ≤ e ∨ 2^(-e).toNat ∣ m) :
    trunc (mkF s m e h.pos) = mkF s m e h.pos := by
  have hlt := h.lt
  by_cases he : 0 ≤ e
  · have h52 : 2^52 ≤ m := by rcases h.normal_or_sub with ⟨h1, _⟩ | ⟨_, _, h2⟩ <;> omega
    unfold trunc; simp only []
    rw [expBits_mkF s m e h, if_pos (by omega)]
  · have hd := hi.resolve_left he
    -- 2^k divides m < 2^53, so k ≤ 52 and `trunc_mkF_mid` applies, clearing bits that are zero
    have hk : 2^(-e).toNat < 2^53 := Nat.lt_of_le_of_lt (Nat.le_of_dvd h.pos hd) hlt
    have hk := (Nat.pow_lt_pow_iff_right (by decide : 1 < 2)).1 hk
    obtain ⟨hc', ht⟩ := trunc_mkF_mid s m e h (by omega) (by omega)
    rw [ht]; simp only [Nat.div_mul_cancel hd]

theorem normalize_ne (c e : Int) (z : Sign) (hc : c ≠ 0) :
    normalize B64 c e z = UnpackedFloat.round B64 (sgnOf c) c.natAbs e := by
  unfold normalize sgnOf
  rcases Int.lt_or_gt_of_ne hc with h | h
  · rw [Int.compare_eq_lt.2 h, if_pos h]
    show UnpackedFloat.round B64 .negative (-c).toNat e = _
    congr 1; omega
  · rw [Int.compare_eq_gt.2 h, if_neg (by omega)]
    show UnpackedFloat.round B64 .positive c.toNat e = _
    congr 1; omega

theorem toNat_sub_add (a c b : Int) (h1 : b ≤ c) (h2 : c ≤ a) : (a - b).toNat = (a - c).toNat + (c - b).toNat := by
  omega

theorem pow_base_cancel (r M : Nat) (e T b : Int) (hbe : b ≤ e) (hbT : b ≤ T)
    (hv : r * 2^(e - b).toNat = M * 2^(T - b).toNat) : r * 2^(e - T).toNat = M * 2^(T - e).toNat := by
  have aux : ∀ (r M : Nat) (e T : Int), b ≤ e → e ≤ T → r * 2^(e - b).toNat = M * 2^(T - b).toNat →
      r * 2^(e - T).toNat = M * 2^(T - e).toNat := by
    intro r M e T hbe h hv
    have e2 : (e - T).toNat = 0 := by omega
    rw [toNat_sub_add T e b hbe h, Nat.pow_add, ← Nat.mul_assoc] at hv
    rw [e2, Nat.pow_zero, Nat.mul_one]
    exact Nat.eq_of_mul_eq_mul_right (Nat.two_pow_pos _) hv
  rcases Int.le_total e T with h | h
  · exact aux r M e T hbe h hv
  · exact (aux M r T e hbT h hv.symm).symm

/-- **exact addition**: if the exact sum of two canonical values, as integers over a common base exponent b, is
    ± M·2^T with (M, T) canonical, then that is their floating-point sum -/
theorem add_mkF_exact (s1 s2 s : Sign) (m1 m2 M : Nat) (e1 e2 T b : Int) (h1 : Canon m1 e1) (h2 : Canon m2 e2)
    (h : Canon M T) (hb1 : b ≤ e1) (hb2 : b ≤ e2) (hbT : b ≤ T)
    (hv : s1.apply ((m1 * 2^(e1 - b).toNat : Nat) : Int) + s2.apply ((m2 * 2^(e2 - b).toNat : Nat) : Int)
        = s.apply ((M * 2^(T - b).toNat : Nat) : Int)) :
    mkF s1 m1 e1 h1.pos + mkF s2 m2 e2 h2.pos = mkF s M T h.pos := by
  rw [float_add_def, unpack_mkF _ _ _ h1, unpack_mkF _ _ _ h2]
  show Float.ofModel (Float.Model.pack (normalize B64 (s1.apply ((m1 <<< (e1 - min e1 e2).toNat : Nat) : Int) +
    s2.apply ((m2 <<< (e2 - min e1 e2).toNat : Nat) : Int)) (min e1 e2) .positive)) = _
  rw [Nat.shiftLeft_eq, Nat.shiftLeft_eq]
  generalize he0 : min e1 e2 = e0
  -- core adds the mantissas over e0; scaled by 2^(e0 - b) their sum c is the sum assumed in `hv`
  have hb0 : b ≤ e0 := he0 ▸ Int.le_min.2 ⟨hb1, hb2⟩
  rw [toNat_sub_add e1 e0 b hb0 (he0 ▸ Int.min_le_left e1 e2), toNat_sub_add e2 e0 b hb0 (he0 ▸ Int.min_le_right e1 e2),
    Nat.pow_add, Nat.pow_add, ← Nat.mul_assoc, ← Nat.mul_assoc, apply_mul _ (m1 * _), apply_mul _ (m2 * _),
    ← Int.add_mul] at hv
  generalize s1.apply ((m1 * 2^(e1 - e0).toNat : Nat) : Int) + s2.apply ((m2 * 2^(e2 - e0).toNat : Nat) : Int) = c at hv ⊢
  have hpos : 0 < M * 2^(T - b).toNat := Nat.mul_pos h.pos (Nat.two_pow_pos _)
  have hc0 : c ≠ 0 := by
    intro h0; rw [h0, Int.zero_mul] at hv
    have := apply_natAbs s (M * 2^(T - b).toNat); rw [← hv] at this
    exact Nat.ne_of_gt hpos this.symm
  have hn : c.natAbs * 2^(e0 - b).toNat = M * 2^(T - b).toNat := by
    have := congrArg Int.natAbs hv
    rwa [Int.natAbs_mul, Int.natAbs_natCast, apply_natAbs] at this
  have hs : sgnOf c = s := by
    rw [← hn, apply_mul] at hv
    rw [Int.eq_of_mul_eq_mul_right (Int.natCast_ne_zero.2 (Nat.ne_of_gt (Nat.two_pow_pos _))) hv]
    exact sgnOf_apply_nat s _ (by omega)
  rw [normalize_ne _ _ _ hc0, hs,
    round_of_value s _ M e0 T h.pos h.tgt_eq (pow_base_cancel _ _ _ _ b hb0 hbT hn)]
  rfl

/-- subtracting a finite value is adding its negation (in core's model) -/
theorem sub_mkF_eq_add (x : Float) (s : Sign) (m : Nat) (e : Int) (h : Canon m e) :
    x - mkF s m e h.pos = x + mkF (-s) m e h.pos := by
  rw [float_sub_def, float_add_def, unpack_mkF s m e h, unpack_mkF (-s) m e h]
  cases x.toModel.unpack with
  | finite s1 m1 e1 h1 => simp only [UnpackedFloat.sub, UnpackedFloat.add, neg_apply, Int.sub_eq_add_neg]
  | _ => rfl

/-- x - x = +0 for finite non-zero x -/
theorem sub_self_mkF (s : Sign) (m : Nat) (e : Int) (h : Canon m e) :
    mkF s m e h.pos - mkF s m e h.pos = zeroF .positive := by
  rw [float_sub_def, unpack_mkF s m e h]
  simp only [UnpackedFloat.sub, decreaseExponent]
  rw [Int.sub_self]; rfl

theorem sub_zero_mkF (s z : Sign) (m : Nat) (e : Int) (h : Canon m e) :
    mkF s m e h.pos - zeroF z = mkF s m e h.pos := by
  rw [float_sub_def, unpack_mkF s m e h, unpack_zeroF]; rfl

theorem add_zero_mkF (s z : Sign) (m : Nat) (e : Int) (h : Canon m e) :
    mkF s m e h.pos + zeroF z = mkF s m e h.pos := by
  rw [float_add_def, unpack_mkF s m e h, unpack_zeroF]; rfl

theorem zero_add_mkF (s z : Sign) (m : Nat) (e : Int) (h : Canon m e) :
    zeroF z + mkF s m e h.pos = mkF s m e h.pos := by
  rw [float_add_def, unpack_mkF s m e h, unpack_zeroF]; rfl

/-- exact subtraction of a smaller same-sign, same-exponent value, followed by adding it back -/
theorem sub_add_exact (s : Sign) (m m' : Nat) (e : Int) (h : Canon m e) (h' : Canon m' e) (hlt : m' < m) :
    ∃ (r : Nat) (T : Int) (hc : Canon r T),
      mkF s m e h.pos - mkF s m' e h'.pos = mkF s r T hc.pos ∧
      mkF s m' e h'.pos + mkF s r T hc.pos = mkF s m e h.pos := by
  have hm53 := h.lt
  have hge := h.ge
  have hd0 : m - m' ≠ 0 := by omega
  have hdl : (m - m').log2 < 53 := (Nat.log2_lt hd0).2 (by omega)
  have hT : tgt (m - m') e ≤ e := by unfold tgt; omega
  generalize hTT : tgt (m - m') e = T at hT
  generalize hj : (e - T).toNat = j
  have hej : e - (j : Int) = T := by omega
  have hc : Canon ((m - m') * 2^j) T := by
    refine ⟨Nat.mul_pos (by omega) (Nat.two_pow_pos _), ?_, by have := h.le; omega⟩
    have := tgt_mul (m - m') j e hd0
    rw [hej, hTT] at this; exact this
  have hTT0 : (T - T).toNat = 0 := by omega
  have hle : m' * 2^j ≤ m * 2^j := Nat.mul_le_mul_right _ (Nat.le_of_lt hlt)
  have hsub : (m - m') * 2^j * 2^0 = m * 2^j - m' * 2^j := by rw [Nat.pow_zero, Nat.mul_one, Nat.sub_mul]
  refine ⟨(m - m') * 2^j, T, hc, ?_, ?_⟩
  · rw [sub_mkF_eq_add _ _ _ _ h']
    refine add_mkF_exact _ _ _ _ _ _ _ _ _ T h h' hc hT hT (Int.le_refl T) ?_
    rw [hj, hTT0, hsub, neg_apply]
    cases s <;> simp only [Sign.apply] <;> omega
  · refine add_mkF_exact _ _ _ _ _ _ _ _ _ T h' hc h hT (Int.le_refl T) hT ?_
    rw [hj, hTT0, hsub]
    cases s <;> simp only [Sign.apply] <;> omega

theorem trunc_add_fract_mkF (s : Sign) (m : Nat) (e : Int) (h : Canon m e) :
    trunc (mkF s m e h.pos) + fract (mkF s m e h.pos) = mkF s m e h.pos := by
  unfold fract
  by_cases he0 : 0 ≤ e
  · rw [trunc_mkF_int s m e h (Or.inl he0), sub_self_mkF s m e h, add_zero_mkF s _ m e h]
  · by_cases he : e < -52
    · rw [trunc_mkF_small s m e h he, sub_zero_mkF s _ m e h, zero_add_mkF s _ m e h]
    · obtain ⟨hc', ht⟩ := trunc_mkF_mid s m e h (by omega) (by omega)
      rw [ht]
      have hle : m / 2^(-e).toNat * 2^(-e).toNat ≤ m := Nat.div_mul_le_self _ _
      by_cases heq : m / 2^(-e).toNat * 2^(-e).toNat = m
      · have : mkF s (m / 2^(-e).toNat * 2^(-e).toNat) e hc'.pos = mkF s m e h.pos := by
          congr 1
        rw [this, sub_self_mkF s m e h, add_zero_mkF s _ m e h]
      · obtain ⟨r, T, hc, h1, h2⟩ := sub_add_exact s m _ e h hc' (by omega)
        rw [h1, h2]

/-- `trunc(x) + frac(x) = x`, bit for bit, for every finite x except -0.0 (where IEEE gives +0.0) -/
theorem trunc_add_fract (x : Float) (hf : isFinite x = true) (hnz : bits x ≠ 2^63) :
    trunc x + fract x = x := by
  rcases finite_cases x hf with ⟨s, rfl⟩ | ⟨s, m, e, h, rfl⟩
  · cases s
    · exact absurd (bits_zeroF .negative) hnz
    · decide +kernel
  · exact trunc_add_fract_mkF s m e h

/-- the excluded case: -0.0 gives +0.0, which is IEEE-equal to -0.0 -/
theorem trunc_add_fract_neg_zero :
    trunc (Float.ofBits 0x8000000000000000) + fract (Float.ofBits 0x8000000000000000) = Float.ofBits 0 ∧
    beq (Float.ofBits 0) (Float.ofBits 0x8000000000000000) = true := by decide +kernel

/-- in IEEE equality the identity holds for every finite x -/
theorem trunc_add_fract_beq (x : Float) (hf : isFinite x = true) : beq (trunc x + fract x) x = true := by
  by_cases hnz : bits x = 2^63
  · have hx : x = Float.ofBits 0x8000000000000000 := by apply eq_of_bits_eq; rw [hnz]; decide +kernel
    rw [hx, trunc_add_fract_neg_zero.1]; exact trunc_add_fract_neg_zero.2
  · rw [trunc_add_fract x hf hnz]
    unfold isFinite at hf; rw [decide_eq_true_eq] at hf
    unfold beq beqN isNaNN
    simp; omega

/-- infinities: frac(±inf) is NaN (inf - inf), so the identity is about finite numbers only -/
theorem fract_inf : isNaN (fract inf) = true ∧ isNaN (fract (-inf)) = true := by decide +kernel

end F64
end Slac
