/-
  SlacProofs.JsonTextStr — the string layer of the JSON text round trip: serde_json's escaping (`escapeChar`: `\"` `\\`
  `\b` `\f` `\n` `\r` `\t`, `\u00XX` for the other code points below U+0020, everything else raw) is undone by the string
  reader (`parseStrBody`), character by character (`escapeChar_spec`, `parseStrBody_escapeChar`), hence for every list of Unicode scalar
  values (`parseStrBody_escapeStr`, `parseString_printString`).
-/
import SlacModel.JsonText
set_option autoImplicit false
namespace Slac
namespace JsonText

theorem hexVal_hexDigit : ∀ k : Fin 16, hexVal (hexDigit k.val) = some k.val := by decide

theorem hex4_byte (n : Nat) (h : n < 256) (t : Str) :
    hex4 ('0' :: '0' :: hexDigit (n / 16) :: hexDigit (n % 16) :: t) = some (n, t) := by
  have h1 := hexVal_hexDigit ⟨n / 16, by omega⟩
  have h2 := hexVal_hexDigit ⟨n % 16, by omega⟩
  have h0 : hexVal '0' = some 0 := by decide
  simp only [hex4, h0, h1, h2, Option.some.injEq, Prod.mk.injEq, and_true]
  omega

theorem parseEscape_u (n : Nat) (t r : Str) (h : hex4 t = some (n, r)) (hn : n < 0xD800) :
    parseEscape ('u' :: t) = some (Char.ofNat n, r) := by
  have a1 : ¬ (0xD800 ≤ n ∧ n < 0xDC00) := by omega
  have a2 : ¬ (0xDC00 ≤ n ∧ n < 0xE000) := by omega
  simp only [parseEscape, h, if_neg a1, if_neg a2]
  simp

theorem escapeChar_spec (c : Char) :
    (escapeChar c = [c] ∧ c ≠ '"' ∧ c ≠ '\\' ∧ ¬ c.toNat < 0x20) ∨
      ∃ e, escapeChar c = '\\' :: e ∧ ∀ t, parseEscape (e ++ t) = some (c, t) := by
  unfold escapeChar
  by_cases h : c = '"'; · subst h; exact .inr ⟨_, rfl, fun _ => rfl⟩
  rw [if_neg h]
  by_cases h' : c = '\\'; · subst h'; exact .inr ⟨_, rfl, fun _ => rfl⟩
  rw [if_neg h']
  by_cases hlt : c.toNat < 0x20
  · rw [if_pos hlt]
    refine .inr ?_
    by_cases h : c = '\x08'; · subst h; exact ⟨_, rfl, fun _ => rfl⟩
    rw [if_neg h]
    by_cases h : c = '\x0c'; · subst h; exact ⟨_, rfl, fun _ => rfl⟩
    rw [if_neg h]
    by_cases h : c = '\n'; · subst h; exact ⟨_, rfl, fun _ => rfl⟩
    rw [if_neg h]
    by_cases h : c = '\r'; · subst h; exact ⟨_, rfl, fun _ => rfl⟩
    rw [if_neg h]
    by_cases h : c = '\t'; · subst h; exact ⟨_, rfl, fun _ => rfl⟩
    rw [if_neg h]
    refine ⟨_, rfl, fun t => ?_⟩
    exact (parseEscape_u c.toNat _ t (hex4_byte _ (by omega) t) (by omega)).trans (by rw [Char.ofNat_toNat])
  · rw [if_neg hlt]; exact .inl ⟨rfl, h, h', hlt⟩

theorem escapeChar_ne_nil (c : Char) : escapeChar c ≠ [] := by
  rcases escapeChar_spec c with ⟨h, _⟩ | ⟨e, h, _⟩ <;> rw [h] <;> exact List.cons_ne_nil _ _

theorem parseStrBody_backslash (f : Nat) (r : Str) (c : Char) (r1 : Str) (h : parseEscape r = some (c, r1)) :
    parseStrBody (f + 1) ('\\' :: r) = (parseStrBody f r1).map fun q => (c :: q.1, q.2) := by
  rw [parseStrBody, if_neg (by decide), if_pos rfl, h]
  dsimp only
  cases parseStrBody f r1 <;> rfl

theorem parseStrBody_raw (f : Nat) (c : Char) (r : Str) (h1 : c ≠ '"') (h2 : c ≠ '\\') (h3 : ¬ c.toNat < 0x20) :
    parseStrBody (f + 1) (c :: r) = (parseStrBody f r).map fun q => (c :: q.1, q.2) := by
  rw [parseStrBody, if_neg h1, if_neg h2, if_neg h3]
  cases parseStrBody f r <;> rfl

theorem parseStrBody_escapeChar (c : Char) (tail : Str) (f : Nat) :
    parseStrBody (f + 1) (escapeChar c ++ tail) = (parseStrBody f tail).map fun q => (c :: q.1, q.2) := by
  rcases escapeChar_spec c with ⟨h, h1, h2, h3⟩ | ⟨e, h, he⟩
  · rw [h]; exact parseStrBody_raw f c tail h1 h2 h3
  · rw [h]; exact parseStrBody_backslash f _ c tail (he tail)

/-- the string reader on an escaped string: the contents come back, for EVERY list of Unicode scalar values -/
theorem parseStrBody_escapeStr (s rest : Str) (f : Nat) (hf : (escapeStr s).length < f) :
    parseStrBody f (escapeStr s ++ '"' :: rest) = some (s, rest) := by
  induction s generalizing f with
  | nil =>
    cases f with
    | zero => simp [escapeStr] at hf
    | succ f => simp [escapeStr, parseStrBody]
  | cons c s ih =>
    have e : escapeStr (c :: s) = escapeChar c ++ escapeStr s := by simp [escapeStr]
    rw [e] at hf ⊢
    have hpos := List.length_pos_iff.mpr (escapeChar_ne_nil c)
    rw [List.length_append] at hf
    cases f with
    | zero => omega
    | succ f =>
      rw [List.append_assoc, parseStrBody_escapeChar, ih f (by omega)]
      rfl

theorem parseStringF_printString (s rest : Str) (f : Nat) (hf : (escapeStr s).length < f) :
    parseStringF f (printString s ++ rest) = some (s, rest) := by
  rw [printString, List.cons_append, parseStringF, if_pos rfl, List.append_assoc]
  exact parseStrBody_escapeStr s rest f hf

theorem parseString_printString (s rest : Str) : parseString (printString s ++ rest) = some (s, rest) := by
  unfold parseString
  apply parseStringF_printString
  unfold printString
  simp only [List.length_append, List.length_cons, List.length_nil]
  omega

end JsonText
end Slac
