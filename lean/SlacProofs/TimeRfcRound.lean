/-
  SlacProofs.TimeRfcRound — evaluation of chrono's scanners and RFC parsers (SlacModel.TimeParse) on the PARTS of a printed
  text (decimal fields, the head and tail of an RFC 3339 text, day name, date and time of an RFC 2822 text); the round
  trips are in SlacProofs.TimeZoneRound.
-/
import SlacProofs.TimeStr
set_option autoImplicit false
set_option linter.unusedSimpArgs false
namespace Slac.Time
open Stdlib TimeRfc

theorem digitsVal_lt (ds : List Nat) (hds : ∀ d ∈ ds, d < 10) : ∀ acc i, acc < 10 ^ i → digitsVal ds acc < 10 ^ (i + ds.length) := by
  induction ds with
  | nil => intro acc i h; simpa [digitsVal] using h
  | cons d ds ih =>
    intro acc i h
    have hd : d < 10 := hds d (by simp)
    have hs : 10 ^ (i + 1) = 10 ^ i * 10 := Nat.pow_succ ..
    have := ih (fun x hx => hds x (by simp [hx])) (acc * 10 + d) (i + 1) (by omega)
    simp only [digitsVal, List.foldl_cons, List.length_cons] at this ⊢
    have e : i + 1 + ds.length = i + (ds.length + 1) := by omega
    rw [e] at this; exact this

theorem dropWhile_digits (ds : List Nat) (hds : ∀ d ∈ ds, d < 10) (rest : Str) (hrest : NoDigitHead rest) :
    (digitsText ds ++ rest).dropWhile isDigit = rest := by
  induction ds with
  | nil =>
    cases rest with
    | nil => rfl
    | cons c r => simp [digitsText, List.dropWhile, isDigit, hrest c r rfl]
  | cons d ds ih =>
    simp only [digitsText, List.map_cons, List.cons_append, List.dropWhile, isDigit_dc d (hds d (by simp))]
    exact ih fun x hx => hds x (by simp [hx])

/-- `scan::nanosecond` on 1–9 fraction digits: scaled to nanoseconds -/
theorem nanosecond_short (ds : List Nat) (hds : ∀ d ∈ ds, d < 10) (h1 : 1 ≤ ds.length) (h9 : ds.length ≤ 9)
    (rest : Str) (hrest : NoDigitHead rest) :
    nanosecond (digitsText ds ++ rest) = .ok (rest, digitsVal ds 0 * 10 ^ (9 - ds.length)) := by
  have hl : (digitsText ds ++ rest).length - rest.length = ds.length := by simp [digitsText]
  simp only [nanosecond, number_digits 1 9 ds hds rest (by omega) h1 (Or.inr ⟨h9, hrest⟩), hl,
    show rest.dropWhile isDigit = rest from dropWhile_digits [] (by simp) rest hrest]

/-- more than nine digits: the tenth and later digits are skipped — truncation, not rounding -/
theorem nanosecond_long (ds more : List Nat) (hds : ∀ d ∈ ds, d < 10) (hm : ∀ d ∈ more, d < 10) (h9 : ds.length = 9)
    (rest : Str) (hrest : NoDigitHead rest) :
    nanosecond (digitsText (ds ++ more) ++ rest) = .ok (rest, digitsVal ds 0) := by
  have e : digitsText (ds ++ more) ++ rest = digitsText ds ++ (digitsText more ++ rest) := by simp [digitsText]
  have hl : (digitsText ds ++ (digitsText more ++ rest)).length - (digitsText more ++ rest).length = 9 := by
    simp [digitsText, h9]
  simp only [nanosecond, e, number_digits 1 9 ds hds _ (by omega) (by omega) (Or.inl h9), dropWhile_digits more hm rest hrest, hl,
    Nat.sub_self, Nat.pow_zero, Nat.mul_one]

theorem number_3chars (a b c : Nat) (ha : a < 10) (hb : b < 10) (hc : c < 10) (rest : Str) (min max : Nat) (hmin : min ≤ 3)
    (hstop : 3 = max ∨ (3 ≤ max ∧ NoDigitHead rest)) :
    number (a.digitChar :: b.digitChar :: c.digitChar :: rest) min max = .ok (rest, a * 100 + b * 10 + c) := by
  have := number_digits min max [a, b, c] (by simp [ha, hb, hc]) rest (by simp) hmin hstop
  rw [show digitsVal [a, b, c] 0 = a * 100 + b * 10 + c by simp only [digitsVal, List.foldl]; omega] at this
  exact this

theorem number_4_stop (a b c d : Nat) (ha : a < 10) (hb : b < 10) (hc : c < 10) (hd : d < 10) (c0 : Char) (r : Str)
    (h0 : digit? c0 = none) (min max : Nat) (hmin : min ≤ 4) (hmax : 4 ≤ max) :
    number (a.digitChar :: b.digitChar :: c.digitChar :: d.digitChar :: c0 :: r) min max =
      .ok (c0 :: r, a * 1000 + b * 100 + c * 10 + d) := by
  have := number_digits min max [a, b, c, d] (by simp [ha, hb, hc, hd]) (c0 :: r) (by simp) hmin (Or.inr ⟨hmax, .cons h0 r⟩)
  rw [show digitsVal [a, b, c, d] 0 = a * 1000 + b * 100 + c * 10 + d by simp only [digitsVal, List.foldl]; omega] at this
  exact this

/-- one or two digits of a day of the month followed by a space -/
theorem number_day (d : Nat) (hd : d < 100) (r : Str) :
    number (Nat.toDigits 10 d ++ ' ' :: r) 1 2 = .ok (' ' :: r, d) := by
  by_cases h : d < 10
  · rw [digits1 d h]
    have := number_digits 1 2 [d] (by simp [h]) _ (by simp) (by simp) (Or.inr ⟨by simp, .cons (c := ' ') (by decide) r⟩)
    rw [show digitsVal [d] 0 = d by simp [digitsVal]] at this
    exact this
  · rw [digits2 d (by omega) hd]
    have := number_digits 1 2 [d / 10, d % 10] (by simp; omega) (' ' :: r) (by simp) (by simp) (Or.inl rfl)
    rw [show digitsVal [d / 10, d % 10] 0 = d by simp only [digitsVal, List.foldl]; omega] at this
    exact this

theorem scanSpace_dc (k : Nat) (hk : k < 10) (r : Str) : scanSpace (' ' :: k.digitChar :: r) = .ok (k.digitChar :: r) := by
  simp [scanSpace, (by decide : isWs ' ' = true), trimStart_dc k hk]

theorem trimStart_digits (d : Nat) (hd : d < 100) (r : Str) : trimStart (Nat.toDigits 10 d ++ r) = Nat.toDigits 10 d ++ r := by
  by_cases h : d < 10
  · rw [digits1 d h]; exact trimStart_dc d h _
  · rw [digits2 d (by omega) hd]; exact trimStart_dc _ (by omega) _

/-- the 19 fixed positions of an RFC 3339 text, then `tail` -/
def rfc3339Head (y m d h mi s : Nat) (tail : Str) : Str :=
  (y / 1000).digitChar :: (y / 100 % 10).digitChar :: (y / 10 % 10).digitChar :: (y % 10).digitChar :: '-' ::
  (m / 10).digitChar :: (m % 10).digitChar :: '-' :: (d / 10).digitChar :: (d % 10).digitChar :: 'T' ::
  (h / 10).digitChar :: (h % 10).digitChar :: ':' :: (mi / 10).digitChar :: (mi % 10).digitChar :: ':' ::
  (s / 10).digitChar :: (s % 10).digitChar :: tail

theorem rfc3339Utc_head (y m d h mi s : Nat) (hy : y < 10000) (hm : m < 100) (hd : d < 100) (hh : h < 100)
    (hmi : mi < 100) (hs : s < 100) (tail : Str) :
    rfc3339Utc (rfc3339Head y m d h mi s tail) =
      if validDate y m d then rfc3339Tail (daysFromCivil y m d) h mi s tail else .error .outOfRange := by
  have e1 : y / 1000 * 1000 + y / 100 % 10 * 100 + y / 10 % 10 * 10 + y % 10 = y := by omega
  have e2 : m / 10 * 10 + m % 10 = m := by omega
  have e3 : d / 10 * 10 + d % 10 = d := by omega
  have e4 : h / 10 * 10 + h % 10 = h := by omega
  have e5 : mi / 10 * 10 + mi % 10 = mi := by omega
  have e6 : s / 10 * 10 + s % 10 = s := by omega
  have hlen : ¬ utf8Len (rfc3339Head y m d h mi s tail) < 19 := by
    have := length_le_utf8Len (rfc3339Head y m d h mi s tail)
    have : (rfc3339Head y m d h mi s tail).length = tail.length + 19 := rfl
    omega
  rw [rfc3339Utc, if_neg hlen]
  simp only [rfc3339Head, digitAt, expectAt, charAt, List.getD_cons_succ, List.getD_cons_zero, List.drop_succ_cons, List.drop_zero,
    digit_dc _ (by omega : y / 1000 < 10), digit_dc _ (by omega : y / 100 % 10 < 10), digit_dc _ (by omega : y / 10 % 10 < 10),
    digit_dc _ (by omega : y % 10 < 10), digit_dc _ (by omega : m / 10 < 10), digit_dc _ (by omega : m % 10 < 10),
    digit_dc _ (by omega : d / 10 < 10), digit_dc _ (by omega : d % 10 < 10), digit_dc _ (by omega : h / 10 < 10),
    digit_dc _ (by omega : h % 10 < 10), digit_dc _ (by omega : mi / 10 < 10), digit_dc _ (by omega : mi % 10 < 10),
    digit_dc _ (by omega : s / 10 < 10), digit_dc _ (by omega : s % 10 < 10),
    bind, Except.bind, beq_self_eq_true, if_true, Bool.or_true, Bool.true_or, e1, e2, e3, e4, e5, e6, fromYmd]
  by_cases hv : validDate (y : Int) m d = true <;> simp [hv]

theorem yearInRange_near (z : Int) (h1 : -3257813 ≤ z) (h2 : z ≤ 3257812) : yearInRange z = true := by
  obtain ⟨a, b⟩ := year_range_of_days z h1 h2
  simp [yearInRange, a, b]

/-- the date-time `off` seconds earlier (what `checked_sub_offset` computes) -/
def shiftNDT (t : NDT) (off : Int) : NDT :=
  ⟨t.days + ((t.time.secs : Int) - off) / 86400, ⟨(((t.time.secs : Int) - off) % 86400).toNat, t.time.nano⟩⟩

theorem shiftNDT_timestamp (t : NDT) (off : Int) : (shiftNDT t off).timestamp = t.timestamp - off := by
  simp only [shiftNDT, NDT.timestamp]
  have : ((((t.time.secs : Int) - off) % 86400).toNat : Int) = ((t.time.secs : Int) - off) % 86400 := by omega
  rw [this]; omega

theorem shiftNDT_millis (t : NDT) (off : Int) : (shiftNDT t off).millis = t.millis - off * 1000 := by
  simp only [NDT.millis, shiftNDT_timestamp]
  show _ + ((t.time.nano / 1000000 : Nat) : Int) = _
  omega

theorem subOffset_shift (t : NDT) (off : Int) (h : yearInRange (shiftNDT t off).days = true) :
    subOffset t off = some (shiftNDT t off) := by
  simp only [shiftNDT] at h
  simp [subOffset, shiftNDT, h]

theorem shiftNDT_zero (t : NDT) (h : t.time.secs < 86400) : shiftNDT t 0 = t := by
  obtain ⟨d, s, n⟩ := t
  have h : s < 86400 := h
  have e1 : ((s : Int) - 0) / 86400 = 0 := by omega
  have e2 : (((s : Int) - 0) % 86400).toNat = s := by omega
  simp only [shiftNDT, e1, e2, Int.add_zero]

/-- `±hh:mm` -/
def offsetText (neg : Bool) (oh om : Nat) : Str :=
  (if neg then '-' else '+') :: (oh / 10).digitChar :: (oh % 10).digitChar :: ':' :: (om / 10).digitChar :: [(om % 10).digitChar]

theorem twoDigits_dc (a b : Nat) (ha : a < 10) (hb : b < 10) (r : Str) :
    twoDigits (a.digitChar :: b.digitChar :: r) = .ok (a, b) := by
  have : ¬ utf8Len (a.digitChar :: b.digitChar :: r) < 2 := by
    have := length_le_utf8Len (a.digitChar :: b.digitChar :: r); simp at this; omega
  simp [twoDigits, this, digit_dc a ha, digit_dc b hb]

theorem timezoneOffset_hhmm (cm : ColonMode) (zulu missing minus neg : Bool) (oh om : Nat) (hoh : oh < 100) (hom : om < 60)
    (sep : Str) (hsep : ∀ r, consumeColon cm (sep ++ r) = .ok r) :
    timezoneOffset ((if neg then '-' else '+') :: (oh / 10).digitChar :: (oh % 10).digitChar ::
        (sep ++ [(om / 10).digitChar, (om % 10).digitChar])) cm zulu missing minus =
      .ok ([], if neg then -((oh * 3600 + om * 60 : Nat) : Int) else ((oh * 3600 + om * 60 : Nat) : Int)) := by
  have e1 : oh / 10 * 10 + oh % 10 = oh := by omega
  have e2 : om / 10 * 10 + om % 10 = om := by omega
  have h5 : om / 10 ≤ 5 := by omega
  have hl : ¬ utf8Len [(om / 10).digitChar, (om % 10).digitChar] < 2 := by
    have := length_le_utf8Len [(om / 10).digitChar, (om % 10).digitChar]; simp at this; omega
  cases neg <;>
    simp [timezoneOffset, twoDigits_dc _ _ (by omega : oh / 10 < 10) (by omega : oh % 10 < 10), hsep,
      twoDigits_dc _ _ (by omega : om / 10 < 10) (by omega : om % 10 < 10), hl, h5, e1, e2]

theorem timezoneOffset_text (neg : Bool) (oh om : Nat) (hoh : oh < 100) (hom : om < 60) :
    timezoneOffset (offsetText neg oh om) .strict true false true =
      .ok ([], if neg then -((oh * 3600 + om * 60 : Nat) : Int) else ((oh * 3600 + om * 60 : Nat) : Int)) :=
  timezoneOffset_hhmm .strict true false true neg oh om hoh hom [':'] fun r => by simp [consumeColon, scanChar]

theorem fracPart_offsetText (neg : Bool) (oh om : Nat) : fracPart (offsetText neg oh om) = .ok (offsetText neg oh om, 0) := by
  cases neg <;> rfl

theorem fracPart_autoSi (milli : Nat) (hml : milli < 1000) (neg : Bool) (oh om : Nat) :
    fracPart (autoSi milli ++ offsetText neg oh om) = .ok (offsetText neg oh om, milli * 1000000) := by
  by_cases h0 : milli = 0
  · subst h0; exact fracPart_offsetText neg oh om
  · have hb : (milli == 0) = false := by simp [h0]
    have e : milli / 100 * 100 + milli / 10 % 10 * 10 + milli % 10 = milli := by omega
    have hsign : digit? (if neg then '-' else '+') = none := by cases neg <;> rfl
    have hd : isDigit (if neg then '-' else '+') = false := by cases neg <;> rfl
    simp only [autoSi, hb, Bool.false_eq_true, if_false, pad3_spec milli hml, offsetText, List.cons_append, List.nil_append,
      fracPart, nanosecond, e,
      number_3chars _ _ _ (by omega : milli / 100 < 10) (by omega : milli / 10 % 10 < 10) (by omega : milli % 10 < 10) _ 1 9
        (by omega) (Or.inr ⟨by omega, .cons hsign _⟩)]
    simp only [List.dropWhile, hd]
    rfl

theorem rfc3339Tail_shift (date : Int) (h mi s nano : Nat) (hd1 : -719528 ≤ date) (hd2 : date ≤ 2932896)
    (hh : h < 24) (hmi : mi < 60) (hs : s ≤ 60) (frac : Str) (neg : Bool) (oh om : Nat) (hoh : oh < 24) (hom : om < 60)
    (hf : fracPart (frac ++ offsetText neg oh om) = .ok (offsetText neg oh om, nano)) :
    rfc3339Tail date h mi s (frac ++ offsetText neg oh om) =
      .ok (shiftNDT ⟨date, ⟨h * 3600 + mi * 60 + min s 59, (if s = 60 then 1000000000 else 0) + nano⟩⟩
        (if neg then -((oh * 3600 + om * 60 : Nat) : Int) else ((oh * 3600 + om * 60 : Nat) : Int))) := by
  have hr : ¬ (h ≥ 24 ∨ mi ≥ 60 ∨ s > 60) := by omega
  have hto := timezoneOffset_text neg oh om (by omega) hom
  have hob : -86400 < (if neg then -((oh * 3600 + om * 60 : Nat) : Int) else ((oh * 3600 + om * 60 : Nat) : Int)) ∧
      (if neg then -((oh * 3600 + om * 60 : Nat) : Int) else ((oh * 3600 + om * 60 : Nat) : Int)) < 86400 := by
    cases neg <;> simp only [Bool.false_eq_true, if_false, if_true] <;> omega
  generalize (if neg then -((oh * 3600 + om * 60 : Nat) : Int) else ((oh * 3600 + om * 60 : Nat) : Int)) = off at hto hob ⊢
  have hv : validOffset off = true := by simp only [validOffset, decide_eq_true hob.1, decide_eq_true hob.2]; rfl
  have hms : min s 59 ≤ 59 := by omega
  have hsub := subOffset_shift ⟨date, ⟨h * 3600 + mi * 60 + min s 59, (if s = 60 then 1000000000 else 0) + nano⟩⟩ off
    (yearInRange_near _ (by simp only [shiftNDT]; omega) (by simp only [shiftNDT]; omega))
  simp only [rfc3339Tail, hf, bind, Except.bind, hr, if_false, hto, ne_eq, not_true_eq_false, hv, Bool.not_true,
    Bool.false_eq_true, hsub]

theorem shortWeekday_3 (a b c : Char) (w : Nat) (r : Str) (h : weekday3 a b c = some w) :
    shortWeekday (a :: b :: c :: r) = .ok (r, w) := by
  have := utf8Size_pos a; have := utf8Size_pos b; have := utf8Size_pos c
  have h3 : ¬ utf8Len (a :: b :: c :: r) < 3 := by simp only [utf8Len]; omega
  simp [shortWeekday, h3, h]

theorem shortMonth0_3 (a b c : Char) (m : Nat) (r : Str) (h : month3 a b c = some m) :
    shortMonth0 (a :: b :: c :: r) = .ok (r, m) := by
  have := utf8Size_pos a; have := utf8Size_pos b; have := utf8Size_pos c
  have h3 : ¬ utf8Len (a :: b :: c :: r) < 3 := by simp only [utf8Len]; omega
  simp [shortMonth0, h3, h]

/-- the English day and month names are three characters, the first not white space, that the scanners map back -/
theorem weekdayName_chars : ∀ w, w < 7 →
    (match weekdayName w with | [a, b, c] => weekday3 a b c == some w && !isWs a | _ => false) = true := by decide
theorem monthName_chars : ∀ m, m < 13 → 1 ≤ m →
    (match monthName m with | [a, b, c] => month3 a b c == some (m - 1) && !isWs a | _ => false) = true := by decide

/-- the optional day-of-week part on a printed weekday name -/
theorem rfcDow_name (w : Nat) (hw : w < 7) (r : Str) (p : Parsed) :
    rfcDow (trimStart (weekdayName w ++ ',' :: r)) p = (p.setWeekday w).map fun p' => (r, p') := by
  have h := weekdayName_chars w hw
  split at h
  · rename_i a b c e
    simp only [Bool.and_eq_true, beq_iff_eq, Bool.not_eq_eq_eq_not, Bool.not_true] at h
    simp only [e, List.cons_append, List.nil_append, trimStart, List.dropWhile, h.2, rfcDow, shortWeekday_3 a b c w _ h.1]
  · cases h

theorem month_name (m : Nat) (h1 : 1 ≤ m) (h2 : m ≤ 12) (r : Str) :
    scanSpace (' ' :: (monthName m ++ r)) = .ok (monthName m ++ r) ∧ shortMonth0 (monthName m ++ r) = .ok (r, m - 1) := by
  have h := monthName_chars m (by omega) h1
  split at h
  · rename_i a b c e
    simp only [Bool.and_eq_true, beq_iff_eq, Bool.not_eq_eq_eq_not, Bool.not_true] at h
    simp only [e, List.cons_append, List.nil_append, scanSpace, (by decide : isWs ' ' = true), if_true, trimStart, List.dropWhile,
      h.2, shortMonth0_3 a b c (m - 1) r h.1, and_self]
  · cases h

/-- `day month year` on `D[D] Mon YYYY` followed by a space -/
theorem rfcDate_text (d m y : Nat) (hd1 : 1 ≤ d) (hd : d ≤ 31) (hm1 : 1 ≤ m) (hm : m ≤ 12) (hy : y < 10000) (r : Str)
    (p : Parsed) (pd : p.day = none) (pm : p.month = none) (py : p.year = none) :
    rfcDate (Nat.toDigits 10 d ++ ' ' :: (monthName m ++ ' ' ::
      (y / 1000).digitChar :: (y / 100 % 10).digitChar :: (y / 10 % 10).digitChar :: (y % 10).digitChar :: ' ' :: r)) p =
      .ok (' ' :: r, { p with day := some d, month := some m, year := some (y : Int) }) := by
  obtain ⟨hm1', hm2'⟩ := month_name m hm1 hm (' ' ::
      (y / 1000).digitChar :: (y / 100 % 10).digitChar :: (y / 10 % 10).digitChar :: (y % 10).digitChar :: ' ' :: r)
  have e1 : y / 1000 * 1000 + y / 100 % 10 * 100 + y / 10 % 10 * 10 + y % 10 = y := by omega
  have e2 : m - 1 + 1 = m := by omega
  have nY := number_4_stop _ _ _ _ (by omega : y / 1000 < 10) (by omega : y / 100 % 10 < 10) (by omega : y / 10 % 10 < 10)
      (by omega : y % 10 < 10) ' ' r (by decide) 2 noLimit (by omega) (by simp [noLimit])
  rw [e1] at nY
  have hlen : ((y / 1000).digitChar :: (y / 100 % 10).digitChar :: (y / 10 % 10).digitChar :: (y % 10).digitChar :: ' ' :: r).length -
      (' ' :: r).length = 4 := by simp
  simp only [rfcDate, bind, Except.bind, number_day d (by omega), setDay_eval p pd, hd1, hd, hm1, hm, and_self,
    if_true, hm1', hm2', e2, setMonth_eval { p with day := some d } pm, scanSpace_dc _ (by omega : y / 1000 < 10), nY, hlen,
    setYear_small { p with day := some d, month := some m } py y hy, pure, Except.pure,
    (by decide : ¬ (4 = 2)), (by decide : ¬ (4 = 3)), if_false]

theorem trimStart_colon (r : Str) : trimStart (':' :: r) = ':' :: r := by
  simp [trimStart, List.dropWhile, (by decide : isWs ':' = false)]

/-- `hour ":" minute ":" second` on `HH:MM:SS` followed by a space -/
theorem rfcTime_text (h mi s : Nat) (hh : h < 24) (hmi : mi < 60) (hs : s < 60) (r : Str)
    (p : Parsed) (p1 : p.hourDiv12 = none) (p2 : p.hourMod12 = none) (p3 : p.minute = none) (p4 : p.second = none) :
    rfcTime ((h / 10).digitChar :: (h % 10).digitChar :: ':' :: (mi / 10).digitChar :: (mi % 10).digitChar :: ':' ::
      (s / 10).digitChar :: (s % 10).digitChar :: ' ' :: r) p =
      .ok (' ' :: r, { p with hourDiv12 := some (h / 12), hourMod12 := some (h % 12), minute := some mi, second := some s }) := by
  have e4 : h / 10 * 10 + h % 10 = h := by omega
  have e5 : mi / 10 * 10 + mi % 10 = mi := by omega
  have e6 : s / 10 * 10 + s % 10 = s := by omega
  have hs' : s ≤ 60 := by omega
  simp only [rfcTime, bind, Except.bind, number_2 _ _ (by omega : h / 10 < 10) (by omega : h % 10 < 10) _ 2 (by omega), e4,
    setHour_eval p p1 p2, hh, if_true, trimStart_colon, scanChar, trimStart_dc _ (by omega : mi / 10 < 10),
    number_2 _ _ (by omega : mi / 10 < 10) (by omega : mi % 10 < 10) _ 2 (by omega), e5,
    setMinute_eval { p with hourDiv12 := some (h / 12), hourMod12 := some (h % 12) } p3, hmi,
    number_2 _ _ (by omega : s / 10 < 10) (by omega : s % 10 < 10) _ 2 (by omega), e6,
    setSecond_eval { p with hourDiv12 := some (h / 12), hourMod12 := some (h % 12), minute := some mi } p4, hs', Except.map]

end Slac.Time
