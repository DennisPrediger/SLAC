/-
  SlacProofs.F64Sci — `Float.ofScientific` (decimal → binary64) as a value-determined rounding.
  `rnd s A B` is core's rounding of the rational A/B: `roundWithAccuracy` of the fraction described with 1074 guard
  bits, which is enough for every double, so no side condition remains; any description of the same value that only
  drops bits is equal to it (`rwaFrac_eq_rnd`).
  All four code paths of core's `Float.ofScientific m s e` (fast: m < 2^53 ∧ e ≤ 22 via float mul/div with the
  table of exact powers of ten; slow: `Float.Model.ofScientific` via `UnpackedFloat.mul`/`div`) are such
  descriptions, hence
      `ofScientific m false e = rnd (m·10^e) 1`      `ofScientific m true q = rnd m (10^q)`   (q ≥ 1)
  (`sci_false`, `sci_true`).  Consequently the result depends only on the decimal VALUE.
-/
import SlacProofs.F64Rwa
import SlacProofs.F64Frac
import Mathlib.Tactic.Ring
set_option autoImplicit false
namespace Slac
namespace F64
open Float.Model Float.Model.UnpackedFloat

/-- with 53 significant bits in the integer part, rounding only drops bits -/
theorem tgt_ge (Q : Nat) (e : Int) (h : 2^52 ≤ Q) : e ≤ tgt Q e := by
  have := (Nat.le_log2 (by omega : Q ≠ 0)).2 h
  unfold tgt; omega

/-- core's rounding of the rational A/B ≥ 0 (B > 0), described with 1074 guard bits -/
def rnd (s : Sign) (A B : Nat) : UnpackedFloat := rwaFrac s (A * 2^1074) B (-1074)

/-- a description A'·2^e'/B' that only drops bits and has the value A/B (e' = u - v, A'·B·2^u = A·B'·2^v) rounds
    like A/B described with J ≥ 1074 guard bits -/
theorem rwaFrac_eq_guard (s : Sign) (A' B' : Nat) (e' : Int) (A B J u v : Nat) (hB' : 0 < B') (hB : 0 < B)
    (he : e' ≤ tgt (A' / B') e') (hJ : 1074 ≤ J) (huv : e' = (u : Int) - (v : Int))
    (hval : A' * B * 2^u = A * B' * 2^v) :
    rwaFrac s A' B' e' = rwaFrac s (A * 2^J) B (-(J : Int)) := by
  apply rwaFrac_congr s A' B' (A * 2^J) B e' (-(J : Int)) (-((J + v : Nat) : Int)) hB' hB he
    (by unfold tgt; omega) (by omega) (by omega)
  have h1 : (e' - -((J + v : Nat) : Int)).toNat = u + J := by omega
  have h2 : (-(J : Int) - -((J + v : Nat) : Int)).toNat = v := by omega
  rw [h1, h2, Nat.pow_add, ← Nat.mul_assoc, hval]
  ring

theorem rwaFrac_eq_rnd (s : Sign) (A' B' : Nat) (e' : Int) (A B u v : Nat) (hB' : 0 < B') (hB : 0 < B)
    (he : e' ≤ tgt (A' / B') e') (huv : e' = (u : Int) - (v : Int)) (hval : A' * B * 2^u = A * B' * 2^v) :
    rwaFrac s A' B' e' = rnd s A B :=
  rwaFrac_eq_guard s A' B' e' A B 1074 u v hB' hB he (Nat.le_refl _) huv hval

theorem rnd_eq_guard (s : Sign) (A B J : Nat) (hB : 0 < B) (hJ : 1074 ≤ J) :
    rwaFrac s (A * 2^J) B (-(J : Int)) = rnd s A B :=
  rwaFrac_eq_rnd s _ B _ A B 0 J hB hB (by unfold tgt; omega) (by omega) (by rw [Nat.pow_zero, Nat.mul_one]; ring)

theorem rnd_congr (s : Sign) (A B A' B' : Nat) (hB : 0 < B) (hB' : 0 < B') (h : A * B' = A' * B) :
    rnd s A B = rnd s A' B' :=
  rwaFrac_eq_guard s _ B _ A' B' 1074 0 1074 hB hB' (by unfold tgt; omega) (Nat.le_refl _) (by omega) (by
    rw [Nat.pow_zero, Nat.mul_one, ← h, Nat.mul_right_comm])

theorem table_size : Float.exactlyRepresentablePowersOfTen.size = 23 := by decide

/-- mantissa/exponent of the double 10^e (e ≤ 22: exact) -/
def mTen (e : Nat) : Nat :=
  if (10^e).log2 ≤ 52 then 10^e <<< (52 - (10^e).log2) else 10^e >>> ((10^e).log2 - 52)
def eTen (e : Nat) : Int := ((10^e).log2 : Int) - 52

theorem table_facts : ∀ (e : Nat) (h : e ≤ 22),
    decode (Float.exactlyRepresentablePowersOfTen[e]'(by rw [table_size]; omega)) = (mTen e, eTen e) ∧
    isFinite (Float.exactlyRepresentablePowersOfTen[e]'(by rw [table_size]; omega)) = true ∧
    isZero (Float.exactlyRepresentablePowersOfTen[e]'(by rw [table_size]; omega)) = false ∧
    signBit (Float.exactlyRepresentablePowersOfTen[e]'(by rw [table_size]; omega)) = false ∧
    mTen e * 2^(eTen e + 52).toNat = 10^e * 2^52 ∧ 2^52 ≤ mTen e ∧ mTen e < 2^53 ∧ -52 ≤ eTen e ∧ eTen e ≤ 21 := by
  decide +kernel

theorem mul_finite (s1 s2 : Sign) (m1 m2 : Nat) (e1 e2 : Int) (h1 : 0 < m1) (h2 : 0 < m2) :
    UnpackedFloat.mul B64 (.finite s1 m1 e1 h1) (.finite s2 m2 e2 h2) = rwaFrac (s1 * s2) (m1 * m2) 1 (e1 + e2) := by
  rw [rwaFrac_one]; rfl

/-- exponent chosen by `divCore` -/
def teDiv (m1 : Nat) (e1 : Int) (m2 : Nat) (e2 : Int) : Int :=
  min (e1 - e2) (max ((m1.log2 : Int) + 1 + e1 - ((m2.log2 : Int) + 1 + e2) - 53) (-1074))

theorem div_finite (s1 s2 : Sign) (m1 m2 : Nat) (e1 e2 : Int) (h1 : 0 < m1) (h2 : 0 < m2) :
    UnpackedFloat.div B64 (.finite s1 m1 e1 h1) (.finite s2 m2 e2 h2) =
      rwaFrac (s1 / s2) (m1 * 2^(e1 - e2 - teDiv m1 e1 m2 e2).toNat) m2 (teDiv m1 e1 m2 e2) := by
  have hte : min (e1 - e2) (B64.targetExponent (totalExponent m1 e1 - totalExponent m2 e2)) = teDiv m1 e1 m2 e2 := by
    unfold teDiv Format.targetExponent totalExponent
    have h1 : (B64.mantissaBits : Int) = 53 := by decide
    have h2 : B64.minExponent = -1074 := by decide
    rw [h1, h2]
  simp only [UnpackedFloat.div, divCore, hte, Nat.shiftLeft_eq]
  rfl

theorem div_bits (m1 m2 : Nat) (e1 e2 : Int) (h1 : 0 < m1) (h2 : 0 < m2) :
    teDiv m1 e1 m2 e2 ≤
      tgt (m1 * 2^(e1 - e2 - teDiv m1 e1 m2 e2).toNat / m2) (teDiv m1 e1 m2 e2) := by
  generalize hte : teDiv m1 e1 m2 e2 = te
  by_cases hlow : te ≤ -1074
  · unfold tgt; omega
  · apply tgt_ge
    have hL1 : 2^m1.log2 ≤ m1 := Nat.log2_self_le (by omega)
    have hL2 : m2 < 2^(m2.log2 + 1) := Nat.lt_log2_self
    generalize hsh : (e1 - e2 - te).toNat = sh
    have hsum : m2.log2 + 53 ≤ m1.log2 + sh := by unfold teDiv at hte; omega
    rw [Nat.le_div_iff_mul_le h2]
    calc 2^52 * m2 ≤ 2^52 * 2^(m2.log2 + 1) := Nat.mul_le_mul_left _ (Nat.le_of_lt hL2)
      _ = 2^(m2.log2 + 53) := by rw [← Nat.pow_add]; congr 1; omega
      _ ≤ 2^(m1.log2 + sh) := Nat.pow_le_pow_right (by decide) hsum
      _ = 2^m1.log2 * 2^sh := Nat.pow_add _ _ _
      _ ≤ m1 * 2^sh := Nat.mul_le_mul_right _ hL1

/-- slow path, non-negative decimal exponent -/
theorem model_sci_nonneg (m e : Nat) (hm : 0 < m) (he : e ≤ 2048) :
    UnpackedFloat.ofScientific B64 m (e : Int) = rnd .positive (m * 10^e) 1 := by
  unfold UnpackedFloat.ofScientific
  have h2048 : (2 : Int) ^ B64.exponentBits = 2048 := by decide
  rw [dif_neg (by omega), if_neg (by rw [h2048]; omega), if_neg (by rw [h2048]; omega), if_pos (by omega), mul_finite]
  have hA : m <<< B64.mantissaBits * 10 ^ (e : Int).toNat = m * 10^e * 2^53 := by
    rw [Nat.shiftLeft_eq, Int.toNat_natCast]
    show m * 2^53 * 10^e = _
    ring
  have hE : (-(B64.mantissaBits : Int) + 0) = -53 := by decide
  rw [hA, hE]
  have hpos : 0 < m * 10^e := Nat.mul_pos hm (Nat.pow_pos (by decide))
  refine rwaFrac_eq_rnd _ _ 1 _ _ 1 0 53 (by decide) (by decide) (tgt_ge _ _ ?_) (by omega) (by ring)
  rw [Nat.div_one]
  calc 2^52 ≤ 1 * 2^53 := by decide
    _ ≤ m * 10^e * 2^53 := Nat.mul_le_mul_right _ hpos

theorem pow_eq_of_exp_eq (a b : Nat) (h : a = b) : (2:Nat)^a = 2^b := by rw [h]

/-- slow path, negative decimal exponent -/
theorem model_sci_neg (m q : Nat) (hm : 0 < m) (hq1 : 1 ≤ q) (hq : q ≤ 2048 + m.log2) :
    UnpackedFloat.ofScientific B64 m (-(q : Int)) = rnd .positive m (10^q) := by
  unfold UnpackedFloat.ofScientific
  have h2048 : (2 : Int) ^ B64.exponentBits = 2048 := by decide
  rw [dif_neg (by omega), if_neg (by rw [h2048]; omega), if_neg (by rw [h2048]; omega), if_neg (by omega)]
  have hq' : (-(-(q : Int))).toNat = q := by omega
  rw [div_finite, hq']
  have hpos : 0 < 10^q := Nat.pow_pos (by decide)
  have hb := div_bits m (10^q) 0 0 hm hpos
  have hte0 : teDiv m 0 (10^q) 0 ≤ 0 := by unfold teDiv; omega
  generalize teDiv m 0 (10^q) 0 = te at hb hte0 ⊢
  -- the quotient is computed with sh = -te extra bits
  generalize hsh : (0 - 0 - te).toNat = sh at hb ⊢
  exact rwaFrac_eq_rnd _ _ _ _ _ _ 0 sh hpos hpos hb (by omega) (by ring)

theorem finite_congr (s : Sign) (m m' : Nat) (e e' : Int) (h : 0 < m) (h' : 0 < m') (hm : m = m') (he : e = e') :
    UnpackedFloat.finite s m e h = UnpackedFloat.finite s m' e' h' := by
  subst hm; subst he; rfl

theorem unpack_toFloat (m : Nat) (h0 : 0 < m) (h : m < 2^53) :
    ∃ (L : Nat) (hp : 0 < m * 2^(52 - L)), L ≤ 52 ∧ 2^52 ≤ m * 2^(52 - L) ∧
      (m.toUInt64.toFloat).toModel.unpack = .finite .positive (m * 2^(52 - L)) ((L : Int) - 52) hp := by
  have hc := canon_ofNat m h0 h
  have hm0 : m ≠ 0 := by omega
  have hL : m.log2 < 53 := (Nat.log2_lt hm0).2 h
  have hm1 : 2^52 ≤ m * 2^(52 - m.log2) := by
    have := log2_mul_two_pow m (52 - m.log2) hm0
    exact (Nat.le_log2 (by have := hc.pos; omega)).1 (by omega)
  refine ⟨m.log2, hc.pos, by omega, hm1, ?_⟩
  rw [toFloat_ofNat m h0 h, unpack_mkF _ _ _ hc]

theorem unpack_of_decode (t : Float) (M : Nat) (E : Int) (hd : decode t = (M, E)) (hf : isFinite t = true)
    (hz : isZero t = false) (hs : signBit t = false) :
    ∃ hc : Canon M E, t.toModel.unpack = .finite .positive M E hc.pos := by
  obtain ⟨s, m, ex, hc, rfl⟩ := exists_mkF t hf hz
  rw [decode_mkF s m ex hc] at hd
  obtain ⟨rfl, rfl⟩ := Prod.mk.inj hd
  rw [signBit_mkF s _ _ hc] at hs
  have hsp : s = .positive := by cases s <;> simp_all [sbit]
  subst hsp
  exact ⟨hc, unpack_mkF _ _ _ hc⟩

theorem unpack_table (e : Nat) (h : e ≤ 22) :
    ∃ (M E' : Nat) (hp : 0 < M), 2^52 ≤ M ∧ M * 2^E' = 10^e * 2^52 ∧
      (Float.exactlyRepresentablePowersOfTen[e]'(by rw [table_size]; omega)).toModel.unpack =
        .finite .positive M ((E' : Int) - 52) hp := by
  obtain ⟨hd, hf, hz, hs, hval, h52, _, hlo, _⟩ := table_facts e h
  obtain ⟨hc, ht⟩ := unpack_of_decode _ _ _ hd hf hz hs
  exact ⟨mTen e, (eTen e + 52).toNat, hc.pos, h52, hval, ht.trans (finite_congr _ _ _ _ _ _ _ rfl (by omega))⟩

/-- fast path, multiplication: m·10^e with m < 2^53, e ≤ 22 -/
theorem fast_mul (m e : Nat) (hm : 0 < m) (h53 : m < 2^53) (he : e ≤ 22) :
    UnpackedFloat.mul B64 (m.toUInt64.toFloat).toModel.unpack
      (Float.exactlyRepresentablePowersOfTen[e]'(by rw [table_size]; omega)).toModel.unpack =
      rnd .positive (m * 10^e) 1 := by
  obtain ⟨L, _, hL, hm1, hu⟩ := unpack_toFloat m hm h53
  obtain ⟨M, E', _, h52, hval, ht⟩ := unpack_table e he
  rw [hu, ht, mul_finite]
  have h2 : 2^(52 - L) * 2^L = 2^52 := by rw [← Nat.pow_add]; congr 1; omega
  -- (m·2^(52-L)·M)·2^(L-52+E'-52) = m·10^e
  refine rwaFrac_eq_rnd _ _ 1 _ _ 1 (L + E') 104 (by decide) (by decide) (tgt_ge _ _ ?_) (by omega) ?_
  · rw [Nat.div_one]
    calc 2^52 = 2^52 * 1 := by decide
      _ ≤ m * 2^(52 - L) * M := Nat.mul_le_mul hm1 (by omega)
  · calc m * 2^(52 - L) * M * 1 * 2^(L + E') = m * (M * 2^E') * (2^(52 - L) * 2^L) := by ring
      _ = m * 10^e * 1 * 2^104 := by rw [hval, h2]; ring

/-- fast path, division: m/10^q with m < 2^53, q ≤ 22 -/
theorem fast_div (m q : Nat) (hm : 0 < m) (h53 : m < 2^53) (hq : q ≤ 22) :
    UnpackedFloat.div B64 (m.toUInt64.toFloat).toModel.unpack
      (Float.exactlyRepresentablePowersOfTen[q]'(by rw [table_size]; omega)).toModel.unpack =
      rnd .positive m (10^q) := by
  obtain ⟨L, hm1, hL, _, hu⟩ := unpack_toFloat m hm h53
  obtain ⟨M, E', hMpos, _, hval, ht⟩ := unpack_table q hq
  rw [hu, ht, div_finite]
  have hb := div_bits (m * 2^(52 - L)) M ((L : Int) - 52) ((E' : Int) - 52) hm1 hMpos
  have hte0 : teDiv (m * 2^(52 - L)) ((L : Int) - 52) M ((E' : Int) - 52) ≤ (L : Int) - 52 - ((E' : Int) - 52) := by
    unfold teDiv; omega
  generalize teDiv (m * 2^(52 - L)) ((L : Int) - 52) M ((E' : Int) - 52) = te at hb hte0 ⊢
  -- the quotient is computed with sh extra bits: te = L - E' - sh
  generalize hsh : ((L : Int) - 52 - ((E' : Int) - 52) - te).toNat = sh at hb ⊢
  have h2 : 2^(52 - L) * 2^L = 2^52 := by rw [← Nat.pow_add]; congr 1; omega
  refine rwaFrac_eq_rnd _ _ _ _ _ _ L (sh + E') hMpos (Nat.pow_pos (by decide)) hb (by omega) ?_
  calc m * 2^(52 - L) * 2^sh * 10^q * 2^L = m * (10^q * 2^52) * 2^sh := by rw [← h2]; ring
    _ = m * M * 2^(sh + E') := by rw [← hval]; ring

/-- `Float.ofScientific m false e` (= m·10^e) is the model's rounding of the integer m·10^e — both code paths -/
theorem sci_false (m e : Nat) (hm : 0 < m) (he : e ≤ 2048) :
    Float.ofScientific m false e = Float.ofModel (Float.Model.pack (rnd .positive (m * 10^e) 1)) := by
  unfold Float.ofScientific
  by_cases h : m < 2^53 ∧ e ≤ 22
  · rw [dif_pos h]
    simp only [Bool.false_eq_true, if_false]
    show Float.mul _ _ = _
    unfold Float.mul
    show Float.ofModel (Float.Model.mul _ _) = _
    unfold Float.Model.mul
    rw [fast_mul m e hm h.1 h.2]
  · rw [dif_neg h]
    simp only [Bool.false_eq_true, if_false]
    unfold Float.Model.ofScientific
    rw [show Int.ofNat e = (e : Int) from rfl, model_sci_nonneg m e hm he]

/-- `Float.ofScientific m true q` (= m/10^q, q ≥ 1) is the model's rounding of that fraction — both code paths -/
theorem sci_true (m q : Nat) (hm : 0 < m) (hq1 : 1 ≤ q) (hq : q ≤ 2048 + m.log2) :
    Float.ofScientific m true q = Float.ofModel (Float.Model.pack (rnd .positive m (10^q))) := by
  unfold Float.ofScientific
  by_cases h : m < 2^53 ∧ q ≤ 22
  · rw [dif_pos h]
    simp only [if_true]
    show Float.div _ _ = _
    unfold Float.div
    show Float.ofModel (Float.Model.div _ _) = _
    unfold Float.Model.div
    rw [fast_div m q hm h.1 h.2]
  · rw [dif_neg h]
    simp only [if_true]
    unfold Float.Model.ofScientific
    have : Int.negOfNat q = -(q : Int) := by cases q <;> rfl
    rw [this, model_sci_neg m q hm hq1 hq]

end F64
end Slac
