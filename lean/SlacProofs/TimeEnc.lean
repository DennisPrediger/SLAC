/-
  SlacProofs.TimeEnc — `encode_date`, `encode_time`, `inc_month` and `date + time` evaluated on `ofInt`/`ofNat`
  arguments down to the Int/Nat model (the unfolding equations of the builtins first).
-/
import SlacProofs.TimeNum
set_option autoImplicit false
namespace Slac.Time
open Stdlib

section
variable {N : Type} [NumX N]

theorem encodeDate_nums (y m d : N) :
    encodeDate [.num y, .num m, .num d] =
      if validDate (NumX.toI32 y) (NumX.toU32 m) (NumX.toU32 d) then
        .ok (encode ⟨daysFromCivil (NumX.toI32 y) (NumX.toU32 m) (NumX.toU32 d), 0⟩)
      else .error (custom "invalid date parameters") := by unfold encodeDate; rfl

theorem encodeTime_nums (h m s milli : N) (rest : List (Value N))
    (hd : defaultNumber (.num h :: .num m :: .num s :: rest) 3 (NumOps.zero : N) = .ok milli) :
    encodeTime (.num h :: .num m :: .num s :: rest) =
      if NumX.ge0 h && NumX.ge0 m && NumX.ge0 s && NumX.ge0 milli then
        if validTime (NumX.toU32 h) (NumX.toU32 m) (NumX.toU32 s) (NumX.toU32 milli) then
          .ok (.num (NumOps.div (NumX.ofInt (((NumX.toU32 h * 3600 + NumX.toU32 m * 60 + NumX.toU32 s) * 1000
            + NumX.toU32 milli : Nat) : Int)) dayLen))
        else .error (custom "invalid time parameters")
      else .error (custom "invalid time parameters") := by
  unfold encodeTime; rw [hd]

theorem incMonth_two (v : Value N) (inc : N) :
    incMonth [v, .num inc] =
      match decode v with
      | .error e => .error e
      | .ok t =>
        if NumX.gt0 inc then
          match addMonths t ((NumX.toI32 inc).natAbs : Int) with
          | some t' => .ok (encode t')
          | none => .error (custom "inc_month increment overflow")
        else if NumX.lt0 inc then
          match addMonths t (-((NumX.toI32 inc).natAbs : Int)) with
          | some t' => .ok (encode t')
          | none => .error (custom "inc_month decrement underflow")
        else .ok (encode t) := by unfold incMonth; rfl

theorem incMonth_one (v : Value N) : incMonth [v] = incMonth [v, .num (NumOps.ofBool true)] := by
  unfold incMonth; rfl

end

variable {N : Type} [NumX N] [LawfulTimeNum N]

theorem encodeDate_ofInt (y : Int) (m d : Nat) (hy1 : -2147483648 ≤ y) (hy2 : y < 2147483648)
    (hm : m < 4294967296) (hd : d < 4294967296) :
    encodeDate [(.num (NumX.ofInt y) : Value N), .num (NumX.ofNat m), .num (NumX.ofNat d)] =
      if validDate y m d then .ok (encode ⟨daysFromCivil y m d, 0⟩)
      else .error (custom "invalid date parameters") := by
  rw [encodeDate_nums, LawfulTimeNum.toI32_ofInt y hy1 hy2, LawfulTimeNum.toU32_ofNat m hm,
    LawfulTimeNum.toU32_ofNat d hd]

/-- `encode_time` on natural numbers; `ml` is the fourth argument or the default 0 -/
theorem encodeTime_ofNat (h mi s ml : Nat) (hh : h < 4294967296) (hmi : mi < 4294967296) (hs : s < 4294967296)
    (hml : ml < 4294967296) (rest : List (Value N))
    (hd : defaultNumber (.num (NumX.ofNat h) :: .num (NumX.ofNat mi) :: .num (NumX.ofNat s) :: rest) 3 (NumOps.zero : N)
      = .ok (NumX.ofNat ml)) :
    encodeTime ((.num (NumX.ofNat h) : Value N) :: .num (NumX.ofNat mi) :: .num (NumX.ofNat s) :: rest) =
      if validTime h mi s ml then .ok (encode ⟨0, ((h * 60 + mi) * 60 + s) * 1000 + ml⟩)
      else .error (custom "invalid time parameters") := by
  rw [encodeTime_nums _ _ _ _ rest hd, ge0_ofNat h hh, ge0_ofNat mi hmi, ge0_ofNat s hs, ge0_ofNat ml hml,
    LawfulTimeNum.toU32_ofNat h hh, LawfulTimeNum.toU32_ofNat mi hmi, LawfulTimeNum.toU32_ofNat s hs,
    LawfulTimeNum.toU32_ofNat ml hml]
  simp only [Bool.and_self, if_true, encode, totalMs_zero_days, hms_millis]

theorem encodeTime_negative (h mi s ml : Int)
    (bh : -4294967296 ≤ h ∧ h ≤ 4294967296) (bmi : -4294967296 ≤ mi ∧ mi ≤ 4294967296)
    (bs : -4294967296 ≤ s ∧ s ≤ 4294967296) (bml : -4294967296 ≤ ml ∧ ml ≤ 4294967296)
    (hneg : h < 0 ∨ mi < 0 ∨ s < 0 ∨ ml < 0) :
    encodeTime [(.num (NumX.ofInt h) : Value N), .num (NumX.ofInt mi), .num (NumX.ofInt s), .num (NumX.ofInt ml)] =
      .error (custom "invalid time parameters") := by
  rw [encodeTime_nums (NumX.ofInt h) (NumX.ofInt mi) (NumX.ofInt s) (NumX.ofInt ml) [_] rfl,
    (sign_ofInt h bh.1 bh.2).1, (sign_ofInt mi bmi.1 bmi.2).1, (sign_ofInt s bs.1 bs.2).1,
    (sign_ofInt ml bml.1 bml.2).1]
  have : (decide (0 ≤ h) && decide (0 ≤ mi) && decide (0 ≤ s) && decide (0 ≤ ml)) = false := by
    simp only [Bool.and_eq_false_iff, decide_eq_false_iff_not]
    omega
  rw [this]; rfl

/-- `inc_month(x, k)` is `addMonths` on the decoded date-time (whole calendar months, clamped day, same time
    of day); the error names the direction -/
theorem incMonth_encode (t : DT) (h : t.Enc) (k : Int) (hk1 : -2147483648 ≤ k) (hk2 : k < 2147483648) :
    incMonth [(encode t : Value N), .num (NumX.ofInt k)] =
      match addMonths t k with
      | some t' => .ok (encode t')
      | none => .error (custom (if 0 < k then "inc_month increment overflow" else "inc_month decrement underflow")) := by
  rw [incMonth_two, decode_encode t h]
  obtain ⟨_, hgt, hlt⟩ := sign_ofInt (N := N) k (by omega) (by omega)
  simp only [LawfulTimeNum.toI32_ofInt k hk1 hk2, hgt, hlt]
  by_cases hpos : 0 < k
  · have e : ((k.natAbs : Nat) : Int) = k := by omega
    simp only [hpos, decide_true, if_true, e]
  · by_cases hneg : k < 0
    · have e : -((k.natAbs : Nat) : Int) = k := by omega
      simp only [hpos, hneg, decide_false, decide_true, if_true, if_false, e, Bool.false_eq_true]
    · have e : k = 0 := by omega
      subst e
      simp only [decide_false, if_false, Bool.false_eq_true, Int.lt_irrefl]
      rw [addMonths_zero t h.year_range]

theorem incMonth_default (v : Value N) : incMonth [v] = incMonth [v, .num (NumX.ofInt 1)] := by
  rw [incMonth_one, LawfulTimeNum.one_eq, ← LawfulTimeNum.ofInt_natCast 1]; rfl

/-- `date` is `trunc` and `time` is `frac` (SlacModel.Registry); their sum is the date-time number itself -/
theorem date_plus_time (t : DT) (ht : t.Enc) (a b : Value N)
    (ha : num1 NumOps.trunc [(encode t : Value N)] = .ok a) (hb : num1 NumX.fract [(encode t : Value N)] = .ok b) :
    Value.add a b = .ok (encode t) := by
  simp only [num1, encode] at ha hb
  cases ha; cases hb
  simp only [Value.add, encode, LawfulTimeNum.trunc_add_fract t.totalMs ht.2.1 ht.2.2]

end Slac.Time
