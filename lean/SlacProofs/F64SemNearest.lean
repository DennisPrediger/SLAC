/-
  SlacProofs.F64SemNearest — `Float.ofScientific` yields the NEAREST double: the ingredients of SlacProofs.F64SemNear
  put together.
  * `NearestDouble cn cd x`: x is the double nearest to the rational cn/cd ≥ 0 — no finite double is closer (distances
    compared exactly, in units of 2^-1074 and multiplied by cd), a tie goes to the even mantissa, and from the rounding
    threshold 2^1024 - 2^970 on the result is +inf;
  * `rwa_pack`: the packed result of core's rounding (`rwa_shape_units`) as a double (`PackedAs`): +inf, or finite
    with value `rneFrac (cn·2^1074) (cd·2^t) · 2^t` units;
  * `nearest_of_rnd`: core's rounding `rnd cn cd` of cn/cd is `NearestDouble cn cd`;
  * `sci_nearest_int`, `sci_nearest_frac`: `Float.ofScientific m false 0` is nearest to m, `Float.ofScientific m true q`
    is nearest to m / 10^q — for EVERY m and q (zero mantissa and the "safety check" branch q > 2048 + log2 m included).
-/
import SlacProofs.F64SemNear
set_option autoImplicit false
namespace Slac
namespace F64
open Float.Model Float.Model.UnpackedFloat

/-- `x` is the double nearest to the rational `cn / cd ≥ 0` (cd > 0): IEEE-754 round-to-nearest, ties-to-even,
    overflow to +inf.  Distances |y - cn/cd| are compared exactly: multiplied by cd·2^1074 they are the integers
    |units y · cd - cn·2^1074|  (`units y` = y in units of 2^-1074). -/
structure NearestDouble (cn cd : Nat) (x : Float) : Prop where
  /-- at or above 2^1024 - 2^970 (the midpoint between the largest double and 2^1024): +inf -/
  overflow : (2^1024 - 2^970) * cd ≤ cn → x = inf
  /-- below it: a finite double with sign bit 0 -/
  finite : cn < (2^1024 - 2^970) * cd → isFinite x = true ∧ signBit x = false
  /-- no finite double (of either sign) is closer to cn/cd than x -/
  nearest : isFinite x = true → ∀ y, isFinite y = true →
    (units x * cd - cn * 2^1074).natAbs ≤ (units y * cd - cn * 2^1074).natAbs
  /-- if a different value is equally close, x is the one with the even mantissa -/
  ties_even : isFinite x = true → ∀ y, isFinite y = true → units y ≠ units x →
    (units y * cd - cn * 2^1074).natAbs = (units x * cd - cn * 2^1074).natAbs → (decode x).1 % 2 = 0

theorem bits_inf : bits inf = 0x7FF0000000000000 := by decide +kernel

theorem pack_overflow (m : Nat) (e : Int) (hm : 0 < m) (he : 972 ≤ e) :
    Float.ofModel (Float.Model.pack (.finite .positive m e hm)) = inf := by
  apply eq_of_bits_eq
  rw [bits_ofModel_pack, bits_inf]
  simp only [packN]
  rw [if_pos (by omega)]
  rfl

theorem mkF_def (s : Sign) (m : Nat) (e : Int) (hm : 0 < m) :
    Float.ofModel (Float.Model.pack (.finite s m e hm)) = mkF s m e hm := rfl

/-- what a packed rounding X of K/cd (K in units of 2^-1074) in the binade with unit 2^t is, with r =
    `rneFrac K (cd·2^t)` the rounded mantissa: +inf beyond the largest binade t = 2045 or when r reaches 2^53 there,
    else the finite double of sign bit 0 with r·2^t units -/
def PackedAs (K cd t : Nat) (X : Float) : Prop :=
  (X = inf ∧ (2046 ≤ t ∨ (t = 2045 ∧ rneFrac K (cd * 2^t) = 2^53))) ∨
  (isFinite X = true ∧ signBit X = false ∧ unitsN X = rneFrac K (cd * 2^t) * 2^t ∧
    ((decode X).1 = rneFrac K (cd * 2^t) ∨ (decode X).1 = 2^52 ∨ (decode X).1 = 0) ∧
    (t ≤ 2044 ∨ (t = 2045 ∧ rneFrac K (cd * 2^t) < 2^53)))

/-- the packed result of `rwa_shape_units` -/
theorem rwa_pack (cn cd : Nat) (hcd : 0 < cd) :
    ∃ t : Nat,
      (t = 0 ∨ 2^52 * (cd * 2^t) ≤ cn * 2^1074) ∧ cn * 2^1074 < 2^53 * (cd * 2^t) ∧
      PackedAs (cn * 2^1074) cd t (Float.ofModel (Float.Model.pack (rnd .positive cn cd))) := by
  generalize hX : Float.ofModel (Float.Model.pack (rnd .positive cn cd)) = X
  replace hX := hX.symm
  unfold PackedAs
  obtain ⟨t, hlow, hup, hz, hf, h53, hrle, hrge⟩ := rwa_shape_units (cn * 2^1074) cd hcd
  unfold rnd at hX
  refine ⟨t, hlow, hup, ?_⟩
  generalize rneFrac (cn * 2^1074) (cd * 2^t) = r at *
  have hsp : decide (sbit Sign.positive = 1) = false := by decide
  by_cases h0 : r = 0
  · right
    rw [hz h0] at hX
    have hXz : X = zeroF .positive := hX
    have ht0 : t = 0 := by by_contra h; have := hrge h; omega
    rw [hXz, isFinite_zeroF, signBit_zeroF, unitsN_zeroF, decode_of_isZero _ (isZero_zeroF _), h0]
    exact ⟨rfl, hsp, by simp, Or.inr (Or.inr rfl), Or.inl (by omega)⟩
  · by_cases h53' : r = 2^53
    · rw [h53 h53'] at hX
      by_cases ht : t ≤ 2044
      · right
        have hc : Canon (2^52) ((t:Int) - 1073) := Canon.of_normal (by decide) (by decide) (by omega) (by omega)
        rw [mkF_def] at hX
        have he : (((t:Int) - 1073) + 1074).toNat = t + 1 := by omega
        rw [hX, isFinite_mkF _ _ _ hc, signBit_mkF _ _ _ hc, unitsN_mkF _ _ _ hc, decode_mkF _ _ _ hc, he, h53']
        refine ⟨rfl, hsp, ?_, Or.inr (Or.inl rfl), Or.inl ht⟩
        rw [show (2:Nat)^(t + 1) = 2^t * 2 from by rw [Nat.pow_succ], show (2:Nat)^53 = 2^52 * 2 from by decide]; ac_rfl
      · left
        rw [pack_overflow _ _ _ (by omega)] at hX
        exact ⟨hX, by omega⟩
    · have hpos : 0 < r := by omega
      have hlt : r < 2^53 := by omega
      rw [hf hpos hlt] at hX
      by_cases ht : t ≤ 2045
      · right
        have he : (((t:Int) - 1074) + 1074).toNat = t := by omega
        have hc : Canon r ((t:Int) - 1074) := by
          by_cases h52 : 2^52 ≤ r
          · exact Canon.of_normal h52 hlt (by omega) (by omega)
          · have ht0 : t = 0 := by by_contra h; have := hrge h; omega
            have : ((t:Int) - 1074) = -1074 := by omega
            rw [this]; exact Canon.of_subnormal hpos (by omega)
        rw [mkF_def] at hX
        rw [hX, isFinite_mkF _ _ _ hc, signBit_mkF _ _ _ hc, unitsN_mkF _ _ _ hc, decode_mkF _ _ _ hc, he]
        exact ⟨rfl, hsp, rfl, Or.inl rfl, by omega⟩
      · left
        rw [pack_overflow _ _ _ (by omega)] at hX
        exact ⟨hX, Or.inl (by omega)⟩

/-- the distance |y·cd - K| for a double y with magnitude u units -/
theorem dist_units (y : Float) (cd K : Nat) :
    (units y * (cd : Int) - (K : Int)).natAbs =
      if signBit y then unitsN y * cd + K else ndist (unitsN y * cd) K := by
  unfold units
  cases signBit y
  · simp only [Bool.false_eq_true, if_false]
    rw [← Int.natCast_mul]; unfold ndist; omega
  · simp only [if_true]
    rw [Int.neg_mul, ← Int.natCast_mul]; omega

/-- the four clauses of `NearestDouble` with the value K (= cn·2^1074) and the threshold scale W (= cd·2^2044)
    as variables: the rounding threshold 2^1024 - 2^970 is (2^54 - 1)·W; `hW1`–`hW3` say where the binade unit
    cd·2^t lies against W (2044 = 1074 + 970: the largest binade, t = 2045, has unit 2·W) -/
theorem nearest_abstract (cd t K W : Nat) (X : Float) (hcd : 0 < cd)
    (hlow : t = 0 ∨ 2^52 * (cd * 2^t) ≤ K) (hup : K < 2^53 * (cd * 2^t))
    (hW1 : t ≤ 2044 → cd * 2^t ≤ W) (hW2 : t = 2045 → cd * 2^t = 2 * W) (hW3 : 2046 ≤ t → W * 4 ≤ cd * 2^t)
    (hcases : PackedAs K cd t X) :
    ((2^54 - 1) * W ≤ K → X = inf) ∧
    (K < (2^54 - 1) * W → isFinite X = true ∧ signBit X = false) ∧
    (isFinite X = true → ∀ y, isFinite y = true →
      (units X * (cd : Int) - (K : Int)).natAbs ≤ (units y * (cd : Int) - (K : Int)).natAbs) ∧
    (isFinite X = true → ∀ y, isFinite y = true → units y ≠ units X →
      (units y * (cd : Int) - (K : Int)).natAbs = (units X * (cd : Int) - (K : Int)).natAbs → (decode X).1 % 2 = 0) := by
  have hBpos : 0 < cd * 2^t := Nat.mul_pos hcd (Nat.two_pow_pos t)
  obtain ⟨b1, b2, b3⟩ := rne_bounds K (cd * 2^t) hBpos
  have hgrid := fun u hu => grid_nearest K cd t u hcd hlow hu
  have hfin_lt : (t ≤ 2044 ∨ (t = 2045 ∧ rneFrac K (cd * 2^t) < 2^53)) → K < (2^54 - 1) * W := by
    rintro (ht | ⟨ht, hr⟩)
    · have := hW1 ht; omega
    · rw [hW2 ht] at b2 b3 hr
      -- r ≤ 2^53 - 1, and an odd r is strictly within half a unit
      by_cases hodd : rneFrac K (2 * W) = 2^53 - 1
      · have := (b3 (by rw [hodd]; decide)).2
        rw [hodd] at this; omega
      · have hle : rneFrac K (2 * W) * (2 * W) ≤ (2^53 - 2) * (2 * W) := Nat.mul_le_mul_right _ (by omega)
        generalize rneFrac K (2 * W) * (2 * W) = RB at *
        omega
  have hinf_ge : (2046 ≤ t ∨ (t = 2045 ∧ rneFrac K (cd * 2^t) = 2^53)) → (2^54 - 1) * W ≤ K := by
    rintro (ht | ⟨ht, hr⟩)
    · have h1 : 2^52 * (cd * 2^t) ≤ K := by rcases hlow with h | h; omega; exact h
      have := hW3 ht; omega
    · rw [hr, hW2 ht] at b1
      omega
  rcases hcases with ⟨hinf, hc⟩ | ⟨hfin, hsign, hun, hdec, hc⟩
  · have hXnf : isFinite X = false := by rw [hinf]; decide +kernel
    refine ⟨fun _ => hinf, fun hlt => ?_, fun h => ?_, fun h => ?_⟩
    · have := hinf_ge hc; omega
    · rw [hXnf] at h; cases h
    · rw [hXnf] at h; cases h
  · have hlt := hfin_lt hc
    have hdx : (units X * (cd : Int) - (K : Int)).natAbs = ndist (rneFrac K (cd * 2^t) * 2^t * cd) K := by
      rw [dist_units, hsign, hun]; rfl
    have hzero_le : ndist (rneFrac K (cd * 2^t) * 2^t * cd) K ≤ K := by
      have := (hgrid 0 (Or.inl (Nat.dvd_zero _))).1
      unfold ndist at this ⊢; omega
    refine ⟨fun hge => by omega, fun _ => ⟨hfin, hsign⟩, fun _ y hy => ?_, fun _ y hy hne he => ?_⟩
    · rw [hdx, dist_units]
      cases hs : signBit y
      · exact (hgrid _ (units_grid y hy t)).1
      · simp only [if_true]; omega
    · rw [hdx, dist_units] at he
      have hr_even : rneFrac K (cd * 2^t) % 2 = 0 := by
        cases hs : signBit y
        · rw [hs] at he
          refine (hgrid _ (units_grid y hy t)).2 ?_ he
          intro hcon
          apply hne
          unfold units; rw [hs, hsign, hun, hcon]
        · rw [hs] at he
          simp only [if_true] at he
          have hy0 : unitsN y * cd = 0 := by omega
          have hu0 : unitsN y = 0 := by
            rcases Nat.eq_zero_or_pos (unitsN y) with h | h
            · exact h
            · have := Nat.mul_pos h hcd; omega
          refine (hgrid 0 (Or.inl (Nat.dvd_zero _))).2 ?_ (by unfold ndist at he ⊢; omega)
          intro hcon
          apply hne
          unfold units; rw [hs, hsign, hun, hu0, ← hcon]; rfl
      rcases hdec with h | h | h
      · rw [h]; exact hr_even
      · rw [h]; decide
      · rw [h]

theorem thr_eq : 2^1024 - 2^970 = (2^54 - 1) * 2^970 := by decide +kernel

set_option exponentiation.threshold 2100 in
theorem thr_units (cn cd : Nat) :
    ((2^1024 - 2^970) * cd ≤ cn ↔ (2^54 - 1) * (cd * 2^2044) ≤ cn * 2^1074) := by
  have h1 : ∀ a b c d : Nat, a * b * c * d = a * (c * (b * d)) := fun a b c d => by ac_rfl
  have hW : (2^1024 - 2^970) * cd * 2^1074 = (2^54 - 1) * (cd * 2^2044) := by
    rw [thr_eq, h1, ← Nat.pow_add]
  rw [← hW]
  exact ⟨fun h => Nat.mul_le_mul_right _ h, fun h => Nat.le_of_mul_le_mul_right h (Nat.two_pow_pos 1074)⟩

set_option exponentiation.threshold 2100 in
/-- **core's rounding yields the nearest double**: the packed `roundWithAccuracy` of the value cn/cd is
    `NearestDouble cn cd` -/
theorem nearest_of_rnd (cn cd : Nat) (hcd : 0 < cd) :
    NearestDouble cn cd (Float.ofModel (Float.Model.pack (rnd .positive cn cd))) := by
  obtain ⟨t, hlow, hup, hcases⟩ := rwa_pack cn cd hcd
  have hW1 : t ≤ 2044 → cd * 2^t ≤ cd * 2^2044 := fun ht =>
    Nat.mul_le_mul_left _ (Nat.pow_le_pow_right (by decide) ht)
  have hW2 : t = 2045 → cd * 2^t = 2 * (cd * 2^2044) := fun ht => by
    have h3 : ∀ a b : Nat, a * (b * 2) = 2 * (a * b) := fun a b => by ac_rfl
    rw [ht, show (2:Nat)^2045 = 2^2044 * 2 from by rw [← Nat.pow_succ]]; exact h3 _ _
  have hW3 : 2046 ≤ t → cd * 2^2044 * 4 ≤ cd * 2^t := fun ht => by
    rw [Nat.mul_assoc]
    apply Nat.mul_le_mul_left
    rw [show (4:Nat) = 2^2 by decide, ← Nat.pow_add]; exact Nat.pow_le_pow_right (by decide) (by omega)
  obtain ⟨a1, a2, a3, a4⟩ := nearest_abstract cd t (cn * 2^1074) (cd * 2^2044) _ hcd hlow hup hW1 hW2 hW3 hcases
  have hcast : ((cn : Int) * 2^1074) = ((cn * 2^1074 : Nat) : Int) := by push_cast; rfl
  have hthr := thr_units cn cd
  refine ⟨fun h => a1 (hthr.1 h), fun h => a2 ?_, ?_, ?_⟩
  · rcases Nat.lt_or_ge (cn * 2^1074) ((2^54 - 1) * (cd * 2^2044)) with h' | h'
    · exact h'
    · have := hthr.2 h'; omega
  · rw [hcast]; exact a3
  · rw [hcast]; exact a4

set_option exponentiation.threshold 2100 in
/-- a value of at most half the smallest subnormal (2·cn/cd ≤ 2^-1074) rounds to +0 -/
theorem nearest_zero (cn cd : Nat) (hcd : 0 < cd) (h2 : 2 * (cn * 2^1074) ≤ cd) :
    NearestDouble cn cd (zeroF .positive) := by
  have hpos := Nat.two_pow_pos 1074
  have hcn : cn < cd := by
    have : cn ≤ cn * 2^1074 := Nat.le_mul_of_pos_right _ hpos
    omega
  have hsp : decide (sbit Sign.positive = 1) = false := by decide
  have hcast : ((cn : Int) * 2^1074) = ((cn * 2^1074 : Nat) : Int) := by push_cast; rfl
  have hd0 : (units (zeroF .positive) * (cd : Int) - ((cn * 2^1074 : Nat) : Int)).natAbs = cn * 2^1074 := by
    rw [units_zeroF]; omega
  refine ⟨fun h => ?_, fun _ => ⟨isFinite_zeroF _, by rw [signBit_zeroF]; exact hsp⟩, fun _ y _ => ?_, fun _ _ _ _ _ => ?_⟩
  · have : cd ≤ (2^1024 - 2^970) * cd :=
      Nat.le_mul_of_pos_left _ (by rw [thr_eq]; exact Nat.mul_pos (by decide) (Nat.two_pow_pos _))
    omega
  · rw [hcast, hd0, dist_units]
    generalize cn * 2^1074 = K at *
    rcases Nat.eq_zero_or_pos (unitsN y) with h0 | h0
    · rw [h0]; unfold ndist; split <;> omega
    · have : cd ≤ unitsN y * cd := Nat.le_mul_of_pos_left _ h0
      unfold ndist; split <;> omega
  · rw [decode_of_isZero _ (isZero_zeroF _)]; decide

theorem zeroF_pos_eq : zeroF .positive = Float.ofBits 0 := by
  apply eq_of_bits_eq; rw [bits_zeroF]; decide +kernel

theorem sci_zero_fast : Float.ofScientific 0 false 0 = Float.ofBits 0 ∧
    ∀ q : Nat, q ≤ 22 → Float.ofScientific 0 true q = Float.ofBits 0 := by decide +kernel

theorem sci_zero (q : Nat) : Float.ofScientific 0 true q = zeroF .positive := by
  by_cases hq : q ≤ 22
  · rw [sci_zero_fast.2 q hq, zeroF_pos_eq]
  · unfold Float.ofScientific
    rw [dif_neg (by omega)]
    simp only [if_true]
    unfold Float.Model.ofScientific UnpackedFloat.ofScientific
    rw [dif_pos rfl]; rfl

/-- the "safety check" branch of core's `ofScientific`: a decimal exponent below -(2048 + log2 m) gives +0 -/
theorem sci_tiny (m q : Nat) (hm : 0 < m) (hq : 2048 + m.log2 < q) : Float.ofScientific m true q = zeroF .positive := by
  unfold Float.ofScientific
  rw [dif_neg (by omega)]
  simp only [if_true]
  have : Int.negOfNat q = -(q : Int) := by cases q <;> rfl
  rw [this]
  unfold Float.Model.ofScientific UnpackedFloat.ofScientific
  rw [dif_neg (by omega)]
  have c1 : ¬ (-(q : Int) > 2 ^ B64.exponentBits) := by
    have : (2 : Int) ^ B64.exponentBits = 2048 := by decide
    rw [this]; omega
  have c2 : (-(q : Int) < -((2 ^ B64.exponentBits : Int) + (m.log2 : Int))) := by
    have : (2 : Int) ^ B64.exponentBits = 2048 := by decide
    rw [this]; omega
  rw [if_neg c1, if_pos c2]; rfl

set_option exponentiation.threshold 2100 in
theorem tiny_bound (m q : Nat) (hq : 2048 + m.log2 < q) : 2 * (m * 2^1074) ≤ 10^q := by
  have h1 : m < 2^(m.log2 + 1) := Nat.lt_log2_self
  have h2 : (2:Nat)^(3 * q) ≤ 10^q := by
    rw [Nat.pow_mul]; exact Nat.pow_le_pow_left (by decide) q
  have h3 : m * 2^1074 ≤ 2^(m.log2 + 1) * 2^1074 := Nat.mul_le_mul_right _ (Nat.le_of_lt h1)
  have e1 : 2^(m.log2 + 1) * 2^1074 = 2^(m.log2 + 1 + 1074) := (Nat.pow_add 2 (m.log2 + 1) 1074).symm
  have e2 : 2^(m.log2 + 1 + 1074) * 2 = 2^(m.log2 + 1 + 1074 + 1) := (Nat.pow_succ 2 (m.log2 + 1 + 1074)).symm
  calc 2 * (m * 2^1074) = m * 2^1074 * 2 := Nat.mul_comm _ _
    _ ≤ 2^(m.log2 + 1) * 2^1074 * 2 := Nat.mul_le_mul_right _ h3
    _ = 2^(m.log2 + 1 + 1074 + 1) := by rw [e1, e2]
    _ ≤ 2^(3 * q) := Nat.pow_le_pow_right (by decide) (by omega)
    _ ≤ 10^q := h2

/-- **`Float.ofScientific m false 0` (the integer m as a double) is the double nearest to m** -/
theorem sci_nearest_int (m : Nat) : NearestDouble m 1 (Float.ofScientific m false 0) := by
  rcases Nat.eq_zero_or_pos m with h0 | hm
  · subst h0
    rw [sci_zero_fast.1, ← zeroF_pos_eq]
    exact nearest_zero 0 1 (by decide) (by rw [Nat.zero_mul]; decide)
  · rw [sci_false m 0 hm (by decide), Nat.pow_zero, Nat.mul_one]
    exact nearest_of_rnd m 1 (by decide)

/-- **`Float.ofScientific m true q` (the decimal m / 10^q) is the double nearest to m / 10^q**, for every m and q ≥ 1 -/
theorem sci_nearest_frac (m q : Nat) (hq1 : 1 ≤ q) : NearestDouble m (10^q) (Float.ofScientific m true q) := by
  have hpos : 0 < 10^q := Nat.pow_pos (by decide)
  rcases Nat.eq_zero_or_pos m with h0 | hm
  · subst h0
    rw [sci_zero]
    exact nearest_zero 0 _ hpos (by rw [Nat.zero_mul, Nat.mul_zero]; exact Nat.zero_le _)
  · by_cases hq : q ≤ 2048 + m.log2
    · rw [sci_true m q hm hq1 hq]
      exact nearest_of_rnd m (10^q) hpos
    · rw [sci_tiny m q hm (by omega)]
      exact nearest_zero m _ hpos (tiny_bound m q (by omega))

end F64
end Slac
