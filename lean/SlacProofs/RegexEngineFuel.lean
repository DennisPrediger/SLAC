/-
  SlacProofs.RegexEngineFuel — the fuel arguments of the matcher's unbounded loop and of the `find_iter` iteration
  are sufficient: beyond the bound the model gives, one more unit of fuel never changes the result.
-/
import SlacProofs.RegexEngineSound
set_option autoImplicit false
namespace Slac.RegexEngine

theorem SoundM.strict {body : M} {R : Cur → Cur → Prop} (hb : SoundM body R) (cur : Cur) (caps : Caps) :
    body cur caps (fun _ _ => none) = none := by
  cases h : body cur caps (fun _ _ => none) with
  | none => rfl
  | some r => obtain ⟨_, _, _, hk⟩ := hb _ _ _ _ h; cases hk

/-- `repStar`: one more unit of fuel than the remaining length changes nothing -/
theorem repStar_fuel (body : M) (R : Cur → Cur → Prop) (hb : SoundM body R) (g : Bool) (k : K) (f : Nat) :
    ∀ (cur : Cur) (caps : Caps), cur.rest.length ≤ f → repStar body g (f + 1) cur caps k = repStar body g f cur caps k := by
  induction f with
  | zero =>
    intro cur caps h0
    -- at the end of the text a further iteration can only fail
    have hnone : (fun (c' : Cur) (caps' : Caps) =>
        if c'.rest.length < cur.rest.length then k c' caps' else none) = fun _ _ => none := by
      funext c' caps'; rw [if_neg (by omega)]
    cases g with
    | true => simp only [repStar, hnone, hb.strict, if_true]; rfl
    | false => simp only [repStar, hnone, hb.strict, Bool.false_eq_true, if_false]; cases k cur caps <;> rfl
  | succ f ih =>
    intro cur caps hf
    have hcont : (fun (c' : Cur) (caps' : Caps) =>
          if c'.rest.length < cur.rest.length then repStar body g (f + 1) c' caps' k else none) =
        fun c' caps' => if c'.rest.length < cur.rest.length then repStar body g f c' caps' k else none := by
      funext c' caps'
      split
      · exact ih c' caps' (by omega)
      · rfl
    rw [repStar, hcont]
    conv => rhs; rw [repStar]

/-- the fuel `m` gives its loops is sufficient: with any larger fuel the loop computes the same -/
theorem m_star_fuel (x : Ast) (g : Bool) (cur : Cur) (caps : Caps) (k : K) (extra : Nat) :
    repStar (m x) g (cur.rest.length + extra) cur caps k = repStar (m x) g cur.rest.length cur caps k := by
  induction extra with
  | zero => rfl
  | succ e ih => rw [← ih]; exact repStar_fuel (m x) _ (m_sound x) g k _ cur caps (Nat.le_add_right ..)

theorem nextMatch_progress (re : Compiled) (h : Str) (cur : Cur) (y : Mt) (hc : At h cur)
    (hn : nextMatch re cur (some cur.i) = some y) : cur.i < y.e.i := by
  unfold nextMatch at hn
  cases hs : search re cur with
  | none => rw [hs] at hn; cases hn
  | some x =>
    have hx := (search_sound re h cur x hc hs).le
    rw [hs] at hn
    simp only at hn
    split at hn
    · cases hr : cur.rest with
      | nil => rw [hr] at hn; cases hn
      | cons a t =>
        rw [hr] at hn
        have hy : cur.i + 1 ≤ y.s ∧ y.s ≤ y.e.i ∧ _ := (search_sound re h _ y (hc.reach (Reach.adv cur a t hr)) hn).le
        omega
    · rename_i hskip
      cases hn
      simp only [Mt.isEmptyMatch, Bool.and_eq_true, decide_eq_true_eq, beq_iff_eq, Option.some.injEq] at hskip
      omega

/-- behind a reported match one more unit of fuel than the remaining length + 1 changes nothing -/
theorem findIterAux_fuel_last (re : Compiled) (h : Str) (f : Nat) :
    ∀ cur : Cur, At h cur → h.length - cur.i + 1 ≤ f →
      findIterAux re (f + 1) cur (some cur.i) = findIterAux re f cur (some cur.i) := by
  induction f with
  | zero => intro cur _ hf; omega
  | succ f ih =>
    intro cur hc hf
    rw [findIterAux_succ, findIterAux_succ re f]
    cases hy : nextMatch re cur (some cur.i) with
    | none => rfl
    | some y =>
      have hp := nextMatch_progress re h cur y hc hy
      have gy := nextMatch_sound re h cur _ y hc hy
      have hle := gy.le
      exact congrArg (y :: ·) (ih y.e gy.at_end (by omega))

/-- the fuel of `allMatches` is sufficient: one more unit gives the same list of matches -/
theorem findIterAux_fuel (re : Compiled) (h : Str) (cur : Cur) (last : Option Nat) (f : Nat) (hc : At h cur)
    (hf : h.length - cur.i + 2 ≤ f) : findIterAux re (f + 1) cur last = findIterAux re f cur last := by
  obtain ⟨f, rfl⟩ : ∃ g, f = g + 1 := ⟨f - 1, by omega⟩
  rw [findIterAux_succ, findIterAux_succ re f]
  cases hy : nextMatch re cur last with
  | none => rfl
  | some y =>
    have gy := nextMatch_sound re h cur last y hc hy
    have hle := gy.le
    exact congrArg (y :: ·) (findIterAux_fuel_last re h f y.e gy.at_end (by omega))

theorem allMatches_fuel (re : Compiled) (h : Str) (extra : Nat) :
    findIterAux re (h.length + 2 + extra) (cur0 h) none = allMatches re h := by
  induction extra with
  | zero => rfl
  | succ e ih => rw [← ih]; exact findIterAux_fuel re h _ _ _ (At.cur0 h) (by simp [cur0])

end Slac.RegexEngine
