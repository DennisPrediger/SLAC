/-
  SlacProofs.OptStable — what a round of `optimize` that finds nothing tells about the tree, node counts,
  and invariants (`if3 = 0`, `VarsBound`) kept by the two passes.
-/
import SlacProofs.OptMu
set_option autoImplicit false
set_option linter.unusedSectionVars false
namespace Slac.Opt
variable {N : Type} [NumOps N]

theorem exec_found (env : Env N) (e : Expr N) : (exec env e).found = true := by
  simp only [exec]; split <;> rfl

/-- `transform` sets its flag iff it changes the tree: no three-argument `if_then` call, nothing to do -/
theorem transform_self (e : Expr N) : transform e = e ↔ if3 e = 0 := by
  refine (transform_ind (Q := fun e e' => e' = e ↔ if3 e = 0) (QL := fun es es' => es' = es ↔ if3L es = 0)
    ?_ ?_ ?_ ?_ ?_ ?_ ?_ ?_ ?_ ?_).1 e
  · intro v; exact ⟨fun _ => rfl, fun _ => rfl⟩
  · intro n; exact ⟨fun _ => rfl, fun _ => rfl⟩
  · intro a b c; rw [if3_call]; exact ⟨nofun, fun h => by simp [callI] at h⟩
  · intro r r' op ih; simp only [Expr.unary.injEq, and_true, if3, ih]
  · intro l l' r r' op ihl ihr; simp only [Expr.binary.injEq, and_true, if3, ihl, ihr, Nat.add_eq_zero_iff]
  · intro l l' m m' r r' op ihl ihm ihr
    simp only [Expr.ternary.injEq, and_true, if3, ihl, ihm, ihr, Nat.add_eq_zero_iff, and_assoc]
  · intro es es' ih; simp only [Expr.array.injEq, if3, ih]
  · intro n ps ps' hc ih; simp only [Expr.call.injEq, true_and, if3_call, hc, Nat.zero_add, ih]
  · exact ⟨fun _ => rfl, fun _ => rfl⟩
  · intro e e' es es' ihe ihes; simp only [List.cons.injEq, if3L, ihe, ihes, Nat.add_eq_zero_iff]

theorem transform_eq_self (e : Expr N) (h : if3 e = 0) : transform e = e := (transform_self e).2 h

theorem transform_eq_self_iff (e : Expr N) : transform e = e ↔ transformFound e = false := by
  simp only [transformFound, decide_eq_false_iff_not, Nat.not_lt, Nat.le_zero]
  exact transform_self e

theorem nodes_transform (e : Expr N) : nodes (transform e) = nodes e := by
  refine (transform_ind (Q := fun e e' => nodes e' = nodes e) (QL := fun es es' => nodesL es' = nodesL es)
    ?_ ?_ ?_ ?_ ?_ ?_ ?_ ?_ ?_ ?_).1 e
  · intro v; rfl
  · intro n; rfl
  · intro a b c; simp only [nodes, nodesL]; omega
  · intro r r' op ih; simp only [nodes, ih]
  · intro l l' r r' op ihl ihr; simp only [nodes, ihl, ihr]
  · intro l l' m m' r r' op ihl ihm ihr; simp only [nodes, ihl, ihm, ihr]
  · intro es es' ih; simp only [nodes, ih]
  · intro n ps ps' _ ih; simp only [nodes, ih]
  · rfl
  · intro e e' es es' ihe ihes; simp only [nodesL, ihe, ihes]

theorem nodes_pos (e : Expr N) : 1 ≤ nodes e := by
  cases e <;> simp only [nodes] <;> omega

theorem nodes_fold (env : Env N) (e : Expr N) : nodes (fold env e).tree ≤ nodes e := by
  refine (fold_ind env (Q := fun e e' => nodes e' ≤ nodes e) (QL := fun es es' => nodesL es' ≤ nodesL es)
    ?_ ?_ ?_ ?_ ?_ ?_ ?_ ?_ ?_ ?_).1 e
  · intro e; exact Nat.le_refl _
  · intro e v _ _; exact nodes_pos e
  · intro c m r; simp only [nodes]; split <;> omega
  · intro r r' op ih; simp only [nodes]; omega
  · intro l l' r r' op ihl ihr; simp only [nodes]; omega
  · intro l l' m m' r r' op ihl ihm ihr; simp only [nodes]; omega
  · intro es es' ih; simp only [nodes]; omega
  · intro n ps ps' ih; simp only [nodes]; omega
  · exact Nat.le_refl _
  · intro e e' es es' ihe ihes; simp only [nodesL]; omega

/-! ### `fold` introduces no three-argument `if_then` call -/

theorem if3_fold (env : Env N) (e : Expr N) : if3 (fold env e).tree ≤ if3 e := by
  refine (fold_ind env (Q := fun e e' => if3 e' ≤ if3 e)
    (QL := fun es es' => es'.length = es.length ∧ if3L es' ≤ if3L es) ?_ ?_ ?_ ?_ ?_ ?_ ?_ ?_ ?_ ?_).1 e
  · intro e; exact Nat.le_refl _
  · intro e v _ _; exact Nat.zero_le _
  · intro c m r; simp only [if3]; split <;> omega
  · intro r r' op ih; simp only [if3]; omega
  · intro l l' r r' op ihl ihr; simp only [if3]; omega
  · intro l l' m m' r r' op ihl ihm ihr; simp only [if3]; omega
  · intro es es' ih; simp only [if3]; omega
  · intro n ps ps' ih; simp only [if3_call, ih.1]; omega
  · exact ⟨rfl, Nat.le_refl _⟩
  · intro e e' es es' ihe ihes; exact ⟨by simp only [List.length_cons, ihes.1], by simp only [if3L]; omega⟩

/-! ### both passes keep variables bound -/

theorem varsBound_transform (env : Env N) (e : Expr N) : VarsBound env e → VarsBound env (transform e) := by
  refine (transform_ind (Q := fun e e' => VarsBound env e → VarsBound env e')
    (QL := fun es es' => VarsBoundL env es → VarsBoundL env es') ?_ ?_ ?_ ?_ ?_ ?_ ?_ ?_ ?_ ?_).1 e
  · intro v h; exact h
  · intro n h; exact h
  · intro a b c h; simp only [VarsBound, VarsBoundL, and_true] at h ⊢; exact h
  · intro r r' op ih h; simp only [VarsBound] at h ⊢; exact ih h
  · intro l l' r r' op ihl ihr h; simp only [VarsBound] at h ⊢; exact ⟨ihl h.1, ihr h.2⟩
  · intro l l' m m' r r' op ihl ihm ihr h; simp only [VarsBound] at h ⊢; exact ⟨ihl h.1, ihm h.2.1, ihr h.2.2⟩
  · intro es es' ih h; simp only [VarsBound] at h ⊢; exact ih h
  · intro n ps ps' _ ih h; simp only [VarsBound] at h ⊢; exact ih h
  · intro h; exact h
  · intro e e' es es' ihe ihes h; simp only [VarsBoundL] at h ⊢; exact ⟨ihe h.1, ihes h.2⟩

theorem varsBound_fold (env env' : Env N) (e : Expr N) : VarsBound env' e → VarsBound env' (fold env e).tree := by
  refine (fold_ind env (Q := fun e e' => VarsBound env' e → VarsBound env' e')
    (QL := fun es es' => VarsBoundL env' es → VarsBoundL env' es') ?_ ?_ ?_ ?_ ?_ ?_ ?_ ?_ ?_ ?_).1 e
  · intro e h; exact h
  · intro e v _ _ _; simp only [VarsBound]
  · intro c m r h; simp only [VarsBound] at h; split
    · exact h.2.1
    · exact h.2.2
  · intro r r' op ih h; simp only [VarsBound] at h ⊢; exact ih h
  · intro l l' r r' op ihl ihr h; simp only [VarsBound] at h ⊢; exact ⟨ihl h.1, ihr h.2⟩
  · intro l l' m m' r r' op ihl ihm ihr h; simp only [VarsBound] at h ⊢; exact ⟨ihl h.1, ihm h.2.1, ihr h.2.2⟩
  · intro es es' ih h; simp only [VarsBound] at h ⊢; exact ih h
  · intro n ps ps' ih h; simp only [VarsBound] at h ⊢; exact ih h
  · intro h; exact h
  · intro e e' es es' ihe ihes h; simp only [VarsBoundL] at h ⊢; exact ⟨ihe h.1, ihes h.2⟩

/-! ### a round that finds nothing: the tree is unchanged and has no foldable node -/

def NoFold (env : Env N) (l : List (Expr N)) : Prop := ∀ n ∈ l, ¬ Foldable env n

theorem NoFold.cons {env : Env N} {x : Expr N} {l : List (Expr N)} (hx : ¬ Foldable env x) (hl : NoFold env l) :
    NoFold env (x :: l) := fun n hn => (List.mem_cons.1 hn).elim (fun h => h ▸ hx) (hl n)

theorem NoFold.append {env : Env N} {l l' : List (Expr N)} (hl : NoFold env l) (hl' : NoFold env l') :
    NoFold env (l ++ l') := fun n hn => (List.mem_append.1 hn).elim (hl n) (hl' n)

theorem not_foldable_lit (env : Env N) {es : List (Expr N)} (h : allLit es = true) : NoFold env (subtermsL es) := by
  obtain ⟨vs, rfl⟩ := allLit_iff.1 h
  induction vs with
  | nil => exact fun _ h => nomatch h
  | cons v vs ih => exact .cons (fun h => h) (ih (allLit_iff.2 ⟨vs, rfl⟩))

/-- A round in which `fold` sets no flag met no node it would have executed and no literal condition, so it reached
    every node, failed nowhere and rebuilt the tree as it was; without three-argument `if_then` calls that is every kind of
    foldable node. -/
theorem fold_stable (env : Env N) (e : Expr N) : if3 e = 0 → (fold env e).found = false →
    (fold env e).tree = e ∧ (fold env e).err = none ∧ ∀ n ∈ subterms e, ¬ Foldable env n := by
  refine (Expr.rec_both
    (p := fun e => if3 e = 0 → (fold env e).found = false →
      (fold env e).tree = e ∧ (fold env e).err = none ∧ NoFold env (subterms e))
    (q := fun es => if3L es = 0 → (foldL env es).2.1 = false →
      (foldL env es).1 = es ∧ (foldL env es).2.2 = none ∧ NoFold env (subtermsL es))
    ?_ ?_ ?_ ?_ ?_ ?_ ?_ ?_ ?_).1 e
  · intro r op ih h3 hf
    simp only [fold] at hf ⊢
    split at hf
    · rw [exec_found] at hf; cases hf
    · rename_i hl
      rw [if_neg hl]
      obtain ⟨h1, h2, h4⟩ := ih h3 hf
      exact ⟨by simp only [h1], h2, .cons hl h4⟩
  · intro l r op ihl ihr h3 hf
    simp only [if3] at h3
    simp only [fold] at hf ⊢
    split at hf
    · rw [exec_found] at hf; cases hf
    · rename_i hl
      rw [if_neg hl]
      split at hf
      · rename_i er her
        rw [(ihl (by omega) hf).2.1] at her; cases her
      · rename_i hnone
        simp only [Bool.or_eq_false_iff] at hf
        obtain ⟨a1, a2, a3⟩ := ihl (by omega) hf.1
        obtain ⟨b1, b2, b3⟩ := ihr (by omega) hf.2
        simp only [a1, b1, b2, true_and]
        exact .cons (by simpa [Foldable] using hl) (a3.append b3)
  · intro l m r op ihl ihm ihr h3 hf
    simp only [if3] at h3
    simp only [fold] at hf ⊢
    split at hf
    · cases hf
    · rename_i hnl
      have hnf : ¬ Foldable env (.ternary l m r op) := fun ⟨h1, h2⟩ => by
        obtain ⟨c, rfl⟩ := isLit_iff.1 h1; exact hnl c rfl h2
      split at hf
      · rename_i er her
        rw [(ihl (by omega) hf).2.1] at her; cases her
      · rename_i hn1
        split at hf
        · rename_i er her
          simp only [Bool.or_eq_false_iff] at hf
          rw [(ihm (by omega) hf.2).2.1] at her; cases her
        · rename_i hn2
          simp only [Bool.or_eq_false_iff] at hf
          obtain ⟨a1, a2, a3⟩ := ihl (by omega) hf.1.1
          obtain ⟨b1, b2, b3⟩ := ihm (by omega) hf.1.2
          obtain ⟨c1, c2, c3⟩ := ihr (by omega) hf.2
          simp only [a1, b1, c1, c2, true_and]
          exact .cons hnf ((a3.append b3).append c3)
  · intro es ih h3 hf
    simp only [fold] at hf ⊢
    split at hf
    · rw [exec_found] at hf; cases hf
    · rename_i hl
      rw [if_neg hl]
      obtain ⟨a1, a2, a3⟩ := ih h3 hf
      exact ⟨by simp only [a1], a2, .cons hl a3⟩
  · intro v _ _; exact ⟨rfl, rfl, .cons (fun h => h) (fun _ h => nomatch h)⟩
  · intro v _ _; exact ⟨rfl, rfl, .cons (fun h => h) (fun _ h => nomatch h)⟩
  · intro f ps ih h3 hf
    rw [if3_call] at h3
    have hci : ¬ (f = ifThenName ∧ ps.length = 3) := fun ⟨h1, h2⟩ => by
      simp only [callI, h1, h2, if_true] at h3; omega
    simp only [fold] at hf ⊢
    split at hf
    · rename_i hl
      rw [if_pos hl]
      split at hf
      · rw [exec_found] at hf; cases hf
      · rename_i hne
        exact ⟨rfl, rfl, .cons (fun h => h.elim (fun h => hne h.2) hci) (not_foldable_lit env hl)⟩
    · rename_i hl
      rw [if_neg hl]
      obtain ⟨a1, a2, a3⟩ := ih (by omega) hf
      exact ⟨by simp only [a1], a2, .cons (fun h => h.elim (fun h => hl h.1) hci) a3⟩
  · intro _ _; exact ⟨rfl, rfl, fun _ h => nomatch h⟩
  · intro e es ihe ihes h3 hf
    simp only [if3L] at h3
    simp only [foldL] at hf ⊢
    split at hf
    · rename_i er her
      rw [(ihe (by omega) hf).2.1] at her; cases her
    · rename_i hnone
      simp only [Bool.or_eq_false_iff] at hf
      obtain ⟨a1, a2, a3⟩ := ihe (by omega) hf.1
      obtain ⟨b1, b2, b3⟩ := ihes (by omega) hf.2
      simp only [a1, b1, b2, true_and]
      exact a3.append b3

end Slac.Opt
