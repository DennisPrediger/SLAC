/-
  SlacProofs.Refine — the interpreter model (`evalT`) refines the language definition (`spec`):
  value, winning error and trace, for every tree, environment and number implementation.
-/
import SlacProofs.InterpLemmas
set_option autoImplicit false
set_option linter.unusedSectionVars false
namespace Slac
variable {N : Type} [NumOps N]

inductive Rel : SRes N → Except Err (Value N) → Prop
  | val (v : Value N) : Rel (.val v) (.ok v)
  | undef (n : Str) : Rel (.undef n) (.error (.undefinedVariable n))
  | fail (e : Err) : (∀ n, e ≠ .undefinedVariable n) → Rel (.fail e) (.error e)

def RelP (s : SR N) (m : R N) : Prop := Rel s.1 m.1 ∧ s.2 = m.2

theorem rel_ofExcept (x : Except Err (Value N)) : Rel (SRes.ofExcept x) x := by
  cases x with
  | ok v => exact .val v
  | error e => cases e <;> first | exact .undef _ | exact .fail _ (by intro n h; cases h)

theorem Rel.fail' {e : Err} (h : ∀ n, e ≠ .undefinedVariable n) : Rel (N := N) (.fail e) (.error e) := .fail e h

theorem Rel.eq_ofExcept {s : SRes N} {m : Except Err (Value N)} (h : Rel s m) : s = SRes.ofExcept m := by
  cases h with
  | val v => rfl
  | undef n => rfl
  | fail e he => cases e <;> first | exact absurd rfl (he _) | rfl

/-- the interpreter's outcome as the language definition writes it -/
def ofR (m : R N) : SR N := (SRes.ofExcept m.1, m.2)

theorem relP_iff {s : SR N} {m : R N} : RelP s m ↔ s = ofR m := by
  obtain ⟨s1, s2⟩ := s
  constructor
  · rintro ⟨h1, h2⟩; cases h1.eq_ofExcept; cases h2; rfl
  · rintro h; cases h; exact ⟨rel_ofExcept _, rfl⟩

theorem ofExcept_error {e : Err} (he : ∀ n, e ≠ .undefinedVariable n) :
    SRes.ofExcept (.error e : Except Err (Value N)) = .fail e := by
  cases e <;> first | exact absurd rfl (he _) | rfl

theorem unSpec_ofR (op : Op) (m : R N) : unSpec op (ofR m) = ofR (unModel op m) := by
  obtain ⟨x, t⟩ := m
  cases x with
  | ok v => cases op <;> first | rfl | (cases v <;> rfl)
  | error e => cases e <;> rfl

theorem binSpec_ofR (op : Op) (l r : R N) : binSpec op (ofR l) (ofR r) = ofR (binModel op l r) := by
  obtain ⟨x, tl⟩ := l; obtain ⟨y, tr⟩ := r
  rw [binModel_eq]
  simp only [ofR, binSpec, toOpd_ofExcept]
  cases op.cls with
  | logical isAnd =>
    cases hx : absorb x with
    | error e => simp only [ofExcept_error (absorb_eq_error hx).2]
    | ok a =>
      simp only
      split
      · rfl
      · cases hy : absorb y with
        | error e => simp only [Except.map, ofExcept_error (absorb_eq_error hy).2]
        | ok b => rfl
  | equality neg =>
    cases hx : absorb x with
    | error e => simp only [ofExcept_error (absorb_eq_error hx).2]
    | ok a =>
      cases hy : absorb y with
      | error e => simp only [Except.map, ofExcept_error (absorb_eq_error hy).2]
      | ok b => rfl
  | strict =>
    cases x with
    | error e => cases e <;> rfl
    | ok lv =>
      cases y with
      | error e => cases e <;> rfl
      | ok rv => rfl

theorem ternSpec_ofR (op : Op) (c m r : R N) :
    ternSpec op (ofR c) (ofR m) (ofR r) = ofR (ternModel op c m r) := by
  obtain ⟨x, tl⟩ := c
  by_cases hop : op = .ternaryCondition
  · subst hop
    cases x with
    | ok cv => simp only [ternSpec, ternModel, ofR, SRes.ofExcept, if_true]; split <;> rfl
    | error e => cases e <;> rfl
  · simp only [ternSpec, if_neg hop, ternModel_other hop]; rfl

/-- an evaluated argument list as the language definition writes it -/
def ofRL (m : Except Err (List (Value N)) × List (Event N)) : (List (Value N) ⊕ SRes N) × List (Event N) :=
  (match m.1 with | .ok vs => .inl vs | .error e => .inr (SRes.ofExcept (.error e)), m.2)

theorem spec_eq (env : Env N) :
    (∀ e, spec env e = ofR (evalT env e)) ∧ (∀ es, specList env es = ofRL (evalList env es)) := by
  refine Expr.rec_both ?_ ?_ ?_ ?_ ?_ ?_ ?_ ?_ ?_
  · intro r op ih; simp only [spec, evalT, ih, unSpec_ofR]
  · intro l r op ihl ihr; simp only [spec, evalT, ihl, ihr, binSpec_ofR]
  · intro l m r op ihl ihm ihr; simp only [spec, evalT, ihl, ihm, ihr, ternSpec_ofR]
  · intro es ih
    simp only [spec, evalT, ih]
    generalize evalList env es = m
    obtain ⟨x, t⟩ := m
    cases x <;> rfl
  · intro v; rfl
  · intro n; simp only [spec, evalT]; cases env.var n <;> rfl
  · intro f ps ih
    simp only [spec, evalT, ih]
    generalize evalList env ps = m
    obtain ⟨x, t⟩ := m
    cases x with
    | error e => rfl
    | ok vs => simp only [ofRL, ofR]; cases env.call f vs <;> rfl
  · rfl
  · intro e es ih1 ih2
    simp only [specList, evalList, ih1, ih2]
    generalize evalT env e = m; generalize evalList env es = ms
    obtain ⟨x, t⟩ := m; obtain ⟨xs, ts⟩ := ms
    cases x with
    | error e => cases e <;> rfl
    | ok v => cases xs <;> rfl

def P (env : Env N) (e : Expr N) : Prop := RelP (spec env e) (evalT env e)

/-- The interpreter model computes exactly the value, winning error and
    environment-event trace that the language definition prescribes — for every tree, every
    environment and every number implementation. -/
theorem eval_refines_spec (env : Env N) (e : Expr N) : P env e := relP_iff.2 ((spec_eq env).1 e)

theorem toExcept_ofExcept (x : Except Err (Value N)) : (SRes.ofExcept x).toExcept = x := by
  cases x with
  | ok v => rfl
  | error e => cases e <;> rfl

theorem execute_eq_spec (env : Env N) (e : Expr N) :
    (spec env e).1.toExcept = (evalT env e).1 ∧ (spec env e).2 = (evalT env e).2 := by
  rw [(spec_eq env).1 e]; exact ⟨toExcept_ofExcept _, rfl⟩

end Slac
