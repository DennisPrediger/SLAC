/-
  SlacProofs.TimeZonePosix — chrono's POSIX-rule zones (SlacModel.TimeZone, `Posix.Alt`) against the model's calendar:
  chrono's own calendar helpers agree with the proleptic Gregorian calendar of SlacModel.TimeCore for ALL years, and the
  transition of an `Mm.w.d` rule is a day of its month (SlacProofs.TimeZoneNorth builds the zone laws on this).
-/
import SlacProofs.TimeCal
import SlacModel.TimeZone
set_option autoImplicit false
set_option linter.unusedSimpArgs false
namespace Slac.Time
open Posix

theorem jan1_succ (y : Int) : daysFromCivil (y + 1) 1 1 = daysFromCivil y 1 1 + if isLeap y then 366 else 365 := by
  have := yearStart_succ (y - 1)
  rw [Int.sub_add_cancel] at this
  rw [daysFromCivil_jan1, daysFromCivil_jan1, Int.add_sub_cancel, this]
  omega

theorem year_len (y : Int) : daysFromCivil y 1 1 + 365 ≤ daysFromCivil (y + 1) 1 1 ∧ daysFromCivil (y + 1) 1 1 ≤ daysFromCivil y 1 1 + 366 := by
  rw [jan1_succ]; split <;> omega

/-- the year of a day number, as bounds, and conversely -/
theorem year_bounds (z : Int) :
    daysFromCivil (civilFromDays z).1 1 1 ≤ z ∧ z < daysFromCivil ((civilFromDays z).1 + 1) 1 1 := by
  have hv := civilFromDays_validMD z
  have hr := days_roundtrip z
  have hb := days_bounds _ _ _ hv
  rw [hr] at hb
  have hn := days_next_year (civilFromDays z).1
  omega

theorem year_unique (z y : Int) (h1 : daysFromCivil y 1 1 ≤ z) (h2 : z < daysFromCivil (y + 1) 1 1) : (civilFromDays z).1 = y := by
  obtain ⟨b1, b2⟩ := year_bounds z
  generalize (civilFromDays z).1 = y2 at b1 b2
  by_cases hlt : y2 < y
  · have := (days_year_mono (y2 + 1) y (by omega)).1; omega
  · by_cases hgt : y < y2
    · have := (days_year_mono (y + 1) y2 (by omega)).1; omega
    · omega

theorem leapYear_eq (y : Int) : leapYear y = isLeap y := by
  rw [Bool.eq_iff_iff, isLeap_iff]
  simp only [leapYear, Bool.or_eq_true, Bool.and_eq_true, beq_iff_eq, bne_iff_ne, ne_eq]
  constructor <;> intro h <;> omega

theorem cumulNormal_eq : ∀ m, m < 13 → 1 ≤ m →
    cumulNormal.getD (m - 1) 0 = monthStart (((m : Int) + 9) % 12) + (if m ≤ 2 then -306 else 59) := by decide

/-- where month `m` begins within its year: chrono's cumulative table, one day later after February in a leap year -/
theorem month_start (y : Int) (m : Nat) (hm1 : 1 ≤ m) (hm12 : m ≤ 12) :
    daysFromCivil y m 1 =
      daysFromCivil y 1 1 + cumulNormal.getD (m - 1) 0 + (if 3 ≤ m then (if isLeap y = true then 1 else 0) else 0) := by
  have := yearStart_succ (y - 1)
  rw [Int.sub_add_cancel] at this
  rw [daysFromCivil_eq, daysFromCivil_jan1, cumulNormal_eq m (by omega) hm1]
  by_cases h : isLeap y = true <;> simp only [h, if_true, Bool.false_eq_true, if_false] at this ⊢ <;> split <;> omega

theorem quot_nonneg {a : Int} (b : Int) (h : 0 ≤ a) : quot a b = a / b := if_pos h
theorem quot_neg {a : Int} (b : Int) (h : a < 0) : quot a b = -(-a / b) := if_neg (by omega)

/-- `days_since_unix_epoch` (two formulas with truncating division) = days since 1970-01-01 of the civil date, every year -/
theorem daysSinceUnixEpoch_eq (y : Int) (m : Nat) (hm1 : 1 ≤ m) (hm12 : m ≤ 12) (d : Int) :
    daysSinceUnixEpoch y m d = daysFromCivil y m 1 + d - 1 := by
  have hs := yearStart_succ (y - 1)
  rw [Int.sub_add_cancel] at hs
  rw [month_start y m hm1 hm12, daysFromCivil_jan1]
  simp only [daysSinceUnixEpoch, leapYear_eq, yearStart] at hs ⊢
  generalize cumulNormal.getD (m - 1) 0 = c
  by_cases hy : y ≥ 1970
  · -- the offsets are multiples of the divisors: floors of `y`
    rw [if_pos hy, quot_nonneg _ (by omega), quot_nonneg _ (by omega), quot_nonneg _ (by omega),
      (by omega : (y - 1968) / 4 = y / 4 - 492), (by omega : (y - 1900) / 100 = y / 100 - 19),
      (by omega : (y - 1600) / 400 = y / 400 - 4)]
    generalize y / 4 = a4 at hs ⊢; generalize y / 100 = a100 at hs ⊢; generalize y / 400 = a400 at hs ⊢
    generalize (y - 1) / 4 = b4 at hs ⊢; generalize (y - 1) / 100 = b100 at hs ⊢; generalize (y - 1) / 400 = b400 at hs ⊢
    by_cases h : isLeap y = true <;>
      simp only [h, Bool.true_and, Bool.false_and, decide_eq_true_eq, Bool.false_eq_true, if_true, if_false] at hs ⊢ <;> omega
  · -- truncation toward zero of a negative quotient is the ceiling: floors of `y - 1`
    rw [if_neg hy, quot_neg _ (by omega), quot_neg _ (by omega), quot_neg _ (by omega),
      (by omega : -(-(y - 1972) / 4) = (y - 1) / 4 - 492), (by omega : -(-(y - 2000) / 100) = (y - 1) / 100 - 19),
      (by omega : -(-(y - 2000) / 400) = (y - 1) / 400 - 4)]
    clear hs
    generalize (y - 1) / 4 = b4; generalize (y - 1) / 100 = b100; generalize (y - 1) / 400 = b400
    by_cases h : isLeap y = true <;>
      simp only [h, Bool.true_and, Bool.false_and, decide_eq_true_eq, Bool.false_eq_true, if_true, if_false] <;> omega

/-- `UtcDateTime::from_timespec(unix).year` is the calendar year of the day `⌊unix / 86400⌋`, for every instant: chrono
    counts the days since 2000-03-01 in 400-, 100-, 4-year cycles and years, the last of each capped -/
theorem utcYear_eq (u : Int) : utcYear u = (civilFromDays (u / 86400)).1 := by
  suffices h : daysFromCivil (utcYear u) 1 1 ≤ u / 86400 ∧ u / 86400 < daysFromCivil (utcYear u + 1) 1 1 from
    (year_unique _ _ h.1 h.2).symm
  have hd : (u - 951868800) / 86400 = u / 86400 - 11017 := by omega
  simp only [utcYear, hd]
  generalize u / 86400 = z
  have h0 : z - 11017 = 146097 * ((z - 11017) / 146097) + (z - 11017) % 146097 ∧ 0 ≤ (z - 11017) % 146097 ∧
      (z - 11017) % 146097 < 146097 := by omega
  generalize (z - 11017) / 146097 = q at h0 ⊢
  generalize (z - 11017) % 146097 = r0 at h0 ⊢
  generalize hc : min (r0 / 36524) 3 = c
  generalize hr1 : r0 - c * 36524 = r1
  have s1 : 0 ≤ c ∧ c ≤ 3 ∧ 0 ≤ r1 ∧ r1 ≤ 36524 := by omega
  clear hc
  generalize hc4 : min (r1 / 1461) 24 = c4
  generalize hr2 : r1 - c4 * 1461 = r2
  have s2 : 0 ≤ c4 ∧ c4 ≤ 24 ∧ 0 ≤ r2 ∧ r2 ≤ 1460 := by clear h0 hr1; omega
  clear hc4
  generalize hry : min (r2 / 365) 3 = ry
  generalize hr : r2 - ry * 365 = r
  have s3 : 0 ≤ ry ∧ ry ≤ 3 ∧ 0 ≤ r ∧ r ≤ 365 := by clear h0 hr1 hr2 s1; omega
  clear hry
  -- 1 January of the year after the March-based year `Y0`
  generalize hY0 : 2000 + ry + c4 * 4 + c * 100 + q * 400 = Y0
  have f4 : Y0 / 4 = 500 + c4 + c * 25 + q * 100 := by omega
  have f100 : Y0 / 100 = 20 + c + q * 4 := by omega
  have f400 : Y0 / 400 = 5 + q := by omega
  have k := daysFromCivil_jan1 (Y0 + 1)
  rw [Int.add_sub_cancel, yearStart, f4, f100, f400] at k
  have n0 := year_len Y0
  have n1 := year_len (Y0 + 1)
  clear f4 f100 f400
  split <;> omega

theorem daysInMonth_chrono (y : Int) (m : Nat) (hm1 : 1 ≤ m) (hm12 : m ≤ 12) :
    daysInMonthNormal.getD (m - 1) 0 + (if (m == 2) = true then (if leapYear y = true then 1 else 0) else 0) =
      (daysInMonth y m : Int) := by
  rcases daysInMonth_cases y m hm1 hm12 with ⟨hm, hd⟩ | ⟨hm, hd⟩ | ⟨rfl, hl, hd⟩ | ⟨rfl, hl, hd⟩
  · rw [hd]; rcases hm with rfl | rfl | rfl | rfl | rfl | rfl | rfl <;> rfl
  · rw [hd]; rcases hm with rfl | rfl | rfl | rfl <;> rfl
  · rw [hd, leapYear_eq, (isLeap_iff y).2 hl]; rfl
  · have : isLeap y = false := by simpa using mt (isLeap_iff y).1 hl
    rw [hd, leapYear_eq, this]; rfl

/-- the transition date of an `Mm.w.d` rule is a day of month `m` of that year -/
theorem transitionDate_mw (m w wd : Nat) (hm1 : 1 ≤ m) (hm12 : m ≤ 12) (hw1 : 1 ≤ w) (hw5 : w ≤ 5) (y : Int) :
    ∃ md : Int, (RuleDay.monthWeekday m w wd).transitionDate y = (m, md) ∧ 1 ≤ md ∧ md ≤ (daysInMonth y m : Int) := by
  have hd := daysInMonth_bounds y hm1 hm12
  simp only [RuleDay.transitionDate, daysInMonth_chrono y m hm1 hm12]
  generalize (4 + daysSinceUnixEpoch y m 1) % 7 = W
  refine ⟨_, rfl, ?_, ?_⟩ <;> split <;> omega

/-- the day number of a rule's transition in year `y`: what `unix_time` multiplies by 86400 -/
def Posix.RuleDay.day (r : RuleDay) (y : Int) : Int := daysSinceUnixEpoch y (r.transitionDate y).1 (r.transitionDate y).2

theorem Posix.RuleDay.unixTime_eq (r : RuleDay) (y dt : Int) : r.unixTime y dt = r.day y * 86400 + dt := rfl

theorem day_mw (m w wd : Nat) (hm1 : 1 ≤ m) (hm12 : m ≤ 12) (hw1 : 1 ≤ w) (hw5 : w ≤ 5) (y : Int) :
    ((RuleDay.monthWeekday m w wd).transitionDate y).1 = m ∧
    daysFromCivil y m 1 ≤ (RuleDay.monthWeekday m w wd).day y ∧
    (RuleDay.monthWeekday m w wd).day y < daysFromCivil y m 1 + daysInMonth y m := by
  obtain ⟨md, h, h1, h2⟩ := transitionDate_mw m w wd hm1 hm12 hw1 hw5 y
  refine ⟨by rw [h], ?_, ?_⟩ <;> simp only [RuleDay.day, h, daysSinceUnixEpoch_eq y m hm1 hm12] <;> omega

theorem month_first_mono (y : Int) (m1 m2 : Nat) (h1 : 1 ≤ m1) (h : m1 ≤ m2) (h2 : m2 ≤ 12) :
    daysFromCivil y m1 1 ≤ daysFromCivil y m2 1 := by
  have := yearStart_succ_le (y - 1)
  rw [Int.sub_add_cancel] at this
  rw [daysFromCivil_eq, daysFromCivil_eq]
  simp only [monthStart]
  split <;> split <;> omega

theorem month_last (y : Int) (m : Nat) (hm1 : 1 ≤ m) (hm : m < 12) :
    daysFromCivil y m 1 + (daysInMonth y m : Int) = daysFromCivil y (m + 1) 1 := by
  rw [days_next_month y m hm1 hm, daysFromCivil_eq y m (daysInMonth y m), daysFromCivil_eq y m 1]; omega

theorem feb_first (y : Int) : daysFromCivil y 2 1 = daysFromCivil y 1 1 + 31 := by
  rw [daysFromCivil_eq, daysFromCivil_jan1]; show yearStart (y - 1) + 337 + 1 - 719469 = _; omega
theorem dec_first (y : Int) : daysFromCivil y 12 1 + 31 = daysFromCivil (y + 1) 1 1 := by
  rw [daysFromCivil_eq, daysFromCivil_jan1, Int.add_sub_cancel]; show yearStart y + 275 + 1 - 719469 + 31 = _; omega

theorem mw_year (ms ws ds me we de : Nat) (h2 : 2 ≤ ms) (hlt : ms < me) (h11 : me ≤ 11)
    (hws1 : 1 ≤ ws) (hws5 : ws ≤ 5) (hwe1 : 1 ≤ we) (hwe5 : we ≤ 5) (y : Int) :
    ((RuleDay.monthWeekday ms ws ds).transitionDate y).1 < ((RuleDay.monthWeekday me we de).transitionDate y).1 ∧
    daysFromCivil y 1 1 + 31 ≤ (RuleDay.monthWeekday ms ws ds).day y ∧
    (RuleDay.monthWeekday ms ws ds).day y + 1 ≤ (RuleDay.monthWeekday me we de).day y ∧
    (RuleDay.monthWeekday me we de).day y + 32 ≤ daysFromCivil (y + 1) 1 1 := by
  obtain ⟨s0, s1, s2⟩ := day_mw ms ws ds (by omega) (by omega) hws1 hws5 y
  obtain ⟨e0, e1, e2⟩ := day_mw me we de (by omega) (by omega) hwe1 hwe5 y
  have a1 := month_first_mono y 2 ms (by omega) h2 (by omega)
  have a2 := feb_first y
  have a3 := month_last y ms (by omega) (by omega)
  have a4 := month_first_mono y (ms + 1) me (by omega) (by omega) (by omega)
  have a5 := month_last y me (by omega) (by omega)
  have a6 := month_first_mono y (me + 1) 12 (by omega) (by omega) (by omega)
  have a7 := dec_first y
  rw [s0, e0]
  omega

end Slac.Time
