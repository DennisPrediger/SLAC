/-
  SlacProofs.OrderStable — why the insertion-sort model stands for Rust's `slice::sort` on the Safe domain:
  on a Safe collection the sorted permutation that keeps equivalent elements in their original order
  (what a stable sort returns) is unique, and `sortBy` is that permutation.
-/
import SlacProofs.OrderSort
set_option autoImplicit false
namespace Slac
namespace Order
variable {N : Type} [NumOps N]
open Value StdOrder

/-- `y` is in the equivalence class of `a` -/
def eqv (a y : Value N) : Bool := cmp a y == .eq

/-- `ys` keeps the members of every class (of an element of `xs`) in the order they have in `xs` -/
def StableOf (xs ys : List (Value N)) : Prop :=
  ∀ a ∈ xs, ys.filter (eqv a) = xs.filter (eqv a)

variable [LawfulNum N]

/-- two sorted permutations of each other with the same class sub-sequences are equal (orientation only) -/
theorem sorted_stable_unique (ys : List (Value N)) :
    ∀ zs : List (Value N), ys.Perm zs →
      ys.Pairwise (fun a b => Value.le a b = true) → zs.Pairwise (fun a b => Value.le a b = true) →
      (∀ a ∈ ys, ys.filter (eqv a) = zs.filter (eqv a)) → ys = zs := by
  induction ys with
  | nil => intro zs hp _ _ _; exact (List.Perm.nil_eq hp)
  | cons y ys' ih =>
    intro zs hp hy hz hf
    cases zs with
    | nil => exact absurd hp.eq_nil (List.cons_ne_nil _ _)
    | cons z zs' =>
      have hy' := List.pairwise_cons.1 hy
      have hz' := List.pairwise_cons.1 hz
      -- the two heads are below each other, hence in one class, and `y` heads that class on both sides
      have h1 : Value.le y z = true := by
        rcases List.mem_cons.1 (hp.mem_iff.2 (List.mem_cons_self ..)) with h | h
        · rw [h]; exact le_refl y
        · exact hy'.1 z h
      have h2 : Value.le z y = true := by
        rcases List.mem_cons.1 (hp.mem_iff.1 (List.mem_cons_self ..)) with h | h
        · rw [h]; exact le_refl z
        · exact hz'.1 y h
      have e : eqv y z = true := beq_iff_eq.2 (cmp_eq_of_le_le h1 h2)
      have hhead := hf y (List.mem_cons_self ..)
      have e' : eqv y y = true := beq_iff_eq.2 Std.ReflCmp.compare_self
      rw [List.filter_cons_of_pos e', List.filter_cons_of_pos e] at hhead
      cases (List.cons.inj hhead).1
      have hf' : ∀ a ∈ ys', ys'.filter (eqv a) = zs'.filter (eqv a) := by
        intro a ha
        have := hf a (List.mem_cons_of_mem _ ha)
        rw [List.filter_cons, List.filter_cons] at this
        split at this
        · exact (List.cons.inj this).2
        · exact this
      rw [ih zs' (List.Perm.cons_inv hp) hy'.2 hz'.2 hf']

theorem insertBy_filter {S : List (Value N)} (hS : Safe S) {a x : Value N} (ha : a ∈ S) (hx : x ∈ S)
    (l : List (Value N)) (hl : ∀ y ∈ l, y ∈ S) :
    (insertBy x l).filter (eqv a) = (x :: l).filter (eqv a) := by
  induction l with
  | nil => rfl
  | cons y ys ih =>
    by_cases hc : cmp x y = .gt
    · -- `x` passes `y`: they are not both in the class of `a`
      have hnot : eqv a x = true → eqv a y = false := by
        intro h1
        have hxa : cmp x a = .eq := by rw [cmp_swap a x, beq_iff_eq.1 h1]; rfl
        have hay := (cmp_tri_of_safe hS hx ha (hl y (List.mem_cons_self ..))).1 hxa
        rw [eqv, ← hay, hc]; rfl
      rw [insertBy_of_gt ys hc, List.filter_cons, ih (fun y hy => hl y (List.mem_cons_of_mem _ hy)),
        List.filter_cons (x := x), List.filter_cons (x := x), List.filter_cons (x := y)]
      cases hax : eqv a x
      · rfl
      · rw [hnot hax]; rfl
    · rw [insertBy_of_not_gt ys hc]

theorem sortBy_stable {xs : List (Value N)} (h : Safe xs) : StableOf xs (sortBy xs) := by
  suffices H : ∀ l : List (Value N), (∀ y ∈ l, y ∈ xs) → ∀ a ∈ xs, (sortBy l).filter (eqv a) = l.filter (eqv a) from
    fun a ha => H xs (fun _ hy => hy) a ha
  intro l
  induction l with
  | nil => intro _ _ _; rfl
  | cons x l ih =>
    intro hl a ha
    have hl' : ∀ y ∈ l, y ∈ xs := fun y hy => hl y (List.mem_cons_of_mem _ hy)
    simp only [sortBy]
    rw [insertBy_filter h ha (hl x (List.mem_cons_self ..)) (sortBy l) (fun y hy => hl' y (mem_sortBy.1 hy))]
    simp only [List.filter_cons]
    rw [ih hl' a ha]

theorem sortBy_pairwise {xs : List (Value N)} (h : Safe xs) :
    (sortBy xs).Pairwise (fun a b => Value.le a b = true) :=
  pairwise_of_adj h.transOn (sortBy xs) (fun _ hy => mem_sortBy.1 hy) (sortBy_adj xs)

theorem stable_sort_unique {xs ys : List (Value N)} (h : Safe xs) (hp : ys.Perm xs)
    (hs : ys.Pairwise (fun a b => Value.le a b = true)) (hst : StableOf xs ys) : ys = sortBy xs := by
  apply sorted_stable_unique ys (sortBy xs) (hp.trans (sortBy_perm xs).symm) hs (sortBy_pairwise h)
  intro a ha
  have ha' : a ∈ xs := hp.mem_iff.1 ha
  rw [hst a ha', sortBy_stable h a ha']

end Order
end Slac
