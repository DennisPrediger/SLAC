/-
  SlacProofs.Tables — theorems about the REGENERATED tables (SlacModel/Generated/*.lean are rewritten from the
  running crate on every check run, so these are re-checked against what the code says now).
  All are finite statements decided by kernel evaluation (`decide +kernel`), no axioms beyond the kernel's.
-/
import SlacModel.Generated.Builtins
import SlacModel.Generated.Dispatch
set_option autoImplicit false
namespace Slac.Tables
open Slac.Generated

/-- the kind tuples of length 0..5: 1 + 4 + … + 4^5 -/
def nTuples : Nat := 1365

/-- length of kind tuple number t (tuples are enumerated length-first) -/
def tupleLen (t : Nat) : Nat := if t < 1 then 0 else if t < 5 then 1 else if t < 21 then 2 else if t < 85 then 3 else if t < 341 then 4 else 5
def tupleOffset (len : Nat) : Nat := (4 ^ len - 1) / 3
/-- kind (0..3) of argument p of tuple t -/
def tupleKind (t p : Nat) : Nat := ((t - tupleOffset (tupleLen t)) / 4 ^ p) % 4

/-- the two flags of builtin row `d` for tuple t -/
def countFlag (d t : Nat) : Bool := (d >>> (2 * t)) % 2 == 1
def panicFlag (d t : Nat) : Bool := (d >>> (2 * t + 1)) % 2 == 1

/-- n lies within the registered arity -/
def inArity (r : BuiltinRow) (n : Nat) : Bool :=
  match r.kind with
  | 0 => r.req ≤ n && n ≤ r.req + r.opt
  | 1 => 1 ≤ n
  | _ => n == 0

/-- every argument of tuple t is of a kind the declaration documents for its position (`...` = anything) -/
def matchesDoc (r : BuiltinRow) (t : Nat) : Bool :=
  r.variadicDoc || (List.range (tupleLen t)).all fun p =>
    match r.docMasks[p]? with
    | some m => (m >>> tupleKind t p) % 2 == 1
    | none => true

/-- the code `function_exists` has to answer (Builtins.lean): 1 WrongArity, 2 Exists pure, 3 Exists impure -/
def expectedAnswer (r : BuiltinRow) (n : Nat) : Nat := if inArity r n then (if r.pure then 2 else 3) else 1

def rowsOk (p : BuiltinRow → Nat → Bool) : Bool :=
  (List.zip builtins dispatch).all fun (r, d) => p r d

/-- C14: exactly `random` and `choice` are registered impure. -/
theorem impure_exactly :
    (builtins.filter (fun r => !r.pure)).map (·.name) = [['r','a','n','d','o','m'], ['c','h','o','i','c','e']] := by
  decide +kernel

/-- C10: a fresh environment reports each builtin callable with n arguments (n = 0..6) exactly when n lies within
    the arity it was registered with, with its purity. -/
theorem registry_consistent :
    builtins.all (fun r => r.existsAnswers == (List.range 7).map (expectedAnswer r)) = true := by
  decide +kernel

theorem tables_aligned : builtins.length = dispatch.length := by decide +kernel

theorem rowsOk_mono {p q : BuiltinRow → Nat → Bool} (h : ∀ r d, p r d = true → q r d = true)
    (hp : rowsOk p = true) : rowsOk q = true := by
  simp only [rowsOk, List.all_eq_true] at hp ⊢
  exact fun x hx => h _ _ (hp x hx)

theorem tupleLen_bounds {t : Nat} (ht : t < nTuples) :
    tupleLen t < 6 ∧ tupleOffset (tupleLen t) ≤ t ∧ t < tupleOffset (tupleLen t) + 4 ^ tupleLen t := by
  unfold tupleLen
  by_cases h1 : t < 1; · rw [if_pos h1]; exact ⟨by decide, Nat.zero_le _, h1⟩
  by_cases h2 : t < 5; · rw [if_neg h1, if_pos h2]; exact ⟨by decide, Nat.le_of_not_lt h1, h2⟩
  by_cases h3 : t < 21; · rw [if_neg h1, if_neg h2, if_pos h3]; exact ⟨by decide, Nat.le_of_not_lt h2, h3⟩
  by_cases h4 : t < 85; · rw [if_neg h1, if_neg h2, if_neg h3, if_pos h4]; exact ⟨by decide, Nat.le_of_not_lt h3, h4⟩
  by_cases h5 : t < 341
  · rw [if_neg h1, if_neg h2, if_neg h3, if_neg h4, if_pos h5]; exact ⟨by decide, Nat.le_of_not_lt h4, h5⟩
  · rw [if_neg h1, if_neg h2, if_neg h3, if_neg h4, if_neg h5]; exact ⟨by decide, Nat.le_of_not_lt h5, ht⟩

theorem countFlag_of_lt {d t : Nat} (h : d < 4 ^ t) : countFlag d t = false := by
  simp [countFlag, Nat.shiftRight_eq_div_pow, Nat.pow_mul, Nat.div_eq_of_lt h]

/-- what the kernel evaluates for `no_param_count_error`: lengths outside the arity are skipped, not tested per tuple -/
def countOk (r : BuiltinRow) (d : Nat) : Bool :=
  (List.range 6).all fun len => !inArity r len || d < 4 ^ tupleOffset len ||
    (List.range' (tupleOffset len) (4 ^ len)).all fun t => !(matchesDoc r t && countFlag d t)

theorem countOk_sound (r : BuiltinRow) (d : Nat) (h : countOk r d = true) :
    ((List.range nTuples).all fun t => !(inArity r (tupleLen t) && matchesDoc r t && countFlag d t)) = true := by
  rw [List.all_eq_true]
  intro t ht
  obtain ⟨h6, hlo, hhi⟩ := tupleLen_bounds (List.mem_range.1 ht)
  have h := List.all_eq_true.1 h _ (List.mem_range.2 h6)
  simp only [Bool.or_eq_true, Bool.not_eq_true', decide_eq_true_eq] at h
  rcases h with (h | h) | h
  · rw [h]; rfl
  · rw [countFlag_of_lt (Nat.lt_of_lt_of_le h (Nat.pow_le_pow_right (by decide) hlo))]; simp
  · rw [Bool.and_assoc, Bool.not_and, List.all_eq_true.1 h t (List.mem_range'_1.2 ⟨hlo, hhi⟩), Bool.or_true]

/-- C10: no call of a builtin with an argument count inside its registered arity and arguments of the documented
    kinds answers `WrongParameterCount` (all 1365 kind tuples of length ≤ 5, 8 value combinations each). -/
theorem no_param_count_error :
    rowsOk (fun r d => (List.range nTuples).all fun t => !(inArity r (tupleLen t) && matchesDoc r t && countFlag d t)) = true :=
  rowsOk_mono countOk_sound (by decide +kernel)

/-- bits 0, 2, …, 2n-2 -/
def evenBits : Nat → Nat
  | 0 => 0
  | n + 1 => 4 * evenBits n + 1

theorem testBit_evenBits (n t : Nat) : (evenBits n).testBit (2 * t) = decide (t < n) := by
  induction n generalizing t with
  | zero => simp [evenBits]
  | succ n ih =>
    cases t with
    | zero => simp [evenBits, Nat.testBit_zero]; omega
    | succ t =>
      have e : evenBits (n + 1) / 2 / 2 = evenBits n := by simp only [evenBits]; omega
      rw [show 2 * (t + 1) = (2 * t).succ.succ from rfl, Nat.testBit_succ, Nat.testBit_succ, e, ih]
      simp

theorem panicFlag_eq_testBit (d t : Nat) : panicFlag d t = d.testBit (2 * t + 1) := by
  rw [panicFlag, Nat.testBit_eq_decide_div_mod_eq, Nat.shiftRight_eq_div_pow, Bool.beq_eq_decide_eq]

theorem noPanic_sound (_r : BuiltinRow) (d : Nat) (h : (d &&& 2 * evenBits nTuples == 0) = true) :
    ((List.range nTuples).all fun t => !panicFlag d t) = true := by
  rw [List.all_eq_true]
  intro t ht
  have hm : (2 * evenBits nTuples).testBit (2 * t + 1) = true := by
    rw [Nat.testBit_succ, Nat.mul_div_cancel_left _ Nat.two_pos, testBit_evenBits]
    exact decide_eq_true (List.mem_range.1 ht)
  have hd := Nat.testBit_and d (2 * evenBits nTuples) (2 * t + 1)
  rw [eq_of_beq h, Nat.zero_testBit, hm, Bool.and_true] at hd
  rw [panicFlag_eq_testBit, ← hd]; rfl

/-- C09: no builtin panicked on any kind tuple of length ≤ 5 (representative values). -/
theorem dispatch_no_panic :
    rowsOk (fun _ d => (List.range nTuples).all fun t => !panicFlag d t) = true :=
  rowsOk_mono noPanic_sound (by decide +kernel)

/-- the packed rows really are read tuple-wise: `no_param_count_error` for one builtin and one tuple -/
theorem no_param_count_error_at (i t : Nat) (hi : i < builtins.length) (ht : t < nTuples)
    (ha : inArity (builtins[i]) (tupleLen t) = true) (hd : matchesDoc (builtins[i]) t = true) :
    countFlag (dispatch[i]'(by rw [← tables_aligned]; exact hi)) t = false := by
  have h := no_param_count_error
  simp only [rowsOk, List.all_eq_true] at h
  have hz : (builtins[i], dispatch[i]'(by rw [← tables_aligned]; exact hi)) ∈ List.zip builtins dispatch := by
    rw [List.mem_iff_getElem]
    exact ⟨i, by simp [List.length_zip, ← tables_aligned, hi], by simp [List.getElem_zip]⟩
  have := h _ hz t (List.mem_range.mpr ht)
  simp only [ha, hd, Bool.true_and, Bool.not_eq_true'] at this
  exact this

end Slac.Tables
