/-
  SlacProofs.TimeCal — the calendar arithmetic of SlacModel.TimeCore (pure Int/Nat, no numbers):
  `civilFromDays` and `daysFromCivil` are mutually inverse on ALL integers (no year restriction), day numbers
  count days since 1970-01-01, weekday/leap/month-length rules, `ofMillis`, `addMonths`.
  Both conversions work in the year that begins on 1 March: `yearStart` and `monthStart` below carry all the
  arithmetic, and the other proofs are linear in them.
-/
import SlacModel.Time
set_option autoImplicit false
namespace Slac.Time

/-- month and day exist in year `y` (no year range) -/
def ValidMD (y : Int) (m d : Nat) : Prop := 1 ≤ m ∧ m ≤ 12 ∧ 1 ≤ d ∧ d ≤ daysInMonth y m

theorem validDate_iff (y : Int) (m d : Nat) :
    validDate y m d = true ↔ (minYear ≤ y ∧ y ≤ maxYear) ∧ ValidMD y m d := by
  simp [validDate, ValidMD, and_assoc]

theorem isLeap_iff (y : Int) : isLeap y = true ↔ (y % 4 = 0 ∧ (y % 100 ≠ 0 ∨ y % 400 = 0)) := by
  simp [isLeap]

theorem daysInMonth_cases (y : Int) (m : Nat) (hm1 : 1 ≤ m) (hm12 : m ≤ 12) :
    ((m = 1 ∨ m = 3 ∨ m = 5 ∨ m = 7 ∨ m = 8 ∨ m = 10 ∨ m = 12) ∧ daysInMonth y m = 31) ∨
    ((m = 4 ∨ m = 6 ∨ m = 9 ∨ m = 11) ∧ daysInMonth y m = 30) ∨
    (m = 2 ∧ (y % 4 = 0 ∧ (y % 100 ≠ 0 ∨ y % 400 = 0)) ∧ daysInMonth y m = 29) ∨
    (m = 2 ∧ ¬ (y % 4 = 0 ∧ (y % 100 ≠ 0 ∨ y % 400 = 0)) ∧ daysInMonth y m = 28) := by
  have hm : m = 1 ∨ m = 2 ∨ m = 3 ∨ m = 4 ∨ m = 5 ∨ m = 6 ∨ m = 7 ∨ m = 8 ∨ m = 9 ∨ m = 10 ∨ m = 11 ∨ m = 12 := by omega
  rw [← isLeap_iff]
  rcases hm with rfl | rfl | rfl | rfl | rfl | rfl | rfl | rfl | rfl | rfl | rfl | rfl
  case inr.inl =>
    by_cases hl : isLeap y = true
    · exact .inr (.inr (.inl ⟨rfl, hl, if_pos hl⟩))
    · exact .inr (.inr (.inr ⟨rfl, hl, if_neg hl⟩))
  all_goals simp [daysInMonth]

theorem daysInMonth_bounds (y : Int) {m : Nat} (hm1 : 1 ≤ m) (hm12 : m ≤ 12) :
    28 ≤ daysInMonth y m ∧ daysInMonth y m ≤ 31 := by
  rcases daysInMonth_cases y m hm1 hm12 with ⟨_, e⟩ | ⟨_, e⟩ | ⟨_, _, e⟩ | ⟨_, _, e⟩ <;> omega

theorem validDate_bounds {y : Int} {m d : Nat} (hv : validDate y m d = true) : (1 ≤ m ∧ m ≤ 12) ∧ (1 ≤ d ∧ d ≤ 31) := by
  obtain ⟨_, hm1, hm12, hd1, hd⟩ := (validDate_iff y m d).1 hv
  have := (daysInMonth_bounds y hm1 hm12).2
  omega

/-- days from 0000-03-01 to 1 March of year `y` -/
def yearStart (y : Int) : Int := 365 * y + y / 4 - y / 100 + y / 400

/-- days from 1 March to the first of month `mp` (March = 0, …, February = 11) -/
def monthStart (mp : Int) : Int := (153 * mp + 2) / 5

theorem daysFromCivil_eq (y : Int) (m d : Nat) :
    daysFromCivil y m d =
      yearStart (if m ≤ 2 then y - 1 else y) + monthStart (((m : Int) + 9) % 12) + d - 719469 := by
  simp only [daysFromCivil, yearStart, monthStart]
  generalize (if m ≤ 2 then y - 1 else y) = y'
  omega

theorem daysFromCivil_jan1 (y : Int) : daysFromCivil y 1 1 = yearStart (y - 1) + 306 - 719468 := by
  rw [daysFromCivil_eq]
  show yearStart (y - 1) + 306 + 1 - 719469 = _
  omega

theorem daysFromCivil_dec31 (y : Int) : daysFromCivil y 12 31 = yearStart y + 305 - 719468 := by
  rw [daysFromCivil_eq]
  show yearStart y + 275 + 31 - 719469 = _
  omega

theorem yearStart_add_era (y e : Int) : yearStart (y + e * 400) = yearStart y + e * 146097 := by
  simp only [yearStart]; omega

theorem yearStart_succ (y : Int) : yearStart (y + 1) = yearStart y + if isLeap (y + 1) then 366 else 365 := by
  simp only [yearStart]
  split
  · rename_i h; rw [isLeap_iff] at h; omega
  · rename_i h; rw [isLeap_iff] at h; omega

theorem yearStart_succ_le (y : Int) :
    yearStart y + 365 ≤ yearStart (y + 1) ∧ yearStart (y + 1) ≤ yearStart y + 366 := by
  rw [yearStart_succ]; split <;> omega

theorem yearStart_mono {y1 y2 : Int} (h : y1 ≤ y2) : yearStart y1 + 365 * (y2 - y1) ≤ yearStart y2 := by
  simp only [yearStart]; omega

/-- by induction on the days of an era (`yearStart` increases), then periodicity -/
theorem year_exists (n : Int) : ∃ y, yearStart y ≤ n ∧ n < yearStart (y + 1) := by
  have era : ∀ k : Nat, ∃ y, yearStart y ≤ k ∧ (k : Int) < yearStart (y + 1) := by
    intro k
    induction k with
    | zero => exact ⟨0, by decide, by decide⟩
    | succ k ih =>
      obtain ⟨y, h1, h2⟩ := ih
      by_cases h : ((k + 1 : Nat) : Int) < yearStart (y + 1)
      · exact ⟨y, by omega, h⟩
      · exact ⟨y + 1, by omega, by have := (yearStart_succ_le (y + 1)).1; omega⟩
  obtain ⟨y, h1, h2⟩ := era (n % 146097).toNat
  refine ⟨y + n / 146097 * 400, ?_, ?_⟩
  · rw [yearStart_add_era]; omega
  · rw [show y + n / 146097 * 400 + 1 = y + 1 + n / 146097 * 400 by omega, yearStart_add_era]; omega

theorem month_of_day (doy mp : Int) :
    (5 * doy + 2) / 153 = mp ↔ monthStart mp ≤ doy ∧ doy < monthStart (mp + 1) := by
  simp only [monthStart]; omega

theorem monthStart_bounds {mp : Int} (h0 : 0 ≤ mp) (h1 : mp ≤ 11) :
    0 ≤ monthStart mp ∧ (mp ≤ 9 → monthStart (mp + 1) ≤ 306) ∧ (mp ≤ 10 → monthStart (mp + 1) ≤ 337) ∧
    (10 ≤ mp → 306 ≤ monthStart mp) := by
  simp only [monthStart]; omega

/-- month lengths: the table behind `monthStart`, and February as the rest of the year -/
theorem month_length (y : Int) {m : Nat} (hm1 : 1 ≤ m) (hm12 : m ≤ 12) :
    (daysInMonth y m : Int) =
      if m = 2 then yearStart y - yearStart (y - 1) - 337
      else monthStart (((m : Int) + 9) % 12 + 1) - monthStart (((m : Int) + 9) % 12) := by
  have hm : m = 1 ∨ m = 2 ∨ m = 3 ∨ m = 4 ∨ m = 5 ∨ m = 6 ∨ m = 7 ∨ m = 8 ∨ m = 9 ∨ m = 10 ∨ m = 11 ∨ m = 12 := by omega
  rcases hm with rfl | rfl | rfl | rfl | rfl | rfl | rfl | rfl | rfl | rfl | rfl | rfl
  case inr.inl =>
    have := yearStart_succ (y - 1)
    rw [Int.sub_add_cancel] at this
    show ((if isLeap y then 29 else 28 : Nat) : Int) = _
    rw [if_pos rfl, this]
    split <;> omega
  all_goals rfl

theorem day_le_iff (y : Int) {m : Nat} (hm1 : 1 ≤ m) (hm12 : m ≤ 12) (d : Nat) {Y mp doy : Int}
    (hY : Y = if m ≤ 2 then y - 1 else y) (hmp : mp = ((m : Int) + 9) % 12) (hdoy : doy = monthStart mp + d - 1) :
    d ≤ daysInMonth y m ↔ doy < monthStart (mp + 1) ∧ yearStart Y + doy < yearStart (Y + 1) := by
  have hlen := month_length y hm1 hm12
  have hyear := yearStart_succ_le Y
  by_cases h2 : m = 2
  · subst h2
    obtain rfl : y = Y + 1 := by omega
    obtain rfl : mp = 11 := by omega
    have e11 : monthStart 11 = 337 := rfl
    have e12 : monthStart (11 + 1) = 367 := rfl
    rw [if_pos rfl, Int.add_sub_cancel] at hlen
    omega
  · rw [if_neg h2, ← hmp] at hlen
    have := monthStart_bounds (mp := mp) (by omega) (by omega)
    omega

/-- Hinnant's formula for the year of the era -/
theorem yoe_formula {yoe doe : Int} (h0 : 0 ≤ yoe) (h1 : yoe < 400) (hlo : yearStart yoe ≤ doe)
    (hhi : doe < yearStart (yoe + 1)) :
    (doe - doe / 1460 + doe / 36524 - doe / 146096) / 365 = yoe := by
  -- century `c`, 4-year cycle `q` of the century, year `s` of the cycle, day `doy` of the year
  obtain ⟨c, q, s, rfl, c0, q0, q24, s0, s3⟩ :
      ∃ c q s, yoe = c * 100 + q * 4 + s ∧ 0 ≤ c ∧ 0 ≤ q ∧ q ≤ 24 ∧ 0 ≤ s ∧ s ≤ 3 :=
    ⟨yoe / 100, yoe / 4 - yoe / 100 * 25, yoe - yoe / 4 * 4, by omega⟩
  have c3 : c ≤ 3 := by omega
  have hs : yearStart (c * 100 + q * 4 + s) = c * 36524 + q * 1461 + s * 365 := by
    have h4 : (c * 100 + q * 4 + s) / 4 = c * 25 + q := by omega
    have h100 : (c * 100 + q * 4 + s) / 100 = c := by omega
    have h400 : (c * 100 + q * 4 + s) / 400 = 0 := by omega
    simp only [yearStart, h4, h100, h400]; omega
  rw [yearStart_succ, hs] at hhi
  rw [hs] at hlo
  obtain ⟨doy, rfl⟩ : ∃ doy, doe = c * 36524 + (q * 1461 + (s * 365 + doy)) :=
    ⟨doe - (c * 36524 + q * 1461 + s * 365), by omega⟩
  have d0 : 0 ≤ doy := by omega
  have d1 : doy ≤ 365 ∧ (doy = 365 → s = 3 ∧ (q < 24 ∨ c = 3)) := by
    split at hhi
    · rename_i hleap
      rw [isLeap_iff] at hleap
      omega
    · omega
  clear hhi hlo hs h0 h1
  generalize hr2 : s * 365 + doy = r2
  generalize hr1 : q * 1461 + r2 = r1
  have hg : (c * 36524 + r1) / 36524 - (c * 36524 + r1) / 146096 = c := by
    have hr : 0 ≤ r1 ∧ r1 ≤ 36524 ∧ (r1 = 36524 → c = 3) := by omega
    clear hr1 hr2 d1
    by_cases h : r1 = 36524 <;> omega
  have e : c * 36524 + r1 - (c * 36524 + r1) / 1460 + (c * 36524 + r1) / 36524 - (c * 36524 + r1) / 146096
      = c * 36524 + r1 - (c * 36524 + r1) / 1460 + c := by omega
  rw [e]
  clear hg e
  -- dividing by 1460 instead of 1461 counts the leap day, the last day of the cycle, as already passed
  by_cases ht : 1460 ≤ c * 24 + q + r2
  · have hf : (c * 36524 + r1) / 1460 = c * 25 + q + 1 := by omega
    rw [hf]; omega
  · have hf : (c * 36524 + r1) / 1460 = c * 25 + q := by omega
    rw [hf]; omega

/-- the `let`s of `civilFromDays` as equations -/
theorem civilFromDays_eq {z era doe yoe doy mp : Int} (hera : era = (z + 719468) / 146097)
    (hdoe : doe = z + 719468 - era * 146097)
    (hyoe : yoe = (doe - doe / 1460 + doe / 36524 - doe / 146096) / 365)
    (hdoy : doy = doe - (365 * yoe + yoe / 4 - yoe / 100)) (hmp : mp = (5 * doy + 2) / 153) :
    civilFromDays z =
      (if (if mp < 10 then mp + 3 else mp - 9) ≤ 2 then yoe + era * 400 + 1 else yoe + era * 400,
       (if mp < 10 then mp + 3 else mp - 9).toNat, (doy - (153 * mp + 2) / 5 + 1).toNat) := by
  subst hmp hdoy hyoe hdoe hera; rfl

theorem civilFromDays_of_position {z Y doy mp : Int} (hz : z + 719468 = yearStart Y + doy) (h0 : 0 ≤ doy)
    (hlt : yearStart Y + doy < yearStart (Y + 1)) (hm0 : monthStart mp ≤ doy) (hm1 : doy < monthStart (mp + 1)) :
    civilFromDays z =
      (if (if mp < 10 then mp + 3 else mp - 9) ≤ 2 then Y + 1 else Y,
       (if mp < 10 then mp + 3 else mp - 9).toNat, (doy - monthStart mp + 1).toNat) := by
  obtain ⟨era, yoe, rfl, y0, y1⟩ : ∃ era yoe, Y = yoe + era * 400 ∧ 0 ≤ yoe ∧ yoe < 400 :=
    ⟨Y / 400, Y % 400, by omega, by omega, by omega⟩
  rw [show yoe + era * 400 + 1 = yoe + 1 + era * 400 by omega, yearStart_add_era] at hlt
  rw [yearStart_add_era] at hz hlt
  have b0 : 0 ≤ yearStart yoe := by simp only [yearStart]; omega
  have b1 : yearStart (yoe + 1) ≤ yearStart 400 := by
    have := yearStart_mono (show yoe + 1 ≤ 400 by omega); omega
  have e400 : yearStart 400 = 146097 := rfl
  have hera : era = (z + 719468) / 146097 := by omega
  have hyoe := yoe_formula (doe := z + 719468 - era * 146097) y0 y1 (by omega) (by omega)
  have hdoy : doy = z + 719468 - era * 146097 - (365 * yoe + yoe / 4 - yoe / 100) := by
    have : yoe / 400 = 0 := by omega
    simp only [yearStart, this] at hz; omega
  rw [civilFromDays_eq hera rfl hyoe.symm hdoy ((month_of_day doy mp).2 ⟨hm0, hm1⟩).symm]
  rfl

theorem civil_roundtrip_md (y : Int) (m d : Nat) (h : ValidMD y m d) :
    civilFromDays (daysFromCivil y m d) = (y, m, d) := by
  obtain ⟨hm1, hm12, hd1, hd⟩ := h
  obtain ⟨b1, b2⟩ := (day_le_iff y hm1 hm12 d rfl rfl rfl).1 hd
  have := monthStart_bounds (mp := ((m : Int) + 9) % 12) (by omega) (by omega)
  rw [civilFromDays_of_position (by rw [daysFromCivil_eq]; omega) (by omega) b2 (by omega) b1]
  refine Prod.ext ?_ (Prod.ext ?_ ?_) <;> simp only <;> omega

theorem daysFromCivil_surj (z : Int) : ∃ y m d, ValidMD y m d ∧ daysFromCivil y m d = z := by
  obtain ⟨Y, h0, h1⟩ := year_exists (z + 719468)
  obtain ⟨doy, rfl⟩ : ∃ doy, z = yearStart Y + doy - 719468 := ⟨z + 719468 - yearStart Y, by omega⟩
  obtain ⟨mp, hmp⟩ : ∃ mp, (5 * doy + 2) / 153 = mp := ⟨_, rfl⟩
  obtain ⟨m0, m1⟩ := (month_of_day doy mp).1 hmp
  have hyear := yearStart_succ_le Y
  have hmp0 : 0 ≤ mp ∧ mp ≤ 11 := by omega
  obtain ⟨m, hm⟩ : ∃ m : Nat, (m : Int) = if mp < 10 then mp + 3 else mp - 9 :=
    ⟨(if mp < 10 then mp + 3 else mp - 9).toNat, by omega⟩
  obtain ⟨d, hd⟩ : ∃ d : Nat, (d : Int) = doy - monthStart mp + 1 := ⟨(doy - monthStart mp + 1).toNat, by omega⟩
  obtain ⟨y, hy⟩ : ∃ y, y = if mp < 10 then Y else Y + 1 := ⟨_, rfl⟩
  have hm1 : 1 ≤ m ∧ m ≤ 12 := by omega
  have hmp' : ((m : Int) + 9) % 12 = mp := by omega
  refine ⟨y, m, d, ⟨hm1.1, hm1.2, by omega, ?_⟩, ?_⟩
  · exact (day_le_iff y hm1.1 hm1.2 d (Y := Y) (doy := doy) (by omega) hmp'.symm (by omega)).2 ⟨m1, by omega⟩
  · rw [daysFromCivil_eq, hmp', show (if m ≤ 2 then y - 1 else y) = Y by omega]
    omega

theorem days_roundtrip (z : Int) :
    daysFromCivil (civilFromDays z).1 (civilFromDays z).2.1 (civilFromDays z).2.2 = z := by
  obtain ⟨y, m, d, hv, rfl⟩ := daysFromCivil_surj z
  rw [civil_roundtrip_md y m d hv]

theorem civilFromDays_validMD (z : Int) :
    ValidMD (civilFromDays z).1 (civilFromDays z).2.1 (civilFromDays z).2.2 := by
  obtain ⟨y, m, d, hv, rfl⟩ := daysFromCivil_surj z
  rw [civil_roundtrip_md y m d hv]; exact hv

theorem daysFromCivil_inj {y1 y2 : Int} {m1 d1 m2 d2 : Nat} (h1 : ValidMD y1 m1 d1) (h2 : ValidMD y2 m2 d2)
    (h : daysFromCivil y1 m1 d1 = daysFromCivil y2 m2 d2) : (y1, m1, d1) = (y2, m2, d2) := by
  rw [← civil_roundtrip_md y1 m1 d1 h1, ← civil_roundtrip_md y2 m2 d2 h2, h]

theorem days_epoch : daysFromCivil 1970 1 1 = 0 := by decide

theorem days_next_day (y : Int) (m d : Nat) : daysFromCivil y m (d + 1) = daysFromCivil y m d + 1 := by
  simp only [daysFromCivil_eq]; omega

theorem days_next_month (y : Int) (m : Nat) (hm1 : 1 ≤ m) (hm : m < 12) :
    daysFromCivil y (m + 1) 1 = daysFromCivil y m (daysInMonth y m) + 1 := by
  rw [daysFromCivil_eq, daysFromCivil_eq, month_length y hm1 (by omega)]
  by_cases h2 : m = 2
  · subst h2
    show yearStart y + 0 + 1 - 719469 = yearStart (y - 1) + 337 + (yearStart y - yearStart (y - 1) - 337) - 719469 + 1
    omega
  · rw [if_neg h2, show (if m + 1 ≤ 2 then y - 1 else y) = (if m ≤ 2 then y - 1 else y) by omega,
      show (((m + 1 : Nat) : Int) + 9) % 12 = ((m : Int) + 9) % 12 + 1 by omega]
    omega

theorem days_next_year (y : Int) : daysFromCivil (y + 1) 1 1 = daysFromCivil y 12 31 + 1 := by
  rw [daysFromCivil_jan1, daysFromCivil_dec31, Int.add_sub_cancel]; omega

theorem days_period (y : Int) (m d : Nat) : daysFromCivil (y + 400) m d = daysFromCivil y m d + 146097 := by
  rw [daysFromCivil_eq, daysFromCivil_eq,
    show (if m ≤ 2 then y + 400 - 1 else y + 400) = (if m ≤ 2 then y - 1 else y) + 1 * 400 by omega,
    yearStart_add_era]
  omega

theorem days_bounds (y : Int) (m d : Nat) (h : ValidMD y m d) :
    daysFromCivil y 1 1 ≤ daysFromCivil y m d ∧ daysFromCivil y m d ≤ daysFromCivil y 12 31 := by
  obtain ⟨hm1, hm12, hd1, hd⟩ := h
  obtain ⟨b1, b2⟩ := (day_le_iff y hm1 hm12 d rfl rfl rfl).1 hd
  have hyear := yearStart_succ_le (y - 1)
  rw [Int.sub_add_cancel] at hyear
  rw [daysFromCivil_jan1, daysFromCivil_dec31, daysFromCivil_eq]
  by_cases h2 : m ≤ 2
  · rw [if_pos h2] at b2 ⊢
    have := monthStart_bounds (mp := ((m : Int) + 9) % 12) (by omega) (by omega)
    rw [Int.sub_add_cancel] at b2
    omega
  · rw [if_neg h2]
    have := monthStart_bounds (mp := ((m : Int) + 9) % 12) (by omega) (by omega)
    omega

theorem days_year_mono (y1 y2 : Int) (h : y1 ≤ y2) : daysFromCivil y1 1 1 ≤ daysFromCivil y2 1 1 ∧
    daysFromCivil y1 12 31 ≤ daysFromCivil y2 12 31 := by
  have h1 := yearStart_mono (show y1 - 1 ≤ y2 - 1 by omega)
  have h2 := yearStart_mono h
  simp only [daysFromCivil_jan1, daysFromCivil_dec31]
  omega

/-- dates of years 1–9999 lie between 0001-01-01 (day −719162) and 9999-12-31 (day 2932896) -/
theorem days_range (y : Int) (m d : Nat) (h : ValidMD y m d) (hy1 : 1 ≤ y) (hy2 : y ≤ 9999) :
    -719162 ≤ daysFromCivil y m d ∧ daysFromCivil y m d ≤ 2932896 := by
  have b := days_bounds y m d h
  have l := (days_year_mono 1 y hy1).1
  have u := (days_year_mono y 9999 hy2).2
  have e1 : daysFromCivil 1 1 1 = -719162 := by decide
  have e2 : daysFromCivil 9999 12 31 = 2932896 := by decide
  omega

theorem weekday_spec (z : Int) : weekday z = ((z + 3) % 7).toNat := rfl
theorem weekday_epoch : weekday (daysFromCivil 1970 1 1) = 3 := by decide
theorem weekday_lt (z : Int) : weekday z < 7 := by simp only [weekday]; omega
theorem weekday_week (z : Int) : weekday (z + 7) = weekday z := by simp only [weekday]; omega
theorem weekday_succ (z : Int) : weekday (z + 1) = (weekday z + 1) % 7 := by simp only [weekday]; omega

theorem ofMillis_eq (T : Int) :
    ofMillis T =
      if minYear ≤ (civilFromDays (T / 86400000)).1 ∧ (civilFromDays (T / 86400000)).1 ≤ maxYear then
        some ⟨T / 86400000, (T % 86400000).toNat⟩ else none := by
  by_cases h1 : minYear ≤ (civilFromDays (T / 86400000)).1 <;>
  by_cases h2 : (civilFromDays (T / 86400000)).1 ≤ maxYear <;>
  simp [ofMillis, msPerDay, h1, h2]

theorem ofMillis_totalMs (days : Int) (ms : Nat) (hms : ms < 86400000)
    (hy : minYear ≤ (civilFromDays days).1 ∧ (civilFromDays days).1 ≤ maxYear) :
    ofMillis (DT.totalMs ⟨days, ms⟩) = some ⟨days, ms⟩ := by
  have e1 : (days * 86400000 + (ms : Int)) / 86400000 = days := by omega
  have e2 : ((days * 86400000 + (ms : Int)) % 86400000).toNat = ms := by omega
  rw [ofMillis_eq]
  simp only [DT.totalMs, msPerDay, e1, e2]
  rw [if_pos hy]

theorem ofMillis_some {T : Int} {t : DT} (h : ofMillis T = some t) :
    t.totalMs = T ∧ t.ms < 86400000 ∧ minYear ≤ (civilFromDays t.days).1 ∧ (civilFromDays t.days).1 ≤ maxYear := by
  rw [ofMillis_eq] at h
  by_cases hc : minYear ≤ (civilFromDays (T / 86400000)).1 ∧ (civilFromDays (T / 86400000)).1 ≤ maxYear
  · rw [if_pos hc] at h
    cases h
    simp only [DT.totalMs, msPerDay]
    refine ⟨by omega, by omega, hc.1, hc.2⟩
  · rw [if_neg hc] at h; cases h

theorem civil_components (t : DT) {y : Int} {m d : Nat} (hc : civilFromDays t.days = (y, m, d)) :
    t.year = y ∧ t.month = m ∧ t.day = d := by
  simp [DT.year, DT.month, DT.day, hc]

theorem totalMs_zero_days (ms : Nat) : DT.totalMs ⟨0, ms⟩ = (ms : Int) := by simp [DT.totalMs]

/-- the model counts seconds as `h * 3600 + mi * 60 + s` -/
theorem hms_millis (h mi s : Nat) : (h * 3600 + mi * 60 + s) * 1000 = ((h * 60 + mi) * 60 + s) * 1000 := by omega

theorem time_components (h mi s ml : Nat) (hh : h < 24) (hmi : mi < 60) (hs : s < 60) (hml : ml < 1000)
    (days : Int) :
    (DT.mk days (((h * 60 + mi) * 60 + s) * 1000 + ml)).hour = h ∧
    (DT.mk days (((h * 60 + mi) * 60 + s) * 1000 + ml)).minute = mi ∧
    (DT.mk days (((h * 60 + mi) * 60 + s) * 1000 + ml)).second = s ∧
    (DT.mk days (((h * 60 + mi) * 60 + s) * 1000 + ml)).milli = ml ∧
    ((h * 60 + mi) * 60 + s) * 1000 + ml < 86400000 := by
  simp only [DT.hour, DT.minute, DT.second, DT.milli]
  omega

theorem addMonths_eq (t : DT) (k : Int) {y : Int} {m d : Nat} (hc : civilFromDays t.days = (y, m, d)) {n : Int}
    (hn : n = y * 12 + ((m : Int) - 1) + k) :
    addMonths t k =
      if minYear ≤ n / 12 ∧ n / 12 ≤ maxYear then
        some ⟨daysFromCivil (n / 12) ((n % 12).toNat + 1) (min d (daysInMonth (n / 12) ((n % 12).toNat + 1))), t.ms⟩
      else none := by
  subst hn
  by_cases h1 : minYear ≤ (y * 12 + ((m : Int) - 1) + k) / 12 <;>
  by_cases h2 : (y * 12 + ((m : Int) - 1) + k) / 12 ≤ maxYear <;>
  simp [addMonths, hc, h1, h2]

theorem addMonths_target_valid (y' : Int) (r : Int) (d : Nat) (hd : 1 ≤ d) :
    ValidMD y' ((r % 12).toNat + 1) (min d (daysInMonth y' ((r % 12).toNat + 1))) := by
  have h1 : 1 ≤ (r % 12).toNat + 1 := by omega
  have h2 : (r % 12).toNat + 1 ≤ 12 := by omega
  have := (daysInMonth_bounds y' h1 h2).1
  exact ⟨h1, h2, by omega, Nat.min_le_right _ _⟩

theorem addMonths_some {t t2 : DT} {k : Int} (h : addMonths t k = some t2) :
    t2.ms = t.ms ∧
    t2.year * 12 + ((t2.month : Int) - 1) = t.year * 12 + ((t.month : Int) - 1) + k ∧
    t2.day = min t.day (daysInMonth t2.year t2.month) ∧
    minYear ≤ t2.year ∧ t2.year ≤ maxYear := by
  rcases hc : civilFromDays t.days with ⟨y, m, d⟩
  have hv := civilFromDays_validMD t.days
  rw [hc] at hv
  obtain ⟨n, hn⟩ : ∃ n, n = y * 12 + ((m : Int) - 1) + k := ⟨_, rfl⟩
  rw [addMonths_eq t k hc hn] at h
  split at h
  · rename_i hr
    cases h
    simp only [DT.year, DT.month, DT.day, hc, civil_roundtrip_md _ _ _ (addMonths_target_valid (n / 12) n d hv.2.2.1)]
    exact ⟨trivial, by omega, trivial, hr.1, hr.2⟩
  · cases h

theorem addMonths_none_iff (t : DT) (k : Int) :
    addMonths t k = none ↔
      ¬ (minYear ≤ (t.year * 12 + ((t.month : Int) - 1) + k) / 12 ∧ (t.year * 12 + ((t.month : Int) - 1) + k) / 12 ≤ maxYear) := by
  rcases hc : civilFromDays t.days with ⟨y, m, d⟩
  simp only [addMonths_eq t k hc rfl, DT.year, DT.month, hc]
  split <;> simp [*]

theorem addMonths_zero (t : DT) (h : minYear ≤ t.year ∧ t.year ≤ maxYear) : addMonths t 0 = some t := by
  rcases hc : civilFromDays t.days with ⟨y, m, d⟩
  have hv := civilFromDays_validMD t.days
  have hrt := days_roundtrip t.days
  simp only [DT.year, hc] at hv hrt h
  obtain ⟨hm1, hm12, hd1, hd⟩ := hv
  have e1 : (y * 12 + ((m : Int) - 1) + 0) / 12 = y := by omega
  have e2 : ((y * 12 + ((m : Int) - 1) + 0) % 12).toNat + 1 = m := by omega
  rw [addMonths_eq t 0 hc rfl, e1, e2, Nat.min_eq_left hd, hrt, if_pos h]

end Slac.Time
