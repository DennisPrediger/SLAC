/-
  SlacProofs.OptRefine — `transform_ternary` on trees whose variables are bound: if the original tree yields
  a value, the transformed tree yields the same value.
  `Le r r'` ("r ⊑ r'") := whenever `r` is a value, `r'` is the same value.  Every context preserves ⊑ provided
  no operand fails with `UndefinedVariable` — the only error the interpreter ever catches — and bound
  variables exclude that error (`eval_noUndef`).
-/
import SlacProofs.OptPres
import SlacProofs.ValidateLemmas
set_option autoImplicit false
set_option linter.unusedSectionVars false
namespace Slac.Opt
variable {N : Type} [NumOps N]

def NoUndef (r : Except Err (Value N)) : Prop := ∀ n, r ≠ .error (.undefinedVariable n)
def Le (r r' : Except Err (Value N)) : Prop := ∀ v, r = .ok v → r' = .ok v

theorem Le.refl (r : Except Err (Value N)) : Le r r := fun _ h => h
theorem Le.of_eq {r r' : Except Err (Value N)} (h : r = r') : Le r r' := fun _ h' => h ▸ h'
theorem Le.error (e : Err) (r' : Except Err (Value N)) : Le (.error e) r' := fun _ h => by cases h

/-! ### no `UndefinedVariable` out of a tree whose variables are bound -/

theorem rightBool_noUndef (t : List (Event N)) (b : R N) : NoUndef (rightBool t b).1 := by
  obtain ⟨b1, u⟩ := b
  intro n hn
  cases b1 with
  | ok v => simp only [rightBool] at hn; cases hn
  | error e => cases e <;> simp only [rightBool] at hn <;> cases hn

theorem eval_noUndef (env : Env N) (e : Expr N) (h : VarsBound env e) : NoUndef (evalT env e).1 := by
  intro n hn
  cases (eval_origin env (P := VarsBound env) (PL := VarsBoundL env)
    ⟨fun h => h, fun h => h, fun h => h, fun h => h, fun h => h, fun h => h⟩).1 e _ h hn with
  | var n hp hv => exact hp hv

/-! ### every context is monotone for ⊑ -/

theorem unModel_le (op : Op) {a a' : R N} (h : Le a.1 a'.1) : Le (unModel op a).1 (unModel op a').1 := by
  obtain ⟨a1, t⟩ := a; obtain ⟨a1', t'⟩ := a'
  cases a1 with
  | ok v => have := h v rfl; simp only at this; subst this; exact Le.refl _
  | error e => exact Le.error e _

/-- a failing left operand is the result; with a left value, a failing right operand is the result unless `and`/`or`
    decide on the left operand alone -/
theorem binModel_le (op : Op) {a a' b b' : R N} (ha : Le a.1 a'.1) (hb : Le b.1 b'.1)
    (na : NoUndef a.1) (nb : NoUndef b.1) : Le (binModel op a b).1 (binModel op a' b').1 := by
  obtain ⟨x, t⟩ := a; obtain ⟨x', t'⟩ := a'; obtain ⟨y, u⟩ := b; obtain ⟨y', u'⟩ := b'
  cases x with
  | error e => rw [binModel_left_error op (fun n h => na n (congrArg _ h))]; exact Le.error e _
  | ok lv =>
    cases ha lv rfl
    cases y with
    | ok rv => cases hb rv rfl; exact Le.of_eq (binModel_res op rfl rfl)
    | error e =>
      have he : absorb (.error e : Except Err (Value N)) = .error e := absorb_error fun n h => nb n (congrArg _ h)
      rw [binModel_eq, binModel_eq, he]
      cases op.cls with
      | logical isAnd => simp only [absorb]; split <;> first | exact Le.refl _ | exact Le.error e _
      | equality neg => exact Le.error e _
      | strict => exact Le.error e _

theorem ternModel_le (op : Op) {c c' m m' r r' : R N} (hc : Le c.1 c'.1) (hm : Le m.1 m'.1) (hr : Le r.1 r'.1) :
    Le (ternModel op c m r).1 (ternModel op c' m' r').1 := by
  obtain ⟨c1, t⟩ := c; obtain ⟨c1', t'⟩ := c'
  by_cases hop : op = .ternaryCondition
  · subst hop
    cases c1 with
    | ok v =>
      have := hc v rfl; simp only at this; subst this
      simp only [ternModel]
      split
      · exact hm
      · exact hr
    | error e => exact Le.error e _
  · rw [ternModel_other hop]; exact Le.error _ _

def LeL (a b : Except Err (List (Value N))) : Prop := ∀ vs, a = .ok vs → b = .ok vs

theorem array_le (env : Env N) {es es' : List (Expr N)} (h : LeL (evalList env es).1 (evalList env es').1) :
    Le (evalT env (.array es)).1 (evalT env (.array es')).1 := by
  rw [evalT_array, evalT_array]
  cases hx : (evalList env es).1 with
  | ok vs => rw [h vs hx]; exact Le.refl _
  | error e => exact Le.error e _

theorem call_le (env : Env N) (f : Str) {es es' : List (Expr N)}
    (h : LeL (evalList env es).1 (evalList env es').1) :
    Le (evalT env (.call f es)).1 (evalT env (.call f es')).1 := by
  rw [evalT_call, evalT_call]
  cases hx : (evalList env es).1 with
  | ok vs => rw [h vs hx]; exact Le.refl _
  | error e => exact Le.error e _

theorem cons_le (env : Env N) {e e' : Expr N} {es es' : List (Expr N)}
    (he : Le (evalT env e).1 (evalT env e').1) (hes : LeL (evalList env es).1 (evalList env es').1) :
    LeL (evalList env (e :: es)).1 (evalList env (e' :: es')).1 := by
  rw [evalList_cons, evalList_cons]
  cases hx : (evalT env e).1 with
  | error x => intro _ h; cases h
  | ok v =>
    rw [he v hx]
    cases hy : (evalList env es).1 with
    | error x => intro _ h; cases h
    | ok vs => rw [hes vs hy]; exact fun _ h => h

/-- the rewritten node: an eager three-argument `if_then` call that yields a value yields the value of the
    lazy conditional -/
theorem ifThen_le (env : Env N) (hi : IfThenStd env) (a b c : Expr N) :
    Le (evalT env (.call ifThenName [a, b, c])).1 (evalT env (.ternary a b c .ternaryCondition)).1 := by
  intro v h
  simp only [evalT, evalList] at h ⊢
  generalize evalT env a = ra at h ⊢
  generalize evalT env b = rb at h ⊢
  generalize evalT env c = rc at h ⊢
  obtain ⟨a1, ta⟩ := ra; obtain ⟨b1, tb⟩ := rb; obtain ⟨c1, tc⟩ := rc
  cases a1 with
  | error e => cases h
  | ok va =>
    cases b1 with
    | error e => cases h
    | ok vb =>
      cases c1 with
      | error e => cases h
      | ok vc =>
        simp only at h
        cases hc : env.call ifThenName [va, vb, vc] with
        | error ne => rw [hc] at h; cases h
        | ok w =>
          rw [hc] at h; cases h
          obtain ⟨bb, h1, h2⟩ := hi va vb vc v hc
          subst h1; subst h2
          cases bb <;> simp [ternModel, Value.asBool]

theorem transform_le (env : Env N) (hi : IfThenStd env) (e : Expr N) :
    VarsBound env e → Le (evalT env e).1 (evalT env (transform e)).1 := by
  refine (transform_ind (Q := fun e e' => VarsBound env e → Le (evalT env e).1 (evalT env e').1)
    (QL := fun es es' => VarsBoundL env es → LeL (evalList env es).1 (evalList env es').1)
    ?_ ?_ ?_ ?_ ?_ ?_ ?_ ?_ ?_ ?_).1 e
  · intro v _; exact Le.refl _
  · intro n _; exact Le.refl _
  · intro a b c _; exact ifThen_le env hi a b c
  · intro r r' op ih h; simp only [VarsBound] at h; exact unModel_le op (ih h)
  · intro l l' r r' op ihl ihr h; simp only [VarsBound] at h
    exact binModel_le op (ihl h.1) (ihr h.2) (eval_noUndef env l h.1) (eval_noUndef env r h.2)
  · intro l l' m m' r r' op ihl ihm ihr h; simp only [VarsBound] at h
    exact ternModel_le op (ihl h.1) (ihm h.2.1) (ihr h.2.2)
  · intro es es' ih h; simp only [VarsBound] at h; exact array_le env (ih h)
  · intro n ps ps' _ ih h; simp only [VarsBound] at h; exact call_le env n (ih h)
  · intro _ _ h; exact h
  · intro e e' es es' ihe ihes h; simp only [VarsBoundL] at h; exact cons_le env (ihe h.1) (ihes h.2)

end Slac.Opt
