/-
  SlacProofs.F64Idx — `instance : LawfulIdx Float`: the driver's binary64 numbers satisfy every hypothesis the
  position laws of C15 make about numbers ("small integers are exact in binary64").
  * `toUsize_ofNat`, `floorToUsize_ofNat`   `(n as f64) as usize = n`, `(n as f64).floor() as usize = n` (n < 2^53);
  * `add_ofNat`       IEEE addition of two naturals with n + m < 2^53 is exact;
  * `numzero_eq`, `pcmp_ofNat` (zero, order of naturals) come from F64Cast.
-/
import SlacProofs.F64RoundHalf
import SlacProofs.SeqIdx
set_option autoImplicit false
namespace Slac
namespace F64
open Float.Model Float.Model.UnpackedFloat

theorem toUsize_ofNat (n : Nat) (h : n < 2^53) : toUsize (F64.ofNat n) = n := by
  rw [← ofInt_natCast]
  unfold toUsize
  rw [toIntSat_ofInt _ _ _ (by omega) (by omega) (by omega)]
  omega

theorem floorToInt_of_pos (x : Float) (hs : signBit x = false) : floorToInt x = truncToInt x := by
  unfold floorToInt truncToInt
  rw [hs]
  generalize decode x = d
  obtain ⟨m, e⟩ := d
  by_cases he : e ≥ 0 <;> simp only [he, Bool.false_eq_true, if_true, if_false]

theorem floorToInt_ofNat (n : Nat) (h : n < 2^53) : floorToInt (F64.ofNat n) = n := by
  have hs := (ofInt_units (n : Int) (by omega)).2.1
  rw [decide_eq_false (by omega), ofInt_natCast] at hs
  rw [floorToInt_of_pos _ hs, ← ofInt_natCast, truncToInt_ofInt _ (by omega)]

theorem floorToUsize_ofNat (n : Nat) (h : n < 2^53) : floorToUsize (F64.ofNat n) = n := by
  have hn := isNaN_ofInt (n : Int) (by omega)
  rw [ofInt_natCast] at hn
  unfold floorToUsize
  rw [hn.1, hn.2, floorToInt_ofNat n h]
  simp only [Bool.false_eq_true, if_false]
  rw [if_neg (by omega), if_neg (by omega)]
  omega

theorem ofNat_zero_eq : F64.ofNat 0 = zeroF .positive := by
  apply eq_of_bits_eq; rw [bits_ofNat_zero, bits_zeroF]; rfl

theorem add_ofNat (n m : Nat) (h : n + m < 2^53) : F64.ofNat n + F64.ofNat m = F64.ofNat (n + m) := by
  by_cases hn : n = 0
  · subst hn
    by_cases hm : m = 0
    · subst hm; decide +kernel
    · rw [Nat.zero_add, ofNat_zero_eq, ofNat_eq m (by omega) (by omega)]
      exact zero_add_mkF _ _ _ _ (canon_ofNat m (by omega) (by omega))
  · by_cases hm : m = 0
    · subst hm
      rw [Nat.add_zero, ofNat_zero_eq, ofNat_eq n (by omega) (by omega)]
      exact add_zero_mkF _ _ _ _ (canon_ofNat n (by omega) (by omega))
    · rw [← ofInt_natCast, ← ofInt_natCast, ← ofInt_natCast,
        ofInt_add (n : Int) (m : Int) (by omega) (by omega) (by omega) (by omega) (by omega) (by omega)]
      congr 1

theorem closed_idx_facts :
    F64.ofInt (-1) + F64.ofNat 1 = F64.ofNat 0 ∧ F64.ofInt (-1) + F64.ofNat 0 = F64.ofInt (-1) ∧
    pcmp (F64.ofInt (-1)) (F64.ofNat 0) = some .lt := by decide +kernel

end F64

instance : LawfulIdx Float where
  toUsize_ofNat := F64.toUsize_ofNat
  floorUsize_ofNat := F64.floorToUsize_ofNat
  add_ofNat := F64.add_ofNat
  zero_eq := F64.numzero_eq
  pcmp_ofNat := F64.pcmp_ofNat
  neg_one_add_one := F64.closed_idx_facts.1
  neg_one_add_zero := F64.closed_idx_facts.2.1
  pcmp_neg_one := F64.closed_idx_facts.2.2

end Slac
