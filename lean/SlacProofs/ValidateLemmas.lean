/-
  SlacProofs.ValidateLemmas — the `and_then` combinator of the validation model, acceptance of a node in terms of its
  children, the sub-tree relation, and where the errors of a tree come from.
-/
import SlacModel.Validate
import SlacProofs.InterpLemmas
set_option autoImplicit false
set_option linter.unusedSectionVars false
namespace Slac
variable {N : Type} [NumOps N]

theorem VErr.andThen_ok {a b : Except VErr Unit} (h : VErr.andThen a b = .ok ()) : a = .ok () ∧ b = .ok () := by
  cases a with
  | ok u => cases u; exact ⟨rfl, h⟩
  | error e => cases h

theorem VErr.andThen_error {a b : Except VErr Unit} {x : VErr} (h : VErr.andThen a b = .error x) :
    a = .error x ∨ (a = .ok () ∧ b = .error x) := by
  cases a with
  | ok u => cases u; exact .inr ⟨rfl, h⟩
  | error e => exact .inl h

theorem andThen_ok_iff (a b : Except VErr Unit) : VErr.andThen a b = .ok () ↔ a = .ok () ∧ b = .ok () := by
  constructor
  · exact VErr.andThen_ok
  · rintro ⟨rfl, rfl⟩; rfl

theorem checkVF_unary (env : Env N) (r : Expr N) (op : Op) :
    checkVF env (.unary r op) = .ok () ↔ checkVF env r = .ok () := by
  simp only [checkVF]

theorem checkVF_binary (env : Env N) (l r : Expr N) (op : Op) :
    checkVF env (.binary l r op) = .ok () ↔ checkVF env l = .ok () ∧ checkVF env r = .ok () := by
  simp only [checkVF, andThen_ok_iff]

theorem checkVF_ternary (env : Env N) (l m r : Expr N) (op : Op) :
    checkVF env (.ternary l m r op) = .ok () ↔
      checkVF env l = .ok () ∧ checkVF env m = .ok () ∧ checkVF env r = .ok () := by
  simp only [checkVF, andThen_ok_iff, and_assoc]

theorem checkVF_array (env : Env N) (es : List (Expr N)) :
    checkVF env (.array es) = .ok () ↔ checkVFList env es = .ok () := by
  simp only [checkVF]

theorem checkVF_lit (env : Env N) (v : Value N) : checkVF env (.lit v) = .ok () := by
  simp only [checkVF]

/-- a call is accepted iff the environment knows the function with that many arguments and every argument is
    accepted -/
theorem checkVF_call (env : Env N) (n : Str) (ps : List (Expr N)) :
    checkVF env (.call n ps) = .ok () ↔
      (∃ p, env.fnExists n ps.length = .exist p) ∧ checkVFList env ps = .ok () := by
  simp only [checkVF]
  cases h : env.fnExists n ps.length with
  | exist p => simp only [FnRes.exist.injEq, exists_eq', true_and]
  | notFound =>
    constructor
    · intro h'; cases h'
    · rintro ⟨⟨p, hp⟩, _⟩; cases hp
  | wrongArity mn mx =>
    constructor
    · intro h'; cases h'
    · rintro ⟨⟨p, hp⟩, _⟩; cases hp

theorem checkVFList_nil (env : Env N) : checkVFList env ([] : List (Expr N)) = .ok () := by
  simp only [checkVFList]

theorem checkVFList_cons (env : Env N) (e : Expr N) (es : List (Expr N)) :
    checkVFList env (e :: es) = .ok () ↔ checkVF env e = .ok () ∧ checkVFList env es = .ok () := by
  simp only [checkVFList, andThen_ok_iff]

theorem evalList_length (env : Env N) : ∀ (es : List (Expr N)) (vs : List (Value N)),
    (evalList env es).1 = .ok vs → vs.length = es.length := by
  intro es
  induction es with
  | nil => intro vs h; cases h; rfl
  | cons e es ih =>
    intro vs h
    rw [evalList_cons] at h
    cases hx : (evalT env e).1 with
    | error x => rw [hx] at h; cases h
    | ok v =>
      cases hy : (evalList env es).1 <;> simp only [hx, hy, Except.bind, Except.map] at h <;> cases h
      simp only [List.length_cons, ih _ hy]

/-- `Sub x e`: `x` occurs in `e` as a sub-tree (reflexive) -/
inductive Sub : Expr N → Expr N → Prop
  | refl (e : Expr N) : Sub e e
  | unary {x r : Expr N} (op : Op) : Sub x r → Sub x (.unary r op)
  | binL {x l : Expr N} (r : Expr N) (op : Op) : Sub x l → Sub x (.binary l r op)
  | binR {x r : Expr N} (l : Expr N) (op : Op) : Sub x r → Sub x (.binary l r op)
  | ternL {x l : Expr N} (m r : Expr N) (op : Op) : Sub x l → Sub x (.ternary l m r op)
  | ternM {x m : Expr N} (l r : Expr N) (op : Op) : Sub x m → Sub x (.ternary l m r op)
  | ternR {x r : Expr N} (l m : Expr N) (op : Op) : Sub x r → Sub x (.ternary l m r op)
  | array {x c : Expr N} {es : List (Expr N)} : c ∈ es → Sub x c → Sub x (.array es)
  | call {x c : Expr N} (n : Str) {ps : List (Expr N)} : c ∈ ps → Sub x c → Sub x (.call n ps)

/-- a property of trees that the parts of a tree inherit -/
structure Inherited (P : Expr N → Prop) (PL : List (Expr N) → Prop) : Prop where
  unary : ∀ {r op}, P (.unary r op) → P r
  binary : ∀ {l r op}, P (.binary l r op) → P l ∧ P r
  ternary : ∀ {l m r op}, P (.ternary l m r op) → P l ∧ P m ∧ P r
  array : ∀ {es}, P (.array es) → PL es
  call : ∀ {f ps}, P (.call f ps) → PL ps
  cons : ∀ {e es}, PL (e :: es) → P e ∧ PL es

/-- an operator out of place, an unbound variable, or the environment's answer to a call (with as many arguments as the
    call has) — the variable or call being a part of the tree, so having every inherited property `P` of it -/
inductive Origin (env : Env N) (P : Expr N → Prop) : Err → Prop
  | unary (op : Op) : Origin env P (.invalidUnary op)
  | binary (op : Op) : Origin env P (.invalidBinary op)
  | ternary (op : Op) : Origin env P (.invalidTernary op)
  | var (n : Str) : P (.var n) → env.var n = none → Origin env P (.undefinedVariable n)
  | call (f : Str) (ps : List (Expr N)) (vs : List (Value N)) (ne : NativeError) : P (.call f ps) →
      vs.length = ps.length → env.call f vs = .error ne → Origin env P (.native f ne)

theorem eval_origin (env : Env N) {P : Expr N → Prop} {PL : List (Expr N) → Prop} (hP : Inherited P PL) :
    (∀ (e : Expr N) x, P e → (evalT env e).1 = .error x → Origin env P x) ∧
    (∀ (es : List (Expr N)) x, PL es → (evalList env es).1 = .error x → Origin env P x) := by
  refine Expr.rec_both ?_ ?_ ?_ ?_ ?_ ?_ ?_ ?_ ?_
  · intro r op ih x hp h
    rcases un_err h with h1 | rfl
    · exact ih x (hP.unary hp) h1
    · exact .unary op
  · intro l r op ihl ihr x hp h
    rcases bin_err h with h1 | h1 | rfl
    · exact ihl x (hP.binary hp).1 h1
    · exact ihr x (hP.binary hp).2 h1
    · exact .binary op
  · intro l m r op ihl ihm ihr x hp h
    rcases tern_err h with h1 | h1 | h1 | rfl
    · exact ihl x (hP.ternary hp).1 h1
    · exact ihm x (hP.ternary hp).2.1 h1
    · exact ihr x (hP.ternary hp).2.2 h1
    · exact .ternary op
  · intro es ih x hp h; exact ih x (hP.array hp) (array_err h)
  · intro v x _ h; cases h
  · intro n x hp h
    simp only [evalT] at h
    cases hv : env.var n <;> rw [hv] at h <;> cases h
    exact .var n hp hv
  · intro f ps ih x hp h
    rcases call_err h with h1 | ⟨vs, ne, hvs, hc, rfl⟩
    · exact ih x (hP.call hp) h1
    · exact .call f ps vs ne hp (evalList_length env ps vs hvs) hc
  · intro x _ h; cases h
  · intro e es ihe ihes x hp h
    rcases cons_err h with h1 | h1
    · exact ihe x (hP.cons hp).1 h1
    · exact ihes x (hP.cons hp).2 h1

end Slac
