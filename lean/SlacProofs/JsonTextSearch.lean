/-
  SlacProofs.JsonTextSearch — the digit search of the JSON number printer (`JsonText.shortest`: `F64.displaySearch`
  with ryu's ties-to-even rule) settles on a candidate that reads back: for every positive finite double m·2^e
  `sciOf c p = m·2^e` for (c, p) = `shortest (m·2^e)`, with 0 < c and |p| ≤ 400.
  `jsonSearch` is an `F64.IsSearch` like `displaySearch`, so this is `F64.candWith_ok` again.
-/
import SlacProofs.F64Search
import SlacModel.JsonText
set_option autoImplicit false
namespace Slac
namespace JsonText
open F64 Float.Model Float.Model.UnpackedFloat

theorem jsonSearch_isSearch (ax : Float) (num den : Nat) (k : Int) : IsSearch ax num den k (jsonSearch ax num den k) := by
  intro n fuel
  refine ⟨(decide (2 * vnOf num (k - n) < (loOf num den (k - n) + (loOf num den (k - n) + 1)) * vdOf den (k - n))
      || (2 * vnOf num (k - n) == (loOf num den (k - n) + (loOf num den (k - n) + 1)) * vdOf den (k - n)
          && loOf num den (k - n) % 2 == 0)) = true, inferInstance, ?_⟩
  rw [jsonSearch]
  rfl

theorem shortest_eq (ax : Float) : shortest ax = candWith jsonSearch ax (decode ax) := by
  unfold shortest candWith selK numOf denOf; rfl

/-- **the printer's digits read back**: for every finite non-zero x, with (c, p) = `shortest |x|`:
    0 < c, |p| ≤ 400 and `sciOf c p = |x|` -/
theorem shortest_ok (x : Float) (hf : isFinite x = true) (hz : isZero x = false) :
    0 < (shortest (absF x)).1 ∧ sciOf (shortest (absF x)).1 (shortest (absF x)).2 = absF x ∧
    -400 ≤ (shortest (absF x)).2 ∧ (shortest (absF x)).2 ≤ 400 := by
  obtain ⟨s, m, e, h, rfl⟩ := exists_mkF x hf hz
  rw [absF_mkF s m e h, shortest_eq, decode_mkF _ _ _ h]
  exact candWith_ok jsonSearch jsonSearch_isSearch m e h

end JsonText
end Slac
