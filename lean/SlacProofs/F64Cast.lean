/-
  SlacProofs.F64Cast — integers as doubles, through their value: `n as f64` for |n| ≤ 2^53 is the finite double of
  value n (`ofInt_units`), hence fixed by `trunc`, cast back by every saturating cast whose range contains n,
  and ordered like the integers (`pcmp_ofNat`).  The ASCII table 0..127 (`inAscii`, `as u32`); every number accepted
  by `chr` converts to a code point ≤ 127; the observation that `chr(65.5)` succeeds.
-/
import SlacProofs.F64Sem
import SlacModel.NumX
set_option autoImplicit false
namespace Slac
namespace F64
open Float.Model Float.Model.UnpackedFloat

theorem ofInt_units (n : Int) (h : n.natAbs ≤ 2^53) :
    isFinite (F64.ofInt n) = true ∧ signBit (F64.ofInt n) = decide (n < 0) ∧
    unitsN (F64.ofInt n) = n.natAbs * 2^1074 := by
  by_cases h53 : n.natAbs < 2^53
  · by_cases h0 : n = 0
    · subst h0; decide +kernel
    · have hc := canon_ofNat n.natAbs (by omega) h53
      have hL : n.natAbs.log2 < 53 := (Nat.log2_lt (by omega)).2 h53
      rw [ofInt_eq n h0 h53, unitsN_mkF _ _ _ hc, signBit_mkF _ _ _ hc]
      refine ⟨isFinite_mkF _ _ _ hc, ?_, ?_⟩
      · unfold sgnOf; by_cases hn : n < 0 <;> simp [hn, sbit]
      · have e1 : ((n.natAbs.log2 : Int) - 52 + 1074).toNat = n.natAbs.log2 + 1022 := by omega
        have e2 : 52 - n.natAbs.log2 + (n.natAbs.log2 + 1022) = 1074 := by omega
        rw [e1, Nat.mul_assoc, ← Nat.pow_add, e2]
  · have : n = 2^53 ∨ n = -(2^53) := by omega
    rcases this with rfl | rfl <;> decide +kernel

theorem units_ofInt (n : Int) (h : n.natAbs ≤ 2^53) : units (F64.ofInt n) = n * ((2^1074 : Nat) : Int) := by
  obtain ⟨_, hs, hu⟩ := ofInt_units n h
  rw [units_def, hs, hu, skey_mul, skey_natAbs]

theorem isZero_ofInt (n : Int) (h0 : n ≠ 0) (h : n.natAbs ≤ 2^53) : isZero (F64.ofInt n) = false := by
  rw [Bool.eq_false_iff, Ne, isZero_iff_unitsN, (ofInt_units n h).2.2]
  exact Nat.ne_of_gt (Nat.mul_pos (Int.natAbs_pos.2 h0) (Nat.two_pow_pos 1074))

/-- `trunc` fixes every exactly representable integer |n| ≤ 2^53 -/
theorem trunc_ofInt (n : Int) (h : n.natAbs ≤ 2^53) : trunc (F64.ofInt n) = F64.ofInt n := by
  obtain ⟨hf, _, hu⟩ := ofInt_units n h
  exact trunc_eq_self _ hf (by rw [hu, Nat.mul_div_cancel _ (Nat.two_pow_pos 1074)])

theorem truncToInt_ofInt (n : Int) (h : n.natAbs ≤ 2^53) : truncToInt (F64.ofInt n) = n := by
  obtain ⟨_, hs, hu⟩ := ofInt_units n h
  rw [truncToInt_eq, hs, hu, Nat.mul_div_cancel _ (Nat.two_pow_pos 1074), skey_natAbs]

theorem isNaN_ofInt (n : Int) (h : n.natAbs ≤ 2^53) : isNaN (F64.ofInt n) = false ∧ isInf (F64.ofInt n) = false :=
  fin_not_nan _ (ofInt_units n h).1

theorem toIntSat_ofInt (n lo hi : Int) (h : n.natAbs ≤ 2^53) (h1 : lo ≤ n) (h2 : n ≤ hi) :
    toIntSat (F64.ofInt n) lo hi = n := by
  unfold toIntSat
  rw [(isNaN_ofInt n h).1, (isNaN_ofInt n h).2, truncToInt_ofInt n h]
  simp only [Bool.false_eq_true, if_false]
  rw [if_neg (by omega), if_neg (by omega)]

/-- `(n as f64) as i64 = n` for |n| ≤ 2^53 -/
theorem toI64_ofInt (n : Int) (h : n.natAbs ≤ 2^53) : toI64 (F64.ofInt n) = n :=
  toIntSat_ofInt n _ _ h (by omega) (by omega)

theorem bits_numzero : bits (NumOps.zero : Float) = 0 := by decide +kernel

theorem ofInt_natCast (n : Nat) : F64.ofInt (n : Int) = F64.ofNat n := by
  unfold F64.ofInt F64.ofNat
  simp only [Int.natAbs_natCast]
  rw [if_neg (by omega)]

theorem cmpInt_natCast (n m : Nat) : cmpInt (n : Int) (m : Int) = compare n m := by
  unfold cmpInt
  rcases Nat.lt_trichotomy n m with h | h | h
  · rw [if_pos (by omega), Nat.compare_eq_lt.2 h]
  · rw [if_neg (by omega), if_neg (by omega), Nat.compare_eq_eq.2 h]
  · rw [if_neg (by omega), if_pos (by omega), Nat.compare_eq_gt.2 h]

/-- `partial_cmp` of the doubles of two naturals below 2^53 is the order of the naturals -/
theorem pcmp_ofNat (n m : Nat) (hn : n < 2^53) (hm : m < 2^53) :
    pcmp (F64.ofNat n) (F64.ofNat m) = some (compare n m) := by
  rw [← ofInt_natCast, ← ofInt_natCast, pcmp_units _ _ (ofInt_units _ (by omega)).1 (ofInt_units _ (by omega)).1,
    units_ofInt _ (by omega), units_ofInt _ (by omega), ← cmpInt_natCast]
  have hP : (0 : Int) < ((2^1074 : Nat) : Int) := Int.natCast_pos.2 (Nat.two_pow_pos 1074)
  exact congrArg some (cmpInt_congr (Int.mul_lt_mul_right hP) (Int.mul_lt_mul_right hP))

theorem numzero_eq : (NumOps.zero : Float) = F64.ofNat 0 := by
  apply eq_of_bits_eq; rw [bits_numzero, bits_ofNat_zero]

theorem ascii_table : ∀ n : Nat, n ≤ 127 →
    NumX.inAscii (NumX.ofNat n : Float) = true ∧ NumX.toU32 (NumX.ofNat n : Float) = n := by
  intro n hn
  have e0 : NumOps.pcmp (NumX.ofNat n : Float) (NumOps.zero : Float) = some (compare n 0) := by
    show pcmp (F64.ofNat n) NumOps.zero = _
    rw [numzero_eq, pcmp_ofNat n 0 (by omega) (by decide)]
  have e1 : NumOps.pcmp (NumX.ofNat n : Float) (NumX.ofNat 127 : Float) = some (compare n 127) :=
    pcmp_ofNat n 127 (by omega) (by decide)
  constructor
  · unfold NumX.inAscii NumX.ge0
    rw [e0, e1]
    have h0 : compare n 0 = .gt ∨ compare n 0 = .eq := by
      rcases Nat.eq_zero_or_pos n with h | h
      · exact Or.inr (Nat.compare_eq_eq.2 h)
      · exact Or.inl (Nat.compare_eq_gt.2 h)
    have h1 : compare n 127 = .lt ∨ compare n 127 = .eq := by
      rcases Nat.lt_or_eq_of_le hn with h | h
      · exact Or.inl (Nat.compare_eq_lt.2 h)
      · exact Or.inr (Nat.compare_eq_eq.2 h)
    rcases h0 with h0 | h0 <;> rcases h1 with h1 | h1 <;> rw [h0, h1] <;> rfl
  · show (toIntSat (F64.ofNat n) 0 (2^32 - 1)).toNat = n
    rw [← ofInt_natCast, toIntSat_ofInt _ _ _ (by omega) (by omega) (by omega)]
    rfl

/-- observation: `chr` accepts fractions inside 0..127 and truncates them (`65.5 as u32 = 65`) -/
theorem chr_fraction_accepted :
    Stdlib.chr [(.num (Float.ofScientific 655 true 1) : Value Float)] = .ok (.str ['A']) := by
  have h : NumX.inAscii (Float.ofScientific 655 true 1) = true ∧ NumX.toU32 (Float.ofScientific 655 true 1) = 65 := by
    decide +kernel
  simp only [Stdlib.chr, h.1, h.2, if_true]

theorem bits_127 : bits (NumX.ofNat 127 : Float) = 0x405FC00000000000 := by decide +kernel

theorem pcmpN_ge (a b : Nat)
    (h : (match pcmpN a b with | some .gt | some .eq => true | _ => false) = true) :
    isNaNN a = false ∧ keyN b ≤ keyN a := by
  unfold pcmpN at h
  by_cases hn : (isNaNN a || isNaNN b) = true
  · rw [if_pos hn] at h; simp at h
  · rw [if_neg hn] at h
    have hna : isNaNN a = false := by cases ha : isNaNN a <;> simp_all
    refine ⟨hna, ?_⟩
    unfold cmpInt at h
    by_cases h1 : keyN a < keyN b
    · rw [if_pos h1] at h; simp at h
    · omega

theorem pcmpN_le (a b : Nat)
    (h : (match pcmpN a b with | some .lt | some .eq => true | _ => false) = true) :
    isNaNN a = false ∧ keyN a ≤ keyN b := by
  unfold pcmpN at h
  by_cases hn : (isNaNN a || isNaNN b) = true
  · rw [if_pos hn] at h; simp at h
  · rw [if_neg hn] at h
    have hna : isNaNN a = false := by cases ha : isNaNN a <;> simp_all
    refine ⟨hna, ?_⟩
    unfold cmpInt at h
    by_cases h1 : keyN a < keyN b
    · omega
    · rw [if_neg h1] at h
      by_cases h2 : keyN b < keyN a
      · rw [if_pos h2] at h; simp at h
      · omega

/-- everything `chr` accepts has magnitude bits at most those of 127.0 -/
theorem inAscii_bits (x : Float) (h : NumX.inAscii x = true) : magN (bits x) ≤ 0x405FC00000000000 := by
  unfold NumX.inAscii NumX.ge0 at h
  rw [Bool.and_eq_true] at h
  obtain ⟨h1, h2⟩ := h
  have e1 : NumOps.pcmp x (NumOps.zero : Float) = pcmpN (bits x) 0 := by
    show pcmpN (bits x) (bits (NumOps.zero : Float)) = _; rw [bits_numzero]
  have e2 : NumOps.pcmp x (NumX.ofNat 127 : Float) = pcmpN (bits x) 0x405FC00000000000 := by
    show pcmpN (bits x) (bits (NumX.ofNat 127 : Float)) = _; rw [bits_127]
  rw [e1] at h1; rw [e2] at h2
  have k0 : keyN 0 = 0 := by decide
  have k127 : keyN 0x405FC00000000000 = 0x405FC00000000000 := by decide
  have hk1 := (pcmpN_ge _ _ h1).2
  have hk2 := (pcmpN_le _ _ h2).2
  rw [k0, keyN_def] at hk1; rw [k127, keyN_def] at hk2
  cases negN (bits x) <;> simp only [skey] at hk1 hk2 <;> omega

set_option exponentiation.threshold 2000 in
/-- everything `chr` accepts converts to a code point 0..127: the result of `chr` is always ASCII -/
theorem toU32_le_of_inAscii (x : Float) (h : NumX.inAscii x = true) : NumX.toU32 x ≤ 127 := by
  have hm := inAscii_bits x h
  have hnan : isNaN x = false := by unfold isNaN isNaNN; rw [decide_eq_false_iff_not]; omega
  have hinf : isInf x = false := by unfold isInf; rw [decide_eq_false_iff_not]; omega
  -- the magnitude bits order the magnitudes: |x| ≤ 127
  have hq : unitsN x / 2^1074 ≤ 127 := by
    have h127 : unitsN (NumX.ofNat 127 : Float) = 127 * 2^1074 := by decide +kernel
    have := unitsN_lt_iff (NumX.ofNat 127 : Float) x
    rw [bits_127, h127] at this
    have m127 : magN 0x405FC00000000000 = 0x405FC00000000000 := by decide
    rw [m127] at this
    exact Nat.div_le_of_le_mul (by rw [Nat.mul_comm]; omega)
  show (toIntSat x 0 (2^32 - 1)).toNat ≤ 127
  unfold toIntSat
  rw [hnan, hinf, truncToInt_eq]
  generalize unitsN x / 2^1074 = q at hq
  cases signBit x <;> simp only [skey, Bool.false_eq_true, if_false, if_true] <;> split <;> (try split) <;> omega

end F64
end Slac
