/-
  SlacProofs.OptTrace — the environment events of an `optimize` run: only calls of functions that
  `function_exists` reports as pure for that argument count; no variable lookup.
-/
import SlacProofs.OptMu
set_option autoImplicit false
namespace Slac.Opt
variable {N : Type} [NumOps N]

/-- an event the optimizer is allowed to cause -/
def PureEv (env : Env N) (ev : Event N) : Prop :=
  ∃ f vs, ev = .call f vs ∧ env.fnExists f vs.length = .exist true

theorem evalList_lits (env : Env N) {es : List (Expr N)} (h : allLit es = true) :
    ∃ vs, evalList env es = (.ok vs, []) ∧ vs.length = es.length := by
  obtain ⟨vs, rfl⟩ := allLit_iff.1 h
  exact ⟨vs, evalList_map_lit env vs, (List.length_map _).symm⟩

theorem unary_lit_trace (env : Env N) {r : Expr N} (op : Op) (h : isLit r = true) :
    (evalT env (.unary r op)).2 = [] := by
  obtain ⟨v, rfl⟩ := isLit_iff.1 h
  simp only [evalT, unModel]

theorem binary_lit_trace (env : Env N) {l r : Expr N} (op : Op) (hl : isLit l = true) (hr : isLit r = true) :
    (evalT env (.binary l r op)).2 = [] := by
  obtain ⟨a, rfl⟩ := isLit_iff.1 hl
  obtain ⟨b, rfl⟩ := isLit_iff.1 hr
  simp only [evalT]
  rcases binModel_trace op (.ok a, ([] : List (Event N))) (.ok b, []) with h | h <;> exact h

theorem array_lit_trace (env : Env N) {es : List (Expr N)} (h : allLit es = true) :
    (evalT env (.array es)).2 = [] := by
  obtain ⟨vs, h1, _⟩ := evalList_lits env h
  simp only [evalT, h1]

theorem call_lit_trace (env : Env N) (f : Str) {ps : List (Expr N)} (h : allLit ps = true) :
    ∃ vs, (evalT env (.call f ps)).2 = [.call f vs] ∧ vs.length = ps.length := by
  obtain ⟨vs, h1, h2⟩ := evalList_lits env h
  exact ⟨vs, by simp only [evalT, h1, List.nil_append], h2⟩

theorem foldTrace_pure (env : Env N) (e : Expr N) : ∀ ev ∈ foldTrace env e, PureEv env ev := by
  have nil : ∀ ev ∈ ([] : List (Event N)), PureEv env ev := fun _ h => nomatch h
  have app : ∀ {a b : List (Event N)}, (∀ ev ∈ a, PureEv env ev) → (∀ ev ∈ b, PureEv env ev) →
      ∀ ev ∈ a ++ b, PureEv env ev := fun ha hb ev h => (List.mem_append.1 h).elim (ha ev) (hb ev)
  refine (Expr.rec_both (p := fun e => ∀ ev ∈ foldTrace env e, PureEv env ev)
    (q := fun es => ∀ ev ∈ foldLTrace env es, PureEv env ev) ?_ ?_ ?_ ?_ ?_ ?_ ?_ ?_ ?_).1 e
  · intro r op ih
    simp only [foldTrace]
    split
    · rw [unary_lit_trace env op ‹_›]; exact nil
    · exact ih
  · intro l r op ihl ihr
    simp only [foldTrace]
    split
    · rename_i hl
      simp only [Bool.and_eq_true] at hl
      rw [binary_lit_trace env op hl.1 hl.2]; exact nil
    · split
      · exact ihl
      · exact app ihl ihr
  · intro l m r op ihl ihm ihr
    simp only [foldTrace]
    split
    · exact nil
    · split
      · exact ihl
      · split
        · exact app ihl ihm
        · exact app (app ihl ihm) ihr
  · intro es ih
    simp only [foldTrace]
    split
    · rw [array_lit_trace env ‹_›]; exact nil
    · exact ih
  · intro v; exact nil
  · intro n; exact nil
  · intro f ps ih
    simp only [foldTrace]
    split
    · rename_i hl
      split
      · rename_i hpure
        obtain ⟨vs, h1, h2⟩ := call_lit_trace env f hl
        intro ev hev
        rw [h1, List.mem_singleton] at hev
        exact ⟨f, vs, hev, by rw [h2]; exact hpure⟩
      · exact nil
    · exact ih
  · exact nil
  · intro e es ihe ihes
    simp only [foldLTrace]
    split
    · exact ihe
    · exact app ihe ihes

theorem optimizeTrace_pure (env : Env N) : ∀ fuel (e : Expr N), ∀ ev ∈ optimizeTrace env fuel e, PureEv env ev := by
  intro fuel
  induction fuel with
  | zero => intro e ev hev; simp only [optimizeTrace] at hev; cases hev
  | succ fuel ih =>
    intro e ev hev
    simp only [optimizeTrace] at hev
    split at hev
    · exact foldTrace_pure env _ ev hev
    · split at hev
      · simp only [List.mem_append] at hev
        rcases hev with hev | hev
        · exact foldTrace_pure env _ ev hev
        · exact ih _ ev hev
      · exact foldTrace_pure env _ ev hev

end Slac.Opt
