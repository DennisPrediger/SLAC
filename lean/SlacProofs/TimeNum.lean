/-
  SlacProofs.TimeNum — the number facts the time builtins rely on, packaged as a class, and the
  encode/decode theorems that hold for every lawful number type.

  `LawfulTimeNum N` lists facts that IEEE binary64 (the driver's `Float` instance, SlacModel.Num / NumX)
  satisfies; nothing here is an axiom: the theorems are proved FOR EVERY instance, and
  `SlacProofs.TimeToy` exhibits an instance (exact rationals), so the class is consistent.
  Why each field is true of binary64:
  * `decode_encode_ms` — over ℚ, two operations with relative error 2⁻⁵³ move T by less than 1/2
    (`SlacProofs.TimeReal.roundtrip_core`; `decode_encode_real` states it for |T| ≤ 2^50; 2^48 = 281474976710656 here).
    SlacProofs.F64Time proves that binary64 `/` and `*` satisfy the standard model on these operands, that `round` then
    returns T and that `as i64` is exact, and applies `roundtrip_core` at 2^48.
  * `ofInt_natCast` — `F64.ofInt (n : Int)` unfolds to `F64.ofNat n` (same `Float.ofScientific n false 0`).
  * `toI32_ofInt`, `toU32_ofNat` — integers below 2^53 are exact doubles and `as i32`/`as u32` truncate exactly.
  * `pcmp_ofInt_zero` — the sign of the double of a small integer is the sign of the integer.
  * `zero_eq`, `one_eq` — `0.0` and `1.0` are the doubles of the integers 0 and 1.
  * `trunc_add_fract` — for finite `x ≠ -0.0`, `x - trunc x` is exact (it is a suffix of the significand of `x`)
    and `trunc x + (x - trunc x)` is the representable number `x`; `T / D` is never `-0.0`
    (no underflow; `0 / D = +0.0`).  (For `x = -0.0` the sum is `+0.0`, which is `==` but not identical: this is
    why the field is stated for date-time numbers and not for all `x`.)
-/
import SlacProofs.TimeCal
set_option autoImplicit false
namespace Slac.Time
open Stdlib

/-- sign of an integer as an `Ordering` (comparison with 0) -/
def sgnOrd (k : Int) : Ordering := if k < 0 then .lt else if k = 0 then .eq else .gt

class LawfulTimeNum (N : Type) [NumX N] : Prop where
  /-- the core rounding fact: dividing an integer millisecond count by the day length, multiplying back and
      rounding recovers the count -/
  decode_encode_ms : ∀ T : Int, -(281474976710656) ≤ T → T ≤ 281474976710656 →
    NumX.toI64 (NumX.round (NumOps.mul (NumOps.div (NumX.ofInt T : N) dayLen) dayLen)) = T
  ofInt_natCast : ∀ n : Nat, (NumX.ofInt (n : Int) : N) = NumX.ofNat n
  toI32_ofInt : ∀ k : Int, -(2147483648) ≤ k → k < 2147483648 → NumX.toI32 (NumX.ofInt k : N) = k
  toU32_ofNat : ∀ n : Nat, n < 4294967296 → NumX.toU32 (NumX.ofNat n : N) = n
  pcmp_ofInt_zero : ∀ k : Int, -(4294967296) ≤ k → k ≤ 4294967296 →
    NumOps.pcmp (NumX.ofInt k : N) NumOps.zero = some (sgnOrd k)
  zero_eq : (NumOps.zero : N) = NumX.ofNat 0
  one_eq : (NumOps.ofBool true : N) = NumX.ofNat 1
  /-- `date(x) + time(x) = x` on date-time numbers -/
  trunc_add_fract : ∀ T : Int, -(281474976710656) ≤ T → T ≤ 281474976710656 →
    NumOps.add (NumOps.trunc (NumOps.div (NumX.ofInt T : N) dayLen)) (NumX.fract (NumOps.div (NumX.ofInt T : N) dayLen))
      = NumOps.div (NumX.ofInt T : N) dayLen

/-- the date-times whose millisecond count is within the range covered by `decode_encode_ms` -/
def DT.Enc (t : DT) : Prop := t.ms < 86400000 ∧ -(281474976710656) ≤ t.totalMs ∧ t.totalMs ≤ 281474976710656

theorem DT.Enc.days_range {t : DT} (h : t.Enc) : -3257813 ≤ t.days ∧ t.days ≤ 3257812 := by
  obtain ⟨h1, h2, h3⟩ := h
  simp only [DT.totalMs, msPerDay] at h2 h3
  omega

/-- day numbers of this size are far inside chrono's year range -/
theorem year_range_of_days (z : Int) (h1 : -3257813 ≤ z) (h2 : z ≤ 3257812) :
    minYear ≤ (civilFromDays z).1 ∧ (civilFromDays z).1 ≤ maxYear := by
  have hv := civilFromDays_validMD z
  have hr := days_roundtrip z
  have hb := days_bounds _ _ _ hv
  rw [hr] at hb
  constructor
  · refine Decidable.byContradiction fun hlt => ?_
    have hm := (days_year_mono (civilFromDays z).1 (minYear - 1) (by simp only [minYear] at hlt ⊢; omega)).2
    have e : daysFromCivil (minYear - 1) 12 31 < -3257813 := by decide
    omega
  · refine Decidable.byContradiction fun hlt => ?_
    have hm := (days_year_mono (maxYear + 1) (civilFromDays z).1 (by simp only [maxYear] at hlt ⊢; omega)).1
    have e : 3257812 < daysFromCivil (maxYear + 1) 1 1 := by decide
    omega

theorem DT.Enc.year_range {t : DT} (h : t.Enc) : minYear ≤ t.year ∧ t.year ≤ maxYear :=
  year_range_of_days t.days h.days_range.1 h.days_range.2

theorem enc_of_date (y : Int) (m d ms : Nat) (hv : ValidMD y m d) (hy1 : 1 ≤ y) (hy2 : y ≤ 9999)
    (hms : ms < 86400000) : DT.Enc ⟨daysFromCivil y m d, ms⟩ := by
  have hr := days_range y m d hv hy1 hy2
  refine ⟨hms, ?_, ?_⟩ <;> simp only [DT.totalMs, msPerDay] <;> omega

section
variable {N : Type} [NumX N]

theorem decode_num (x : N) :
    decode (.num x) = match ofMillis (NumX.toI64 (NumX.round (NumOps.mul x dayLen))) with
      | some t => .ok t
      | none => .error (custom "datetime out of range") := by unfold decode; rfl

theorem component_one (f : DT → N) (v : Value N) :
    component f [v] = match decode v with
      | .ok t => .ok (.num (f t))
      | .error e => .error e := by unfold component; rfl

theorem isLeapYear_one (v : Value N) :
    isLeapYear [v] = match decode v with
      | .ok t => .ok (.bool (isLeap t.year))
      | .error e => .error e := by unfold isLeapYear; rfl
end

variable {N : Type} [NumX N] [LawfulTimeNum N]

theorem decode_encode (t : DT) (h : t.Enc) : decode (encode t : Value N) = .ok t := by
  have h1 := LawfulTimeNum.decode_encode_ms (N := N) t.totalMs h.2.1 h.2.2
  have h2 : ofMillis t.totalMs = some t := ofMillis_totalMs t.days t.ms h.1 h.year_range
  rw [encode, decode_num, h1, h2]

theorem component_encode (f : DT → N) (t : DT) (h : t.Enc) :
    component f [(encode t : Value N)] = .ok (.num (f t)) := by
  rw [component_one, decode_encode t h]

theorem isLeapYear_encode (t : DT) (h : t.Enc) :
    isLeapYear [(encode t : Value N)] = .ok (.bool (isLeap t.year)) := by
  rw [isLeapYear_one, decode_encode t h]

theorem sign_ofInt (k : Int) (h1 : -4294967296 ≤ k) (h2 : k ≤ 4294967296) :
    NumX.ge0 (NumX.ofInt k : N) = decide (0 ≤ k) ∧ NumX.gt0 (NumX.ofInt k : N) = decide (0 < k) ∧
    NumX.lt0 (NumX.ofInt k : N) = decide (k < 0) := by
  simp only [NumX.ge0, NumX.gt0, NumX.lt0, LawfulTimeNum.pcmp_ofInt_zero k h1 h2, sgnOrd]
  rcases Int.lt_trichotomy k 0 with hk | rfl | hk
  · have : ¬ 0 ≤ k ∧ ¬ 0 < k := by omega
    simp [hk, this]
  · simp
  · have : ¬ k < 0 ∧ k ≠ 0 ∧ 0 ≤ k := by omega
    simp [hk, this]

theorem ge0_ofNat (n : Nat) (h : n < 4294967296) : NumX.ge0 (NumX.ofNat n : N) = true := by
  rw [← LawfulTimeNum.ofInt_natCast n, (sign_ofInt (n : Int) (by omega) (by omega)).1]
  simp

theorem toI32_ofNat (n : Nat) (h : n < 2147483648) : NumX.toI32 (NumX.ofNat n : N) = (n : Int) := by
  rw [← LawfulTimeNum.ofInt_natCast n, LawfulTimeNum.toI32_ofInt (n : Int) (by omega) (by omega)]

end Slac.Time
