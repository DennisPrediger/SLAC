/-
  SlacProofs.JsonText — what `serde_json::from_str` does with `serde_json::to_string j`, for the model's printer/parser
  pair (SlacModel.JsonText):
  * `PrintOk j`: every number finite, every integer node in [-2^63, 2^64); strings and keys arbitrary;
  * `parseValue_printJson`: with fuel > the length of the text and remaining depth `d ≥ 1` the value parser reads
    `printJson j` back and stops exactly after it, whatever follows (as long as it cannot continue a number), if
    `depth j < d`, and fails otherwise (serde_json's recursion limit) — one induction over the JSON value;
  * `parseJson_printJson_eq`: `parseJson (printJson j) = if depth j < 128 then some j else none` when `PrintOk j`
    (`parseJson_printJson`, `parseJson_too_deep`: the text round trip of C12 does NOT hold for deeper trees).
-/
import SlacProofs.JsonTextNum
import SlacProofs.JsonTextStr
set_option autoImplicit false
namespace Slac

theorem Json.induction {N : Type} {P : Json N → Prop} (null : P .null) (bool : ∀ b, P (.bool b)) (num : ∀ x, P (.num x))
    (int : ∀ i, P (.int i)) (str : ∀ s, P (.str s)) (arr : ∀ xs, (∀ x ∈ xs, P x) → P (.arr xs))
    (obj : ∀ fs, (∀ kv ∈ fs, P kv.2) → P (.obj fs)) (j : Json N) : P j := by
  refine Json.rec (motive_1 := P) (motive_2 := fun xs => ∀ x ∈ xs, P x) (motive_3 := fun fs => ∀ kv ∈ fs, P kv.2)
    (motive_4 := fun kv => P kv.2) null bool num int str arr obj ?_ ?_ ?_ ?_ ?_ j
  · intro x h; cases h
  · intro x xs hx hxs y hy
    rcases List.mem_cons.mp hy with rfl | h
    exacts [hx, hxs y h]
  · intro x h; cases h
  · intro x xs hx hxs y hy
    rcases List.mem_cons.mp hy with rfl | h
    exacts [hx, hxs y h]
  · intro k v h; exact h

namespace JsonText
open F64

mutual
/-- every number is finite, every integer node is in serde_json's integer range [-2^63, 2^64) (outside it the text
    would be read as a float; `ofExpr` never produces integer nodes); keys and strings are arbitrary -/
def PrintOk : Json Float → Prop
  | .num x => isFinite x = true
  | .int i => -2^63 ≤ i ∧ i < 2^64
  | .arr xs => PrintOkL xs
  | .obj fs => PrintOkF fs
  | _ => True
def PrintOkL : List (Json Float) → Prop
  | [] => True
  | x :: xs => PrintOk x ∧ PrintOkL xs
def PrintOkF : List (Str × Json Float) → Prop
  | [] => True
  | (_, v) :: fs => PrintOk v ∧ PrintOkF fs
end

theorem printOkL_iff (xs : List (Json Float)) : PrintOkL xs ↔ ∀ x ∈ xs, PrintOk x := by
  induction xs with
  | nil => simp only [PrintOkL, List.not_mem_nil, false_imp_iff, implies_true]
  | cons x xs ih => rw [PrintOkL, ih, List.forall_mem_cons]

theorem printOkF_iff (fs : List (Str × Json Float)) : PrintOkF fs ↔ ∀ kv ∈ fs, PrintOk kv.2 := by
  induction fs with
  | nil => simp only [PrintOkF, List.not_mem_nil, false_imp_iff, implies_true]
  | cons kv fs ih => rw [PrintOkF, ih, List.forall_mem_cons]

theorem numHead_ne (c k : Char) (hc : c = '-' ∨ isDig c = true) (hk : k.toNat ≠ 45 ∧ ¬ (48 ≤ k.toNat ∧ k.toNat ≤ 57)) :
    c ≠ k := by
  have hn : c.toNat = 45 ∨ (48 ≤ c.toNat ∧ c.toNat ≤ 57) := by
    rcases hc with h | h
    · left; rw [h]; rfl
    · right; exact (isDig_iff c).1 h
  apply char_ne_of_toNat_ne; omega

theorem numHead_not_ws (c : Char) (hc : c = '-' ∨ isDig c = true) : isWs c = false := by
  have ne := fun k hk => numHead_ne c k hc hk
  simp [isWs, ne ' ' (by decide), ne '\t' (by decide), ne '\n' (by decide), ne '\r' (by decide)]

/-- the first character of a printed value: not whitespace, not a closing bracket -/
theorem printJson_head (j : Json Float) (h : PrintOk j) : ∃ c t, printJson j = c :: t ∧ isWs c = false ∧ c ≠ ']' := by
  have num : ∀ s : Str, (∃ c t, s = c :: t ∧ (c = '-' ∨ isDig c = true)) → ∃ c t, s = c :: t ∧ isWs c = false ∧ c ≠ ']' :=
    fun s ⟨c, t, e, hc⟩ => ⟨c, t, e, numHead_not_ws c hc, numHead_ne c ']' hc (by decide)⟩
  cases j with
  | null => exact ⟨'n', _, by rw [printJson], by decide, by decide⟩
  | bool b => cases b
              · exact ⟨'f', _, by rw [printJson]; rfl, by decide, by decide⟩
              · exact ⟨'t', _, by rw [printJson]; rfl, by decide, by decide⟩
  | num x => rw [printJson]; exact num _ (printNum_head true x h)
  | int i => rw [printJson]; exact num _ (printInt_head i)
  | str s => exact ⟨'"', _, by rw [printJson, printString], by decide, by decide⟩
  | arr xs => exact ⟨'[', _, by rw [printJson], by decide, by decide⟩
  | obj fs => exact ⟨'{', _, by rw [printJson], by decide, by decide⟩

theorem numEnd_cons (c : Char) (t : Str) (h : isNumChar c = false) : NumEnd (c :: t) := by
  intro c' t' e; injection e with e1 _; rw [← e1]; exact h

theorem numEnd_nil : NumEnd [] := by intro c t h; cases h

theorem numEnd_seq (xs : List (Json Float)) (rest : Str) : NumEnd (printSeq false xs ++ rest) := by
  cases xs <;> (rw [printSeq]; exact numEnd_cons _ _ (by decide))

theorem numEnd_members (fs : List (Str × Json Float)) (rest : Str) : NumEnd (printMembers false fs ++ rest) := by
  rcases fs with _ | ⟨⟨k, v⟩, fs⟩ <;> (rw [printMembers]; exact numEnd_cons _ _ (by decide))

theorem skipWs_cons (c : Char) (t : Str) (h : isWs c = false) : skipWs (c :: t) = c :: t := by
  unfold skipWs; rw [List.dropWhile_cons_of_neg (by simp [h])]

/-- two parsing steps, each succeeding exactly under a condition, succeed exactly under both (`Decidable` instances
    implicit: they are read off the goal) -/
theorem bind_map_ite {α β γ : Type} {c1 c2 c : Prop} {_ : Decidable c1} {_ : Decidable c2} {_ : Decidable c}
    {a : α} {F : α → Option β} {b : β} {G : α → β → γ} {r : γ} (hF : F a = if c2 then some b else none)
    (hc : c ↔ c1 ∧ c2) (hr : G a b = r) :
    ((if c1 then some a else none).bind fun p => (F p).map (G p)) = if c then some r else none := by
  by_cases h1 : c1 <;> by_cases h2 : c2 <;> simp [h1, h2, hF, hc, ← hr]

theorem parseValue_number (f d : Nat) (c : Char) (t : Str) (hc : c = '-' ∨ isDig c = true) :
    parseValue (f + 1) d (c :: t) = parseNumber (c :: t) := by
  have ne := fun k hk => numHead_ne c k hc hk
  rw [parseValue.eq_def]
  simp only [skipWs_cons c t (numHead_not_ws c hc), ne '"' (by decide), ne '[' (by decide), ne '{' (by decide),
    ne 't' (by decide), ne 'f' (by decide), ne 'n' (by decide), if_false]
  rw [if_pos hc]

theorem parseValue_quote (f d : Nat) (r : Str) :
    parseValue (f + 1) d ('"' :: r) = (parseStrBody f r).map fun p => (.str p.1, p.2) := by
  rw [parseValue.eq_def]
  simp only [skipWs_cons '"' _ (by decide), if_true]
  cases parseStrBody f r <;> rfl

theorem parseValue_bracket (f d : Nat) (r : Str) (c : Char) (t : Str) (hr : skipWs r = c :: t) :
    parseValue (f + 1) d ('[' :: r) =
      if d ≤ 1 then none else if c = ']' then some (.arr [], t)
      else (parseValue f (d - 1) r).bind fun p => (parseTail f (d - 1) p.2).map fun q => (.arr (p.1 :: q.1), q.2) := by
  rw [parseValue.eq_def]
  simp only [skipWs_cons '[' _ (by decide), hr, if_neg (show ¬ '[' = '"' by decide), if_true]
  split; · rfl
  split; · rfl
  rcases parseValue f (d - 1) r with _ | ⟨x, u⟩; · rfl
  simp only [Option.bind_some]
  cases parseTail f (d - 1) u <;> rfl

theorem parseValue_brace (f d : Nat) (r : Str) (c : Char) (t : Str) (hr : skipWs r = c :: t) :
    parseValue (f + 1) d ('{' :: r) =
      if d ≤ 1 then none else if c = '}' then some (.obj [], t)
      else (parseMember f (d - 1) r).bind fun p => (parseMTail f (d - 1) p.2).map fun q => (.obj (p.1 :: q.1), q.2) := by
  rw [parseValue.eq_def]
  simp only [skipWs_cons '{' _ (by decide), hr, if_neg (show ¬ '{' = '"' by decide), if_neg (show ¬ '{' = '[' by decide),
    if_true]
  split; · rfl
  split; · rfl
  rcases parseMember f (d - 1) r with _ | ⟨x, u⟩; · rfl
  simp only [Option.bind_some]
  cases parseMTail f (d - 1) u <;> rfl

theorem parseTail_close (f d : Nat) (r : Str) : parseTail (f + 1) d (']' :: r) = some ([], r) := by
  rw [parseTail.eq_def]; simp only [skipWs_cons ']' _ (by decide), if_true]

theorem parseTail_comma (f d : Nat) (r : Str) :
    parseTail (f + 1) d (',' :: r) = (parseValue f d r).bind fun p => (parseTail f d p.2).map fun q => (p.1 :: q.1, q.2) := by
  rw [parseTail.eq_def]
  simp only [skipWs_cons ',' _ (by decide), if_neg (show ¬ ',' = ']' by decide), if_true]
  rcases parseValue f d r with _ | ⟨x, u⟩; · rfl
  simp only [Option.bind_some]
  cases parseTail f d u <;> rfl

theorem parseMTail_close (f d : Nat) (r : Str) : parseMTail (f + 1) d ('}' :: r) = some ([], r) := by
  rw [parseMTail.eq_def]; simp only [skipWs_cons '}' _ (by decide), if_true]

theorem parseMTail_comma (f d : Nat) (r : Str) :
    parseMTail (f + 1) d (',' :: r) =
      (parseMember f d r).bind fun p => (parseMTail f d p.2).map fun q => (p.1 :: q.1, q.2) := by
  rw [parseMTail.eq_def]
  simp only [skipWs_cons ',' _ (by decide), if_neg (show ¬ ',' = '}' by decide), if_true]
  rcases parseMember f d r with _ | ⟨x, u⟩; · rfl
  simp only [Option.bind_some]
  cases parseMTail f d u <;> rfl

theorem parseMember_printString (f d : Nat) (k r : Str) (hf : (escapeStr k).length < f) :
    parseMember (f + 1) d (printString k ++ ':' :: r) = (parseValue f d r).map fun p => ((k, p.1), p.2) := by
  have hk : skipWs (printString k ++ ':' :: r) = printString k ++ ':' :: r := skipWs_cons '"' _ (by decide)
  rw [parseMember.eq_def]
  simp only [hk, parseStringF_printString k _ f hf, skipWs_cons ':' _ (by decide), if_true]
  cases parseValue f d r <;> rfl

/-- the printed value is read back, and nothing more, iff it nests less deep than the remaining depth allows -/
def Reads (j : Json Float) : Prop :=
  ∀ f d rest, (printJson j).length ≤ f → 1 ≤ d → NumEnd rest →
    parseValue (f + 1) d (printJson j ++ rest) = if depth j < d then some (j, rest) else none

theorem reads_tail (xs : List (Json Float)) (h : ∀ x ∈ xs, Reads x) (f d : Nat) (rest : Str)
    (hf : (printSeq false xs).length ≤ f) (hd : 1 ≤ d) :
    parseTail (f + 1) d (printSeq false xs ++ rest) = if depthL xs < d then some (xs, rest) else none := by
  induction xs generalizing f with
  | nil => rw [printSeq, List.cons_append, List.nil_append, parseTail_close, depthL, if_pos (show 0 < d from hd)]
  | cons x xs ih =>
    simp only [printSeq, Bool.false_eq_true, if_false, List.cons_append, List.nil_append, List.append_assoc,
      List.length_cons, List.length_append] at hf ⊢
    obtain ⟨f, rfl⟩ : ∃ g, f = g + 1 := ⟨f - 1, by omega⟩
    rw [parseTail_comma, h x (List.mem_cons_self ..) f d _ (by omega) hd (numEnd_seq xs rest), depthL]
    apply bind_map_ite
    · exact ih (fun y hy => h y (List.mem_cons_of_mem _ hy)) f (by omega)
    · omega
    · rfl

theorem reads_arr (xs : List (Json Float)) (hok : ∀ x ∈ xs, PrintOk x) (h : ∀ x ∈ xs, Reads x) : Reads (.arr xs) := by
  intro f d rest hf hd _
  cases xs with
  | nil =>
    rw [printJson, printSeq, List.cons_append, List.cons_append, List.nil_append,
      parseValue_bracket f d _ _ _ (skipWs_cons ']' _ (by decide)), if_pos rfl, depth, depthL]
    by_cases h1 : d ≤ 1
    · rw [if_pos h1, if_neg (by omega)]
    · rw [if_neg h1, if_pos (by omega)]
  | cons x xs =>
    obtain ⟨c, t, e, hws, hc⟩ := printJson_head x (hok x (List.mem_cons_self ..))
    simp only [printJson, printSeq, if_true, List.cons_append, List.nil_append, List.append_assoc,
      List.length_cons, List.length_append] at hf ⊢
    obtain ⟨f, rfl⟩ : ∃ g, f = g + 1 := ⟨f - 1, by omega⟩
    rw [parseValue_bracket _ d _ c _ (by rw [e]; exact skipWs_cons c _ hws), if_neg hc, depth, depthL]
    by_cases h1 : d ≤ 1
    · rw [if_pos h1, if_neg (by omega)]
    · rw [if_neg h1, h x (List.mem_cons_self ..) f (d - 1) _ (by omega) (by omega) (numEnd_seq xs rest)]
      apply bind_map_ite
      · exact reads_tail xs (fun y hy => h y (List.mem_cons_of_mem _ hy)) f (d - 1) rest (by omega) (by omega)
      · omega
      · rfl

theorem reads_member (k : Str) (v : Json Float) (hv : Reads v) (f d : Nat) (rest : Str)
    (hf : (printString k).length + 1 + (printJson v).length ≤ f) (hd : 1 ≤ d) (hr : NumEnd rest) :
    parseMember (f + 1) d (printString k ++ ':' :: (printJson v ++ rest)) =
      if depth v < d then some ((k, v), rest) else none := by
  simp only [printString, List.length_cons, List.length_append, List.length_nil] at hf
  obtain ⟨f, rfl⟩ : ∃ g, f = g + 1 := ⟨f - 1, by omega⟩
  rw [parseMember_printString _ d k _ (by omega), hv f d rest (by omega) hd hr]
  split <;> rfl

theorem reads_mtail (fs : List (Str × Json Float)) (h : ∀ kv ∈ fs, Reads kv.2) (f d : Nat) (rest : Str)
    (hf : (printMembers false fs).length ≤ f) (hd : 1 ≤ d) :
    parseMTail (f + 1) d (printMembers false fs ++ rest) = if depthF fs < d then some (fs, rest) else none := by
  induction fs generalizing f with
  | nil => rw [printMembers, List.cons_append, List.nil_append, parseMTail_close, depthF, if_pos (show 0 < d from hd)]
  | cons kv fs ih =>
    obtain ⟨k, v⟩ := kv
    simp only [printMembers, Bool.false_eq_true, if_false, List.cons_append, List.nil_append, List.append_assoc,
      List.length_cons, List.length_append] at hf ⊢
    obtain ⟨f, rfl⟩ : ∃ g, f = g + 1 := ⟨f - 1, by omega⟩
    rw [parseMTail_comma, reads_member k v (h _ (List.mem_cons_self ..)) f d _ (by omega) hd (numEnd_members fs rest),
      depthF]
    apply bind_map_ite
    · exact ih (fun y hy => h y (List.mem_cons_of_mem _ hy)) f (by omega)
    · omega
    · rfl

theorem reads_obj (fs : List (Str × Json Float)) (h : ∀ kv ∈ fs, Reads kv.2) : Reads (.obj fs) := by
  intro f d rest hf hd _
  rcases fs with _ | ⟨⟨k, v⟩, fs⟩
  · rw [printJson, printMembers, List.cons_append, List.cons_append, List.nil_append,
      parseValue_brace f d _ _ _ (skipWs_cons '}' _ (by decide)), if_pos rfl, depth, depthF]
    by_cases h1 : d ≤ 1
    · rw [if_pos h1, if_neg (by omega)]
    · rw [if_neg h1, if_pos (by omega)]
  · simp only [printJson, printMembers, if_true, List.cons_append, List.nil_append, List.append_assoc,
      List.length_cons, List.length_append] at hf ⊢
    obtain ⟨f, rfl⟩ : ∃ g, f = g + 1 := ⟨f - 1, by omega⟩
    rw [parseValue_brace _ d (printString k ++ _) '"' _ (skipWs_cons '"' _ (by decide)),
      if_neg (show ¬ '"' = '}' by decide), depth, depthF]
    by_cases h1 : d ≤ 1
    · rw [if_pos h1, if_neg (by omega)]
    · rw [if_neg h1, reads_member k v (h _ (List.mem_cons_self ..)) f (d - 1) _ (by omega) (by omega)
        (numEnd_members fs rest)]
      apply bind_map_ite
      · exact reads_mtail fs (fun y hy => h y (List.mem_cons_of_mem _ hy)) f (d - 1) rest (by omega) (by omega)
      · omega
      · rfl

theorem reads_scalar (j : Json Float) (h0 : depth j = 0)
    (h : ∀ f d rest, (printJson j).length ≤ f → NumEnd rest → parseValue (f + 1) d (printJson j ++ rest) = some (j, rest)) :
    Reads j := by
  intro f d rest hf hd hr
  rw [h f d rest hf hr, h0, if_pos (show 0 < d from hd)]

theorem parseValue_printJson (j : Json Float) : PrintOk j → Reads j := by
  induction j using Json.induction with
  | null =>
    intro _
    refine reads_scalar _ rfl fun f d rest _ _ => ?_
    rw [parseValue.eq_def]; simp [printJson, skipWs, isWs, parseWord, List.isPrefixOf]
  | bool b =>
    intro _
    refine reads_scalar _ rfl fun f d rest _ _ => ?_
    rw [parseValue.eq_def]; cases b <;> simp [printJson, skipWs, isWs, parseWord, List.isPrefixOf]
  | num x =>
    intro h
    obtain ⟨c, t, e, hc⟩ := printNum_head true x h
    refine reads_scalar _ rfl fun f d rest _ hr => ?_
    rw [printJson, printNum, e, List.cons_append, parseValue_number f d c _ hc, ← List.cons_append, ← e]
    exact parseNumber_printNum true x h rest hr
  | int i =>
    intro h
    obtain ⟨c, t, e, hc⟩ := printInt_head i
    refine reads_scalar _ rfl fun f d rest _ hr => ?_
    rw [printJson, e, List.cons_append, parseValue_number f d c _ hc, ← List.cons_append, ← e]
    exact parseNumber_printInt i h.1 h.2 rest hr
  | str s =>
    intro _
    refine reads_scalar _ rfl fun f d rest hf _ => ?_
    simp only [printJson, printString, List.cons_append, List.append_assoc, List.nil_append, List.length_cons,
      List.length_append, List.length_nil] at hf ⊢
    rw [parseValue_quote, parseStrBody_escapeStr s rest f (by omega)]
    rfl
  | arr xs ih =>
    intro h
    have hok := (printOkL_iff xs).mp h
    exact reads_arr xs hok fun x hx => ih x hx (hok x hx)
  | obj fs ih =>
    intro h
    have hok := (printOkF_iff fs).mp h
    exact reads_obj fs fun kv hkv => ih kv hkv (hok kv hkv)

theorem parseJson_printJson_eq (j : Json Float) (h : PrintOk j) :
    parseJson (printJson j) = if depth j < 128 then some j else none := by
  have := parseValue_printJson j h (2 * (printJson j).length + 2) 128 [] (by omega) (by omega) numEnd_nil
  rw [List.append_nil] at this
  rw [parseJson, this]
  by_cases hd : depth j < 128
  · rw [if_pos hd, if_pos hd]; rfl
  · rw [if_neg hd, if_neg hd]

/-- **`serde_json::from_str ∘ serde_json::to_string` is the identity** on every JSON value whose numbers are finite,
    whose integer nodes are in range and whose nesting depth is at most 127 -/
theorem parseJson_printJson (j : Json Float) (h : PrintOk j) (hd : depth j ≤ 127) : parseJson (printJson j) = some j := by
  rw [parseJson_printJson_eq j h, if_pos (by omega)]

/-- **beyond serde_json's recursion limit the text does not load**: a value nested 128 or more levels deep is
    printed, but `from_str` rejects the text -/
theorem parseJson_too_deep (j : Json Float) (h : PrintOk j) (hd : 128 ≤ depth j) : parseJson (printJson j) = none := by
  rw [parseJson_printJson_eq j h, if_neg (by omega)]

end JsonText
end Slac
