/-
  SlacProofs.ScannerLits — single-token sources: keywords in any letter case, identifiers, decimal numbers;
  and `CharClass.ascii` satisfies `AsciiOk`.
-/
import SlacProofs.ScannerSep
set_option autoImplicit false
namespace Slac
namespace Scanner
variable {N : Type}

theorem CharClass.ascii_ok : CharClass.ascii.AsciiOk :=
  ⟨fun _ _ => rfl, fun _ _ => rfl, fun _ _ => rfl⟩

theorem scan_single_padded [NumOps N] {cc : CharClass} (hcc : cc.AsciiOk) {t : Token N} {x : Str} (s0 trail : Str)
    (hx : Lexeme cc t x) (hs0 : IsSep s0) (htr : IsTrail trail) (hfit : SepFits t trail) :
    scan cc (s0 ++ (x ++ trail)) = .ok [t] := by
  have := scan_layout hcc [⟨t, x, []⟩] s0 trail (by simp) hs0 (by simp [hx, IsSep.nil]) ?_ htr
  · simpa [render] using this
  · exact ⟨by simpa [render] using noCont_trail hcc t x trail htr hfit, trivial⟩

theorem scan_single [NumOps N] {cc : CharClass} (hcc : cc.AsciiOk) {t : Token N} {x : Str} (hx : Lexeme cc t x) :
    scan cc x = .ok [t] := by
  have := scan_single_padded hcc [] [] hx .nil .nil (fun _ r h => by cases h)
  simpa using this

theorem asciiLetter_lt {c : Char} (h : isAsciiLetter c = true) : c.toNat < 128 := by
  simp only [isAsciiLetter, Unicode.inRange, Bool.or_eq_true, Bool.and_eq_true, decide_eq_true_eq] at h
  omega

theorem asciiLower_letters {x : Str} (h : ∀ k ∈ Unicode.asciiLower x, isAsciiLetter k = true) :
    ∀ c ∈ x, isAsciiLetter c = true := by
  intro c hc
  have := h _ (List.mem_map.mpr ⟨c, hc, rfl⟩)
  unfold Unicode.asciiLowerChar at this
  split at this
  · rename_i hr; simp [isAsciiLetter, hr]
  · exact this

theorem word_lexeme [NumOps N] {cc : CharClass} (hcc : cc.AsciiOk) {x : Str} {t : Token N} (hne : x ≠ [])
    (h : ∀ c ∈ x, isAsciiLetter c = true) (hk : kwToken (Unicode.asciiLower x) = some t) : Lexeme cc t x := by
  have ha : ∀ c ∈ x, cc.isAlphabetic c = true := fun c hc => by
    rw [hcc.alpha c (asciiLetter_lt (h c hc))]; exact h c hc
  refine .word ?_ (by rw [hcc.lower x (fun c hc => asciiLetter_lt (h c hc))]; exact hk)
  cases x with
  | nil => exact absurd rfl hne
  | cons c tl =>
    simp only [identShape, Bool.and_eq_true, List.all_eq_true]
    refine ⟨by simp [isIdentStart, ha c (by simp)], fun d hd => ?_⟩
    simp [isIdentCont, CharClass.isAlphanumeric, ha d (by simp [hd])]

theorem keywords_letters {kw : Str} {t : Token N} (h : (kw, t) ∈ keywords N) :
    kw ≠ [] ∧ (∀ k ∈ kw, isAsciiLetter k = true) ∧ kwToken kw = some t := by
  simp only [keywords, List.mem_cons, Prod.mk.injEq, List.not_mem_nil, or_false] at h
  rcases h with ⟨rfl, rfl⟩ | ⟨rfl, rfl⟩ | ⟨rfl, rfl⟩ | ⟨rfl, rfl⟩ | ⟨rfl, rfl⟩ | ⟨rfl, rfl⟩ | ⟨rfl, rfl⟩ | ⟨rfl, rfl⟩ <;>
    exact ⟨by simp, by decide, rfl⟩

/-- every ASCII case variant of a keyword is a lexeme of the keyword's token -/
theorem keyword_variant_lexeme [NumOps N] {cc : CharClass} (hcc : cc.AsciiOk) {x kw : Str} {t : Token N}
    (hkw : (kw, t) ∈ keywords N) (hx : Unicode.asciiLower x = kw) : Lexeme cc t x := by
  obtain ⟨hne, hl, hk⟩ := keywords_letters hkw
  subst hx
  exact word_lexeme hcc (fun h => hne (by rw [h]; rfl)) (asciiLower_letters hl) hk

/-- the eight keyword texts -/
def keywordTexts : List Str :=
  [['t','r','u','e'], ['f','a','l','s','e'], ['a','n','d'], ['o','r'], ['x','o','r'], ['n','o','t'], ['d','i','v'], ['m','o','d']]

theorem keywords_texts : (keywords N).map Prod.fst = keywordTexts := rfl

theorem kwToken_eq_none_iff {low : Str} : kwToken (N := N) low = none ↔ low ∉ keywordTexts := by
  rw [← keywords_texts (N := N), kwToken, List.lookup_eq_none_iff, List.mem_map]
  exact ⟨fun h ⟨p, hp, he⟩ => by simpa [he] using h p hp, fun h p hp => bne_iff_ne.mpr fun e => h ⟨p, hp, e.symm⟩⟩

/-- the four spellings of a decimal number literal over ASCII digits -/
inductive DecimalText : Str → Prop
  | int {a} : a ≠ [] → (∀ c ∈ a, isAsciiDigit c = true) → DecimalText a
  | intDot {a} : a ≠ [] → (∀ c ∈ a, isAsciiDigit c = true) → DecimalText (a ++ ['.'])
  | dotFrac {b} : b ≠ [] → (∀ c ∈ b, isAsciiDigit c = true) → DecimalText ('.' :: b)
  | intFrac {a b} : a ≠ [] → b ≠ [] → (∀ c ∈ a, isAsciiDigit c = true) → (∀ c ∈ b, isAsciiDigit c = true) →
      DecimalText (a ++ '.' :: b)

theorem asciiDigit_class {cc : CharClass} (hcc : cc.AsciiOk) {c : Char} (h : isAsciiDigit c = true) :
    cc.isNumeric c = true ∧ isIdentStart cc c = false := by
  have hlt : c.toNat < 128 := by
    simp only [isAsciiDigit, Unicode.inRange, Bool.and_eq_true, decide_eq_true_eq] at h; omega
  have hnl : isAsciiLetter c = false := by
    simp only [isAsciiDigit, Unicode.inRange, Bool.and_eq_true, decide_eq_true_eq] at h
    simp only [isAsciiLetter, Unicode.inRange, Bool.or_eq_false_iff, Bool.and_eq_false_iff, decide_eq_false_iff_not]
    omega
  have hu : c ≠ '_' := by
    intro hc; subst hc; revert h; decide
  refine ⟨by rw [hcc.num c hlt]; exact h, ?_⟩
  simp [isIdentStart, hcc.alpha c hlt, hnl, hu]

theorem numTail_digits {cc : CharClass} (hcc : cc.AsciiOk) (a s : Str) (ha : ∀ c ∈ a, isAsciiDigit c = true)
    (hs : s = [] ∨ ∃ b, s = '.' :: b ∧ ∀ c ∈ b, isAsciiDigit c = true) :
    (match (a ++ s).dropWhile cc.isNumeric with
     | [] => true
     | d :: r => d == '.' && r.all cc.isNumeric) = true := by
  have hh : HeadNot cc.isNumeric s := by
    rcases hs with rfl | ⟨b, rfl, _⟩
    · exact .nil _
    · exact .cons (special_numeric hcc '.' (by decide))
  rw [(span_append (fun d hd => (asciiDigit_class hcc (ha d hd)).1) hh).2]
  rcases hs with rfl | ⟨b, rfl, hb⟩
  · rfl
  · simpa using fun d hd => (asciiDigit_class hcc (hb d hd)).1

theorem decimal_numShape {cc : CharClass} (hcc : cc.AsciiOk) {x : Str} (h : DecimalText x) :
    numShape cc x = true := by
  have digits : ∀ a s : Str, a ≠ [] → (∀ c ∈ a, isAsciiDigit c = true) →
      (s = [] ∨ ∃ b, s = '.' :: b ∧ ∀ c ∈ b, isAsciiDigit c = true) → numShape cc (a ++ s) = true := by
    intro a s hne ha hs
    cases a with
    | nil => exact absurd rfl hne
    | cons c tl =>
      have hc := asciiDigit_class hcc (ha c (by simp))
      simp only [List.cons_append, numShape, hc.1, hc.2, Bool.not_false, Bool.true_or, Bool.true_and]
      exact numTail_digits hcc tl s (fun d hd => ha d (by simp [hd])) hs
  cases h with
  | int hne ha => simpa using digits x [] hne ha (.inl rfl)
  | intDot hne ha => exact digits _ _ hne ha (.inr ⟨[], rfl, by simp⟩)
  | @dotFrac b hne hb =>
    simp only [numShape, special_identStart hcc '.' (by decide), Bool.not_false, beq_self_eq_true, Bool.or_true, Bool.true_and]
    have := numTail_digits hcc b [] hb (.inl rfl)
    rw [List.append_nil] at this
    exact this
  | intFrac hna hnb ha hb => exact digits _ _ hna ha (.inr ⟨_, rfl, hb⟩)

/-- a number-shaped source scans to the parsed number, or to `invalidNumber` if the parse fails -/
theorem scan_numShape [NumOps N] {cc : CharClass} (hcc : cc.AsciiOk) {x : Str} (hx : numShape cc x = true) :
    scan (N := N) cc x = match NumOps.parse (N := N) x with
      | some v => .ok [.literal (.num v)]
      | none => .err .invalidNumber := by
  obtain ⟨c, cs, he, hsk, hnt⟩ := numShape_reads (N := N) hcc x [] hx (HeadNot.nil _)
  rw [List.append_nil] at he
  subst he
  unfold scan
  rw [scanAll_eq, scanStep, hsk]
  simp only [hnt]
  cases NumOps.parse (N := N) (c :: cs) with
  | none => rfl
  | some v => simp only [scanAll_trail cc IsTrail.nil]

end Scanner
end Slac
