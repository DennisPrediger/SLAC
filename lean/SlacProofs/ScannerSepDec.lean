/-
  SlacProofs.ScannerSepDec — the separator grammar is decidable (so that examples are `by decide`): `IsSep s ↔ sepB s = true`
  (`isSep_iff`; `endsCode` is the skipping machine of `skipWs` made to report whether it ends between tokens) and
  `IsTrail s ↔ skipWs .code s = []` (`isTrail_iff`).
-/
import SlacProofs.ScannerSkip
set_option autoImplicit false
namespace Slac
namespace Scanner

/-- the skipping machine consumes all of the text and is between tokens (mode `code`) at its end -/
def endsCode : Mode → Str → Bool
  | .code, [] => true
  | .code, c :: cs =>
    if isWs c then endsCode .code cs
    else if c = '/' then
      match cs with
      | c2 :: cs' => if c2 = '/' then endsCode .line cs' else false
      | [] => false
    else if c = '{' then endsCode (.block 0) cs
    else false
  | .line, [] => false
  | .line, c :: cs => if c = '\n' then endsCode .code cs else endsCode .line cs
  | .block _, [] => false
  | .block d, c :: cs =>
    if c = '{' then endsCode (.block (d+1)) cs
    else if c = '}' then (match d with | 0 => endsCode .code cs | d'+1 => endsCode (.block d') cs)
    else endsCode (.block d) cs

def sepB (s : Str) : Bool := endsCode .code s

def EndsSpec : Mode → Str → Prop
  | .code, s => IsSep s
  | .line, s => ∃ body s', s = body ++ '\n' :: s' ∧ (∀ c ∈ body, c ≠ '\n') ∧ IsSep s'
  | .block d, s => ∃ body s', s = body ++ s' ∧ Body d body ∧ IsSep s'

theorem endsCode_sound (m : Mode) (s : Str) (h : endsCode m s = true) : EndsSpec m s := by
  fun_induction endsCode m s with
  | case1 => exact .nil
  | case2 c cs hc ih => exact .ws hc (ih h)
  | case3 cs' _ ih =>
    obtain ⟨body, s', he, hb, hs⟩ := ih h
    subst he
    exact .line hb hs
  | case4 => cases h
  | case5 => cases h
  | case6 cs _ _ ih =>
    obtain ⟨body, s', he, hb, hs⟩ := ih h
    subst he
    exact .block hb hs
  | case7 => cases h
  | case8 => cases h
  | case9 cs ih => exact ⟨[], cs, rfl, by simp, ih h⟩
  | case10 c cs hc ih =>
    obtain ⟨body, s', he, hb, hs⟩ := ih h
    exact ⟨c :: body, s', by rw [he]; rfl, List.forall_mem_cons.mpr ⟨hc, hb⟩, hs⟩
  | case11 => cases h
  | case12 d cs ih =>
    obtain ⟨body, s', he, hb, hs⟩ := ih h
    exact ⟨'{' :: body, s', by rw [he]; rfl, .open_ hb, hs⟩
  | case13 cs ho ih =>
    exact ⟨['}'], cs, rfl, .close0, ih h⟩
  | case14 cs d' ho ih =>
    obtain ⟨body, s', he, hb, hs⟩ := ih h
    exact ⟨'}' :: body, s', by rw [he]; rfl, .close hb, hs⟩
  | case15 d c cs ho hcl ih =>
    obtain ⟨body, s', he, hb, hs⟩ := ih h
    exact ⟨c :: body, s', by rw [he]; rfl, .other ho hcl hb, hs⟩

theorem sepB_sound {s : Str} (h : sepB s = true) : IsSep s := endsCode_sound .code s h

theorem ends_line_body (body rest : Str) (h : ∀ c ∈ body, c ≠ '\n') :
    endsCode .line (body ++ '\n' :: rest) = endsCode .code rest := by
  induction body with
  | nil => rfl
  | cons c cs ih =>
    rw [List.cons_append, endsCode, if_neg (h c (by simp))]
    exact ih (fun c hc => h c (by simp [hc]))

theorem ends_block_body {d : Nat} {b : Str} (h : Body d b) (rest : Str) :
    endsCode (.block d) (b ++ rest) = endsCode .code rest := by
  induction h with
  | close0 => rfl
  | close _ ih => exact ih
  | open_ _ ih => exact ih
  | other h1 h2 _ ih => rw [List.cons_append, endsCode.eq_def]; simp only [if_neg h1, if_neg h2]; exact ih

/-- the separator grammar is exactly "the skipping machine consumes the text and ends between tokens" -/
theorem isSep_iff (s : Str) : IsSep s ↔ sepB s = true := by
  refine ⟨fun h => ?_, sepB_sound⟩
  unfold sepB
  induction h with
  | nil => rfl
  | ws hc _ ih => rw [endsCode.eq_def]; simpa only [hc, if_true] using ih
  | @line body s hb _ ih => exact (ends_line_body body s hb).trans ih
  | @block body s hb _ ih => rw [endsCode.eq_def]; exact (ends_block_body hb s).trans ih

def TrailSpec : Mode → Str → Prop
  | .code, s => IsTrail s
  | .line, s => (∀ c ∈ s, c ≠ '\n') ∨ ∃ body s', s = body ++ '\n' :: s' ∧ (∀ c ∈ body, c ≠ '\n') ∧ IsTrail s'
  | .block d, s => Unclosed d s ∨ ∃ body s', s = body ++ s' ∧ Body d body ∧ IsTrail s'

theorem skipWs_nil_sound (m : Mode) (s : Str) (h : skipWs m s = []) : TrailSpec m s := by
  fun_induction skipWs m s with
  | case1 => exact .nil
  | case2 c cs hc ih => exact .sep (s := [c]) (.ws hc .nil) (ih h)
  | case3 cs' _ ih =>
    rcases ih h with hb | ⟨body, s', he, hb, hs⟩
    · exact .lineEof hb
    · subst he
      have := IsTrail.sep (s := '/' :: '/' :: (body ++ ['\n'])) (by simpa using IsSep.line hb .nil) hs
      show IsTrail _
      simpa using this
  | case4 => cases h
  | case5 => cases h
  | case6 cs _ _ ih =>
    rcases ih h with hu | ⟨body, s', he, hb, hs⟩
    · exact .blockEof hu
    · subst he
      have := IsTrail.sep (s := '{' :: body) (by simpa using IsSep.block hb .nil) hs
      show IsTrail _
      simpa using this
  | case7 => cases h
  | case8 => exact .inl (by simp)
  | case9 cs ih => exact .inr ⟨[], cs, rfl, by simp, ih h⟩
  | case10 c cs hc ih =>
    rcases ih h with hb | ⟨body, s', he, hb, hs⟩
    · exact .inl (List.forall_mem_cons.mpr ⟨hc, hb⟩)
    · exact .inr ⟨c :: body, s', by rw [he]; rfl, List.forall_mem_cons.mpr ⟨hc, hb⟩, hs⟩
  | case11 => exact .inl .nil
  | case12 d cs ih =>
    rcases ih h with hu | ⟨body, s', he, hb, hs⟩
    · exact .inl (.open_ hu)
    · exact .inr ⟨'{' :: body, s', by rw [he]; rfl, .open_ hb, hs⟩
  | case13 cs ho ih => exact .inr ⟨['}'], cs, rfl, .close0, ih h⟩
  | case14 cs d' ho ih =>
    rcases ih h with hu | ⟨body, s', he, hb, hs⟩
    · exact .inl (.close hu)
    · exact .inr ⟨'}' :: body, s', by rw [he]; rfl, .close hb, hs⟩
  | case15 d c cs ho hcl ih =>
    rcases ih h with hu | ⟨body, s', he, hb, hs⟩
    · exact .inl (.other ho hcl hu)
    · exact .inr ⟨c :: body, s', by rw [he]; rfl, .other ho hcl hb, hs⟩

/-- the trailing grammar is exactly "everything is skipped" -/
theorem isTrail_iff (s : Str) : IsTrail s ↔ skipWs .code s = [] :=
  ⟨skipWs_trail, skipWs_nil_sound .code s⟩

end Scanner
end Slac
