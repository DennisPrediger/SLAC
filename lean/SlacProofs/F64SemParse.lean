/-
  SlacProofs.F64SemParse — `F64.parse` on decimal number literals WITHOUT exponent part, of any length:
  digits, digits., .digits, digits.digits  ↦  `Float.ofScientific (all digits) (fraction?) (number of fraction digits)`.
  The parser's exponent clamps (|e| beyond 400 / 1200 + digits) are never reached by such a text (`parse_decimal`),
  so together with `sci_nearest_int` / `sci_nearest_frac` the result is the nearest double (`parse_decimal_nearest`).
-/
import SlacProofs.F64SemNearest
import SlacProofs.F64Parse
import SlacProofs.ScannerLits
set_option autoImplicit false
namespace Slac
namespace F64
open Scanner

theorem isDig_of_asciiDigit {c : Char} (h : isAsciiDigit c = true) : isDig c = true := by
  rw [isDig_iff]
  simp only [isAsciiDigit, Unicode.inRange, Bool.and_eq_true, decide_eq_true_eq] at h
  omega

/-- digits, a dot, digits (either group may be empty, not both): no clamp applies, whatever the lengths -/
theorem parseNum_dot (D F : Str) (hD : ∀ c ∈ D, isDig c = true) (hF : ∀ c ∈ F, isDig c = true)
    (hne : D ≠ [] ∨ F ≠ []) :
    parseNum false (D ++ '.' :: F) =
      some (if F.length = 0 then Float.ofScientific (digitsVal (D ++ F)) false 0
            else Float.ofScientific (digitsVal (D ++ F)) true F.length) := by
  have := parseNum_frac_x false D F [] 0 hne hD hF noDigHead_nil expoOf_nil
  rw [List.append_nil] at this
  rw [this, finish_eq _ _ _ _ (by omega) (by omega)]
  unfold sgnB sciOf
  by_cases hF0 : F.length = 0
  · rw [if_pos hF0, hF0]; rfl
  · rw [if_neg hF0, if_neg (by decide), if_neg (by omega)]
    congr 2; omega

/-- the digits before the dot / after the dot of a decimal text -/
def intDigits (text : Str) : Str := text.takeWhile (fun c => c != '.')
def fracDigits (text : Str) : Str := (text.dropWhile (fun c => c != '.')).drop 1

theorem isDig_ne_dot {c : Char} (h : isDig c = true) : (c != '.') = true := by
  rw [bne_iff_ne]; intro hc; rw [hc, isDig_dot] at h; cases h

theorem parts_dot (D F : Str) (hD : ∀ c ∈ D, isDig c = true) :
    intDigits (D ++ '.' :: F) = D ∧ fracDigits (D ++ '.' :: F) = F := by
  have hD' : ∀ c ∈ D, (fun c => c != '.') c = true := fun c hc => isDig_ne_dot (hD c hc)
  unfold intDigits fracDigits
  rw [List.takeWhile_append_of_pos hD', List.dropWhile_append_of_pos hD',
    List.takeWhile_cons_of_neg (by simp), List.dropWhile_cons_of_neg (by simp)]
  simp

theorem parts_nodot (D : Str) (hD : ∀ c ∈ D, isDig c = true) : intDigits D = D ∧ fracDigits D = [] := by
  have hD' : ∀ c ∈ D, (fun c => c != '.') c = true := fun c hc => isDig_ne_dot (hD c hc)
  unfold intDigits fracDigits
  have t := List.takeWhile_append_of_pos (p := fun c => c != '.') (l₁ := D) (l₂ := []) hD'
  have d := List.dropWhile_append_of_pos (p := fun c => c != '.') (l₁ := D) (l₂ := []) hD'
  simp only [List.append_nil, List.takeWhile_nil, List.dropWhile_nil] at t d
  rw [t, d]; exact ⟨rfl, rfl⟩

/-- what `parse` computes on a decimal literal: `Float.ofScientific` of all digits with the number of fraction digits -/
theorem parse_decimal {text : Str} (ht : DecimalText text) :
    (∀ c ∈ intDigits text ++ fracDigits text, isAsciiDigit c = true) ∧
    (text = intDigits text ∨ text = intDigits text ++ '.' :: fracDigits text) ∧
    (intDigits text ≠ [] ∨ fracDigits text ≠ []) ∧
    parse text = some (if (fracDigits text).length = 0
      then Float.ofScientific (digitsVal (intDigits text ++ fracDigits text)) false 0
      else Float.ofScientific (digitsVal (intDigits text ++ fracDigits text)) true (fracDigits text).length) := by
  cases ht with
  | int hne ha =>
    have hD : ∀ c ∈ text, isDig c = true := fun c hc => isDig_of_asciiDigit (ha c hc)
    obtain ⟨p1, p2⟩ := parts_nodot text hD
    rw [p1, p2]
    refine ⟨by simpa using ha, Or.inl rfl, Or.inl hne, ?_⟩
    have := parse_int_shape false text hne hD
    simp only [Bool.false_eq_true, if_false, List.nil_append, sgnB] at this
    rw [this]; simp
  | @intDot a hne ha =>
    have hD : ∀ c ∈ a, isDig c = true := fun c hc => isDig_of_asciiDigit (ha c hc)
    obtain ⟨p1, p2⟩ := parts_dot a [] hD
    rw [p1, p2]
    refine ⟨by simpa using ha, Or.inr rfl, Or.inl hne, ?_⟩
    cases a with
    | nil => exact absurd rfl hne
    | cons d t =>
      rw [List.cons_append, parse_pos_digit d _ (hD d (by simp)), ← List.cons_append]
      exact parseNum_dot (d :: t) [] hD (by simp) (Or.inl hne)
  | @dotFrac b hne hb =>
    have hF : ∀ c ∈ b, isDig c = true := fun c hc => isDig_of_asciiDigit (hb c hc)
    obtain ⟨p1, p2⟩ := parts_dot [] b (by simp)
    rw [List.nil_append] at p1 p2
    rw [p1, p2]
    refine ⟨by simpa using hb, Or.inr rfl, Or.inr hne, ?_⟩
    rw [parse_unsigned '.' b (by decide) (by decide) (by decide)]
    exact parseNum_dot [] b (by simp) hF (Or.inr hne)
  | @intFrac a b hna hnb ha hb =>
    have hD : ∀ c ∈ a, isDig c = true := fun c hc => isDig_of_asciiDigit (ha c hc)
    have hF : ∀ c ∈ b, isDig c = true := fun c hc => isDig_of_asciiDigit (hb c hc)
    obtain ⟨p1, p2⟩ := parts_dot a b hD
    rw [p1, p2]
    refine ⟨?_, Or.inr rfl, Or.inl hna, ?_⟩
    · intro c hc; rcases List.mem_append.1 hc with h | h
      · exact ha c h
      · exact hb c h
    · cases a with
      | nil => exact absurd rfl hna
      | cons d t =>
        rw [List.cons_append, parse_pos_digit d _ (hD d (by simp)), ← List.cons_append]
        exact parseNum_dot (d :: t) b hD hF (Or.inl hna)

/-- **a decimal literal parses to the nearest double** of its decimal value
    (all digits) / 10^(number of fraction digits) — round to nearest, ties to even, overflow to +inf -/
theorem parse_decimal_nearest {text : Str} (ht : DecimalText text) :
    ∃ x : Float, parse text = some x ∧
      NearestDouble (digitsVal (intDigits text ++ fracDigits text)) (10^(fracDigits text).length) x := by
  obtain ⟨_, _, _, hp⟩ := parse_decimal ht
  refine ⟨_, hp, ?_⟩
  by_cases h0 : (fracDigits text).length = 0
  · rw [if_pos h0, h0, Nat.pow_zero]; exact sci_nearest_int _
  · rw [if_neg h0]; exact sci_nearest_frac _ _ (by omega)

end F64
end Slac
