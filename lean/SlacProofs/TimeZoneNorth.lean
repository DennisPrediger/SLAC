/-
  SlacProofs.TimeZoneNorth — the northern-hemisphere `Mm.w.d` zones of SlacModel.TimeZone (standard time in winter,
  daylight time from a day of month ≥ February to a later day of a later month ≤ November, `std < dst`) satisfy the
  zone laws of SlacProps.C16Zone FOR EVERY YEAR: the offsets are `std`/`dst`, and an unambiguous local reading is
  confirmed by the UTC-side lookup unless it is the second before a skipped one.
  Both lookups consult the transitions of ONE year once the instant or reading is known to lie within a day of that
  year (`isDst_near`, `localResult_near`): the transitions keep a month's distance from the turn of the year, the
  offsets are below a day.  The two laws are then comparisons of instants of a single year.
-/
import SlacProofs.TimeZonePosix
set_option autoImplicit false
set_option linter.unusedSimpArgs false
namespace Slac.Time
open Posix

/-- the class of rules covered (a decidable check of the rule's numbers) -/
def Posix.Alt.northern (a : Alt) : Bool :=
  match a.dstStart, a.dstEnd with
  | .monthWeekday ms ws ds, .monthWeekday me we de =>
    decide (2 ≤ ms) && decide (ms < me) && decide (me ≤ 11) &&
    decide (1 ≤ ws) && decide (ws ≤ 5) && decide (ds ≤ 6) && decide (1 ≤ we) && decide (we ≤ 5) && decide (de ≤ 6) &&
    decide (0 ≤ a.dstStartTime) && decide (a.dstStartTime ≤ 86400) && decide (0 ≤ a.dstEndTime) && decide (a.dstEndTime ≤ 86400) &&
    decide (a.std < a.dst) && decide (-86400 < a.std) && decide (a.dst < 86400) &&
    decide (a.std % 60 = 0) && decide (a.dst % 60 = 0) &&
    decide (2 * (a.dst - a.std) ≤ 86400 - a.dstStartTime + a.dstEndTime)
  | _, _ => false

theorem Posix.Alt.offsetFromUtc_mem (a : Alt) (u : Int) : a.offsetFromUtc u = a.std ∨ a.offsetFromUtc u = a.dst := by
  unfold Alt.offsetFromUtc; split <;> simp

theorem Posix.Alt.localResult_single_mem (a : Alt) (l off : Int) (h : a.localResult l = .single off) : off = a.std ∨ off = a.dst := by
  -- `localResult` is a tree of conditions whose `single` leaves carry `std` or `dst`; `ite` passes the claim down to the leaves
  have ite : ∀ {c : Prop} [Decidable c] {x y : LocalResult}, (x = .single off → off = a.std ∨ off = a.dst) →
      (y = .single off → off = a.std ∨ off = a.dst) → (if c then x else y) = .single off → off = a.std ∨ off = a.dst := by
    intro c _ x y hx hy; split <;> assumption
  revert h
  unfold Alt.localResult
  simp only []
  repeat' apply ite
  all_goals intro h; first | (cases h; simp) | cases h

/-- chrono's `dst_start_transition_start`, `dst_end_transition_start` of year `Y`: the start read in standard, the end in daylight time -/
def Posix.Alt.startAt (a : Alt) (Y : Int) : Int := a.dstStart.unixTime Y 0 + a.dstStartTime
def Posix.Alt.endAt (a : Alt) (Y : Int) : Int := a.dstEnd.unixTime Y 0 + a.dstEndTime

/-- what the proofs use of `northern` -/
structure Posix.Alt.North (a : Alt) : Prop where
  std_gt : -86400 < a.std
  lt : a.std < a.dst
  dst_lt : a.dst < 86400
  std_min : a.std % 60 = 0
  dst_min : a.dst % 60 = 0
  months : ∀ Y, (a.dstStart.transitionDate Y).1 < (a.dstEnd.transitionDate Y).1
  start_ge : ∀ Y, (daysFromCivil Y 1 1 + 31) * 86400 ≤ a.startAt Y
  span : ∀ Y, a.startAt Y + 2 * (a.dst - a.std) ≤ a.endAt Y
  end_le : ∀ Y, a.endAt Y ≤ (daysFromCivil (Y + 1) 1 1 - 31) * 86400

theorem Posix.Alt.north (a : Alt) (hN : a.northern = true) : a.North := by
  obtain ⟨sO, dO, rs, st, re, et⟩ := a
  unfold Alt.northern at hN
  split at hN
  · rename_i ms ws ds me we de hs he
    simp only at hs he
    subst hs he
    simp only [Bool.and_eq_true, decide_eq_true_eq, and_assoc] at hN
    obtain ⟨c1, c2, c3, c4, c5, -, c7, c8, -, t1, t2, t3, t4, o1, o2, o3, m1, m2, g⟩ := hN
    have hy := mw_year ms ws ds me we de c1 c2 c3 c4 c5 c7 c8
    refine ⟨o2, o1, o3, m1, m2, fun Y => (hy Y).1, fun Y => ?_, fun Y => ?_, fun Y => ?_⟩ <;>
      simp only [Alt.startAt, Alt.endAt, RuleDay.unixTime_eq] <;> have := hy Y <;> omega
  · cases hN

/-- the case analysis of `AlternateTime::find_local_time_type` on the six transition instants (current, previous, next year) -/
def dstLogic (u cs ce ps pe ns ne : Int) : Bool :=
  if cs ≤ ce then
    if u < cs then (if u < pe then decide (ps ≤ u) else false)
    else if u < ce then true
    else (if ns ≤ u then decide (u < ne) else false)
  else
    if u < ce then (if u < ps then decide (u < pe) else true)
    else if u < cs then false
    else (if ne ≤ u then decide (ns ≤ u) else true)

theorem Posix.Alt.isDst_eq (a : Alt) (u : Int) :
    a.isDst u = dstLogic u (a.startAt (utcYear u) - a.std) (a.endAt (utcYear u) - a.dst)
      (a.startAt (utcYear u - 1) - a.std) (a.endAt (utcYear u - 1) - a.dst)
      (a.startAt (utcYear u + 1) - a.std) (a.endAt (utcYear u + 1) - a.dst) := by
  have e : ∀ (r : RuleDay) (Y t o : Int), r.unixTime Y 0 + t - o = r.unixTime Y (t - o) := by
    intro r Y t o; simp only [RuleDay.unixTime_eq]; omega
  simp only [Alt.startAt, Alt.endAt, e]
  rfl

theorem dstLogic_current {u cs ce ps pe ns ne : Int} (h : cs ≤ ce) (hp : pe ≤ u) (hn : u < ns) :
    dstLogic u cs ce ps pe ns ne = decide (cs ≤ u ∧ u < ce) := by
  have a1 : ¬ u < pe := by omega
  have a2 : ¬ ns ≤ u := by omega
  by_cases h1 : u < cs
  · have : ¬ (cs ≤ u ∧ u < ce) := by omega
    simp [dstLogic, h, h1, a1, this]
  · by_cases h2 : u < ce
    · have : cs ≤ u ∧ u < ce := by omega
      simp [dstLogic, h, h1, h2, this]
    · have : ¬ (cs ≤ u ∧ u < ce) := by omega
      simp [dstLogic, h, h1, h2, a2, this]

/-- the northern-hemisphere branch of `find_local_time_type_from_local` -/
def locNorth (l ss se es ee std dst : Int) : LocalResult :=
  if l ≤ ss then .single std
  else if l > ss ∧ l < se then .none
  else if l ≥ se ∧ l < ee then .single dst
  else if l ≥ ee ∧ l ≤ es then .ambiguous std dst
  else .single std

def Posix.Alt.northAt (a : Alt) (Y l : Int) : LocalResult :=
  locNorth l (a.startAt Y) (a.startAt Y + a.dst - a.std) (a.endAt Y) (a.endAt Y + a.std - a.dst) a.std a.dst

theorem Posix.Alt.localResult_north (a : Alt) (l : Int) (h1 : a.std < a.dst)
    (h2 : (a.dstStart.transitionDate (civilFromDays (l / 86400)).1).1 < (a.dstEnd.transitionDate (civilFromDays (l / 86400)).1).1) :
    a.localResult l = a.northAt (civilFromDays (l / 86400)).1 l := by
  have h0 : ¬ a.std = a.dst := by omega
  simp only [Alt.localResult, h0, h1, h2, if_true, if_false, decide_true]
  rfl

theorem locNorth_single {l ss se es ee std dst off : Int} (h : locNorth l ss se es ee std dst = .single off) :
    (off = std ∧ (l ≤ ss ∨ (es < l ∧ se ≤ l))) ∨ (off = dst ∧ se ≤ l ∧ l < ee) := by
  unfold locNorth at h
  split at h
  · cases h; left; exact ⟨rfl, Or.inl (by assumption)⟩
  · split at h
    · cases h
    · split at h
      · cases h; right; rename_i hc; exact ⟨rfl, hc.1, hc.2⟩
      · split at h
        · cases h
        · cases h; left; refine ⟨rfl, Or.inr ?_⟩; omega

theorem locNorth_before {l ss se es ee std dst : Int} (h : l ≤ ss) : locNorth l ss se es ee std dst = .single std := if_pos h

theorem locNorth_none {l ss se es ee std dst : Int} (h1 : ss < l) (h2 : l < se) : locNorth l ss se es ee std dst = .none := by
  have : ¬ l ≤ ss := by omega
  simp [locNorth, this, h1, h2]

theorem locNorth_after {l ss se es ee std dst : Int} (h1 : ss < l) (h2 : se ≤ l) (h3 : ee ≤ l) (h4 : es < l) :
    locNorth l ss se es ee std dst = .single std := by
  unfold locNorth
  rw [if_neg (by omega), if_neg (by omega), if_neg (by omega), if_neg (by omega)]

theorem year_near (z Y : Int) (h1 : daysFromCivil Y 1 1 - 1 ≤ z) (h2 : z ≤ daysFromCivil (Y + 1) 1 1) :
    (civilFromDays z).1 = Y - 1 ∨ (civilFromDays z).1 = Y ∨ (civilFromDays z).1 = Y + 1 := by
  have l0 := year_len (Y - 1)
  have l2 := year_len (Y + 1)
  rw [(by omega : Y - 1 + 1 = Y)] at l0
  by_cases ha : z < daysFromCivil Y 1 1
  · exact Or.inl (year_unique z (Y - 1) (by omega) (by rw [(by omega : Y - 1 + 1 = Y)]; exact ha))
  · by_cases hb : z < daysFromCivil (Y + 1) 1 1
    · exact Or.inr (Or.inl (year_unique z Y (by omega) hb))
    · exact Or.inr (Or.inr (year_unique z (Y + 1) (by omega) (by omega)))

theorem Posix.Alt.isDst_year {a : Alt} (N : a.North) (u : Int) :
    a.isDst u = decide (a.startAt (civilFromDays (u / 86400)).1 - a.std ≤ u ∧ u < a.endAt (civilFromDays (u / 86400)).1 - a.dst) := by
  obtain ⟨b1, b2⟩ := year_bounds (u / 86400)
  rw [Alt.isDst_eq, utcYear_eq]
  generalize (civilFromDays (u / 86400)).1 = y at b1 b2 ⊢
  have p := N.end_le (y - 1)
  rw [(by omega : y - 1 + 1 = y)] at p
  have := N.span y; have := N.start_ge (y + 1); have := N.std_gt; have := N.lt; have := N.dst_lt
  exact dstLogic_current (by omega) (by omega) (by omega)

theorem Posix.Alt.isDst_near {a : Alt} (N : a.North) (u Y : Int)
    (h1 : (daysFromCivil Y 1 1 - 1) * 86400 ≤ u) (h2 : u < (daysFromCivil (Y + 1) 1 1 + 1) * 86400) :
    a.isDst u = decide (a.startAt Y - a.std ≤ u ∧ u < a.endAt Y - a.dst) := by
  obtain ⟨b1, b2⟩ := year_bounds (u / 86400)
  have := N.start_ge Y; have := N.end_le Y; have := N.std_gt; have := N.lt; have := N.dst_lt
  rw [a.isDst_year N, decide_eq_decide]
  rcases year_near (u / 86400) Y (by omega) (by omega) with e | e | e
  · have p := N.end_le (Y - 1)
    rw [e] at b1 b2 ⊢
    rw [(by omega : Y - 1 + 1 = Y)] at p b2
    omega
  · rw [e]
  · have := N.start_ge (Y + 1)
    rw [e] at b1 b2 ⊢
    omega

theorem Posix.Alt.localResult_year {a : Alt} (N : a.North) (l : Int) : a.localResult l = a.northAt (civilFromDays (l / 86400)).1 l :=
  a.localResult_north l N.lt (N.months _)

theorem Posix.Alt.localResult_near {a : Alt} (N : a.North) (l Y : Int)
    (h1 : (daysFromCivil Y 1 1 - 1) * 86400 ≤ l) (h2 : l < (daysFromCivil (Y + 1) 1 1 + 1) * 86400) :
    a.localResult l = a.northAt Y l := by
  obtain ⟨b1, b2⟩ := year_bounds (l / 86400)
  have := N.start_ge Y; have := N.end_le Y; have := N.span Y; have := N.lt
  rw [a.localResult_year N]
  rcases year_near (l / 86400) Y (by omega) (by omega) with e | e | e
  · -- the last day of the year before: after that year's end, before this year's start
    have p := N.end_le (Y - 1); have := N.span (Y - 1)
    rw [e] at b1 b2 ⊢
    rw [(by omega : Y - 1 + 1 = Y)] at p b2
    rw [Alt.northAt, Alt.northAt, locNorth_after (by omega) (by omega) (by omega) (by omega), locNorth_before (by omega)]
  · rw [e]
  · have := N.start_ge (Y + 1)
    rw [e] at b1 b2 ⊢
    rw [Alt.northAt, Alt.northAt, locNorth_before (by omega), locNorth_after (by omega) (by omega) (by omega) (by omega)]

/-- CONFIRMATION for every northern `Mm.w.d` zone and every year: an unambiguous local reading that is not the second
    before a skipped one is the instant `l − off`, at which the UTC-side lookup gives the same offset -/
theorem Posix.Alt.northern_confirmed {a : Alt} (N : a.North) (l off : Int)
    (hl : a.localResult l = .single off) (hn : a.localResult (l + 1) ≠ .none) : a.offsetFromUtc (l - off) = off := by
  obtain ⟨b1, b2⟩ := year_bounds (l / 86400)
  generalize (civilFromDays (l / 86400)).1 = Y at b1 b2
  have := N.span Y; have := N.std_gt; have := N.lt; have := N.dst_lt; have := N.std_min; have := N.dst_min
  rw [a.localResult_near N l Y (by omega) (by omega), Alt.northAt] at hl
  rw [a.localResult_near N (l + 1) Y (by omega) (by omega), Alt.northAt] at hn
  have hoff : -86400 < off ∧ off < 86400 := by
    rcases locNorth_single hl with ⟨rfl, _⟩ | ⟨rfl, _⟩ <;> omega
  rw [Alt.offsetFromUtc, a.isDst_near N (l - off) Y (by omega) (by omega)]
  rcases locNorth_single hl with ⟨rfl, hA | hB⟩ | ⟨rfl, h3, h4⟩
  · -- before the start: strictly, since the next second is not skipped
    have hlt : l < a.startAt Y := by
      by_cases hc : l < a.startAt Y
      · exact hc
      · exact absurd (locNorth_none (by omega) (by omega)) hn
    rw [decide_eq_false (by omega)]; rfl
  · rw [decide_eq_false (by omega)]; rfl
  · rw [decide_eq_true (by omega)]; rfl

/-- the result names the offset -/
def LocalResult.mentions : LocalResult → Int → Prop
  | .none, _ => False
  | .single o, off => o = off
  | .ambiguous a b, off => a = off ∨ b = off

theorem locNorth_mentions_dst {l ss se es ee std dst : Int} (h0 : ss < se) (h1 : se ≤ l) (h2 : l ≤ es) :
    (locNorth l ss se es ee std dst).mentions dst := by
  unfold locNorth
  rw [if_neg (by omega), if_neg (by omega)]
  by_cases h3 : l < ee
  · rw [if_pos ⟨h1, h3⟩]; rfl
  · rw [if_neg (by omega), if_pos ⟨by omega, h2⟩]; exact Or.inr rfl

theorem locNorth_mentions_std {l ss se es ee std dst : Int} (h0 : ss < se) (h1 : se ≤ ee) (h : l ≤ ss ∨ ee ≤ l) :
    (locNorth l ss se es ee std dst).mentions std := by
  unfold locNorth
  rcases h with h | h
  · rw [if_pos h]; rfl
  · rw [if_neg (by omega), if_neg (by omega), if_neg (by omega)]
    split
    · exact Or.inl rfl
    · rfl

/-- COMPLETENESS for every northern `Mm.w.d` zone: the local reading of an instant `u` (its wall clock `u + offset`) is
    mapped back to that offset — as the single candidate, or as one of the two candidates inside the repeated hour -/
theorem Posix.Alt.northern_complete {a : Alt} (N : a.North) (u : Int) :
    (a.localResult (u + a.offsetFromUtc u)).mentions (a.offsetFromUtc u) := by
  obtain ⟨b1, b2⟩ := year_bounds (u / 86400)
  rw [Alt.offsetFromUtc, a.isDst_year N]
  generalize (civilFromDays (u / 86400)).1 = Y at b1 b2 ⊢
  have := N.span Y; have := N.std_gt; have := N.lt; have := N.dst_lt
  by_cases hd : a.startAt Y - a.std ≤ u ∧ u < a.endAt Y - a.dst
  · rw [decide_eq_true hd, if_pos rfl, a.localResult_near N _ Y (by omega) (by omega)]
    exact locNorth_mentions_dst (by omega) (by omega) (by omega)
  · rw [decide_eq_false hd, if_neg (by decide), a.localResult_near N _ Y (by omega) (by omega)]
    exact locNorth_mentions_std (by omega) (by omega) (by omega)

end Slac.Time
