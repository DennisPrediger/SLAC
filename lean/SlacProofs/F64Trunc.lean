/-
  SlacProofs.F64Trunc — `F64.trunc` on the numeric bit pattern: `truncN` clears the `dropN` low bits that the
  exponent field prescribes; hence idempotence, sign preservation, |trunc x| ≤ |x| (magnitude part of the pattern /
  sign-magnitude key), for every double.  Also the Nat forms of `expBits`, `fracBits`, `signBit`, `ofParts`.
-/
import SlacProofs.F64Bits
set_option autoImplicit false
namespace Slac
namespace F64

theorem expBits_eq (x : Float) : expBits x = bits x / 2^52 % 2^11 := by
  unfold expBits bits
  rw [UInt64.toNat_and, UInt64.toNat_shiftRight]
  show (x.toBits.toNat >>> 52) &&& (2^11 - 1) = _
  rw [Nat.and_two_pow_sub_one_eq_mod, Nat.shiftRight_eq_div_pow]

theorem fracBits_eq (x : Float) : fracBits x = bits x % 2^52 := by
  unfold fracBits bits
  rw [UInt64.toNat_and]
  show x.toBits.toNat &&& (2^52 - 1) = _
  rw [Nat.and_two_pow_sub_one_eq_mod]

theorem signBit_eq (x : Float) : signBit x = decide (bits x / 2^63 = 1) := by
  unfold signBit bits
  have h : (x.toBits >>> 63).toNat = x.toBits.toNat / 2^63 := by
    rw [UInt64.toNat_shiftRight]; show x.toBits.toNat >>> 63 = _; rw [Nat.shiftRight_eq_div_pow]
  rw [← h, Bool.eq_iff_iff, beq_iff_eq, decide_eq_true_eq, ← UInt64.toNat_inj]
  rfl

theorem ofParts_toNat (neg : Bool) (n : Nat) (h : n < 2^63) :
    (UInt64.ofNat n ||| (if neg then (0x8000000000000000 : UInt64) else 0)).toNat = n + (if neg then 2^63 else 0) := by
  rw [UInt64.toNat_or, UInt64.toNat_ofNat']
  have hn : n % 2^64 = n := Nat.mod_eq_of_lt (by omega)
  rw [hn]
  cases neg
  · simp
  · show n ||| 2^63 = n + 2^63
    rw [Nat.or_comm]; have := Nat.two_pow_add_eq_or_of_lt h 1; rw [Nat.mul_one] at this; rw [← this]; omega

/-- bits of `ofParts` for a non-NaN magnitude -/
theorem bits_ofParts (neg : Bool) (n : Nat) (h : n ≤ 0x7FF0000000000000) :
    bits (ofParts neg n) = n + (if neg then 2^63 else 0) := by
  unfold ofParts
  have h2 := ofParts_toNat neg n (by omega)
  rw [bits_ofBits_of, h2]
  rw [h2]
  intro hE hM
  cases neg <;> simp at hE hM ⊢ <;> omega

/-- number of low bits `trunc` clears, read off the exponent field: none from 2^52 on (and for ±inf, NaN), all 63
    magnitude bits below 1 -/
def dropN (b : Nat) : Nat :=
  let eb := b / 2^52 % 2^11
  if eb ≥ 1075 then 0 else if eb < 1023 then 63 else 1075 - eb

def truncN (b : Nat) : Nat := b / 2^(dropN b) * 2^(dropN b)

theorem dropN_cases (b : Nat) : dropN b ≤ 52 ∨ dropN b = 63 := by
  unfold dropN; simp only []
  split
  · omega
  · split <;> omega

theorem truncN_small (b : Nat) (h2 : b / 2^52 % 2^11 < 1023) : truncN b = b / 2^63 * 2^63 := by
  unfold truncN dropN; simp only []; rw [if_neg (by omega), if_pos h2]
theorem truncN_mid (b : Nat) (h1 : ¬ b / 2^52 % 2^11 ≥ 1075) (h2 : ¬ b / 2^52 % 2^11 < 1023) :
    truncN b = b / 2^(1075 - b / 2^52 % 2^11) * 2^(1075 - b / 2^52 % 2^11) := by
  unfold truncN dropN; simp only []; rw [if_neg h1, if_neg h2]

theorem shift_toNat (b : UInt64) (d : Nat) (hd : d < 64) :
    ((b >>> d.toUInt64) <<< d.toUInt64).toNat = b.toNat / 2^d * 2^d := by
  have hd' : d.toUInt64.toNat % 64 = d := by
    show (UInt64.ofNat d).toNat % 64 = d
    rw [UInt64.toNat_ofNat']; omega
  rw [UInt64.toNat_shiftLeft, UInt64.toNat_shiftRight, hd', Nat.shiftRight_eq_div_pow, Nat.shiftLeft_eq]
  apply Nat.mod_eq_of_lt
  have := b.toBitVec.isLt
  calc b.toNat / 2^d * 2^d ≤ b.toNat := Nat.div_mul_le_self _ _
    _ < 2^64 := this

/-- dropping d low bits does not touch the bits from k ≥ d on -/
theorem div_mul_div (b d k : Nat) (hd : d ≤ k) : b / 2^d * 2^d / 2^k = b / 2^k := by
  have hk : (2:Nat)^k = 2^d * 2^(k - d) := by rw [← Nat.pow_add]; congr 1; omega
  rw [hk, ← Nat.div_div_eq_div_mul, ← Nat.div_div_eq_div_mul, Nat.mul_div_cancel _ (Nat.two_pow_pos d)]

theorem bits_trunc (x : Float) : bits (trunc x) = truncN (bits x) := by
  have hlt := bits_lt x
  by_cases h1 : bits x / 2^52 % 2^11 ≥ 1075
  · have hd : dropN (bits x) = 0 := by unfold dropN; simp only []; rw [if_pos h1]
    unfold trunc truncN; simp only [expBits_eq]
    rw [if_pos h1, hd, Nat.pow_zero, Nat.div_one, Nat.mul_one]
  · by_cases h2 : bits x / 2^52 % 2^11 < 1023
    · unfold trunc; simp only [expBits_eq]
      rw [if_neg h1, if_pos h2, truncN_small _ h2, bits_ofParts _ 0 (by decide), signBit_eq]
      by_cases h : bits x / 2^63 = 1
      · simp [h]
      · have : bits x / 2^63 = 0 := by omega
        simp [this]
    · have hd : 1075 - bits x / 2 ^ 52 % 2 ^ 11 ≤ 52 := by omega
      have hs := shift_toNat x.toBits (1075 - bits x / 2 ^ 52 % 2 ^ 11) (by omega)
      unfold trunc; simp only [expBits_eq]
      rw [if_neg h1, if_neg h2, truncN_mid _ h1 h2, bits_ofBits_of, hs]; rfl
      rw [hs]
      intro hE
      exfalso
      have := div_mul_div x.toBits.toNat _ 52 hd
      rw [this] at hE
      exact h1 (by show bits x / 2 ^ 52 % 2 ^ 11 ≥ 1075; unfold bits; omega)

theorem truncN_sign (b : Nat) : truncN b / 2^63 = b / 2^63 :=
  div_mul_div b _ 63 (by have := dropN_cases b; omega)

theorem dropN_truncN (b : Nat) : dropN (truncN b) = dropN b := by
  rcases dropN_cases b with hd | hd
  · have : truncN b / 2^52 = b / 2^52 := div_mul_div b _ 52 hd
    unfold dropN; rw [this]
  · have : truncN b = b / 2^63 * 2^63 := by unfold truncN; rw [hd]
    rw [this, hd]
    unfold dropN; simp only []; rw [if_neg (by omega), if_pos (by omega)]

theorem truncN_idem (b : Nat) : truncN (truncN b) = truncN b := by
  have h : truncN (truncN b) = truncN b / 2^(dropN b) * 2^(dropN b) := by rw [← dropN_truncN b]; rfl
  rw [h]; unfold truncN; rw [Nat.mul_div_cancel _ (Nat.two_pow_pos _)]

theorem trunc_idempotent (x : Float) : trunc (trunc x) = trunc x := by
  apply eq_of_bits_eq
  rw [bits_trunc, bits_trunc, truncN_idem _]

theorem trunc_signBit (x : Float) : signBit (trunc x) = signBit x := by
  rw [signBit_eq, signBit_eq, bits_trunc, truncN_sign]

theorem mod_div_mul_le (b d : Nat) (hd : d ≤ 63) : (b / 2^d * 2^d) % 2^63 ≤ b % 2^63 := by
  have h63 : (2:Nat)^63 = 2^d * 2^(63 - d) := by rw [← Nat.pow_add]; congr 1; omega
  have key : (b / 2^d * 2^d) % 2^63 = (b % 2^63) / 2^d * 2^d := by
    rw [h63, Nat.mul_comm (b / 2^d), Nat.mul_mod_mul_left, Nat.mod_mul_right_div_self, Nat.mul_comm]
  rw [key]; exact Nat.div_mul_le_self _ _

/-- `|trunc x| ≤ |x|` on the magnitude part of the bit patterns (which orders non-NaN magnitudes) -/
theorem trunc_mag_le (x : Float) : magN (bits (trunc x)) ≤ magN (bits x) := by
  rw [bits_trunc]; exact mod_div_mul_le _ _ (by have := dropN_cases (bits x); omega)

theorem negN_eq (b : Nat) (hb : b < 2^64) : negN b = decide (b / 2^63 = 1) := by
  unfold negN; congr 1; apply propext; omega

/-- in the sign-magnitude key order: trunc x lies between 0 and x -/
theorem trunc_key_between (x : Float) :
    (0 ≤ keyN (bits x) → 0 ≤ keyN (bits (trunc x)) ∧ keyN (bits (trunc x)) ≤ keyN (bits x)) ∧
    (keyN (bits x) ≤ 0 → keyN (bits x) ≤ keyN (bits (trunc x)) ∧ keyN (bits (trunc x)) ≤ 0) := by
  have hm := trunc_mag_le x
  have hs : negN (bits (trunc x)) = negN (bits x) := by
    rw [negN_eq _ (bits_lt _), negN_eq _ (bits_lt _), bits_trunc, truncN_sign]
  unfold keyN
  rw [hs]
  split <;> constructor <;> intro h <;> omega

end F64
end Slac
