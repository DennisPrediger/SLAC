/-
  SlacProofs.ParserRender — the two executable renderers produce renderings (`Rn`), and everything the parser returns is
  source-expressible (hence every rendered tree is: `C01.renders_src`).
-/
import SlacModel.Render
import SlacProofs.ParserTotal
set_option autoImplicit false
namespace Slac.Render
open Slac.Parser
variable {N : Type}

theorem binOp_binTok {op : Op} (h : isBinOp op = true) : Token.binOp? (binTok op : Token N) = some op := by
  cases op <;> first | rfl | cases h

theorem opLvl_binOp {t : Token N} {op : Op} (h : Token.binOp? t = some op) : opLvl op = Token.prec t := by
  cases t <;> cases h <;> rfl

theorem prec_binTok {op : Op} (h : isBinOp op = true) : Token.prec (binTok op : Token N) = opLvl op :=
  (opLvl_binOp (binOp_binTok h)).symm

theorem opLvl_pos {op : Op} (h : isBinOp op = true) : 1 ≤ opLvl op :=
  prec_binTok (N := Unit) h ▸ (prec_binOp_le (binOp_binTok h)).1

theorem isBinOp_of_binOp {t : Token N} {op : Op} (h : Token.binOp? t = some op) : isBinOp op = true := by
  cases t <;> cases h <;> rfl

theorem srcExpr_lvl_pos {e : Expr N} (h : srcExpr e = true) : 1 ≤ lvl e := by
  cases e with
  | binary l r op =>
    simp only [srcExpr, Bool.and_eq_true] at h
    exact opLvl_pos h.1
  | _ => simp [lvl]

/-- `wrap` puts the parentheses exactly where `Rn` demands them -/
theorem wrap_rn (q : Nat) {e : Expr N} {ts : List (Token N)} (hb : Bare e ts) (h1 : 1 ≤ lvl e) :
    Rn q e (wrap q e ts) := by
  unfold wrap
  split
  · rename_i h; exact .bare h hb
  · exact .paren (.bare h1 hb)

theorem bare_unary {op : Op} {r : Expr N} {ts : List (Token N)} (h : isUnOp op = true) (hr : Rn 8 r ts) :
    Bare (.unary r op) (unTok op :: ts) := by
  cases op <;> first | exact .uminus hr | exact .unot hr | cases h

theorem bare_binary {op : Op} {l r : Expr N} {tl tr : List (Token N)} (h : isBinOp op = true) (hl : Rn (opLvl op) l tl)
    (hr : Rn (opLvl op + 1) r tr) : Bare (.binary l r op) (tl ++ binTok op :: tr) := by
  rw [← prec_binTok (N := N) h] at hl hr; exact .binary (binOp_binTok h) hl hr

theorem rnList_cons {e : Expr N} {es : List (Expr N)} {te tes : List (Token N)} (he : Rn 1 e te) (hes : RnList es tes) :
    RnList (e :: es) (te ++ if es.isEmpty then [] else .comma :: tes) := by
  cases es with
  | nil => rw [List.isEmpty_nil, if_pos rfl, List.append_nil]; exact .single he
  | cons e' es' => exact .cons he hes

theorem bareMin_bare (e : Expr N) : srcExpr e = true → Bare e (bareMin e) := by
  refine Expr.rec (motive_1 := fun e => srcExpr e = true → Bare e (bareMin e))
    (motive_2 := fun es => srcList es = true → RnList es (listMin es)) ?_ ?_ ?_ ?_ ?_ ?_ ?_ ?_ ?_ e
  · intro r op ih h
    rw [srcExpr, Bool.and_eq_true] at h
    rw [bareMin]; exact bare_unary h.1 (wrap_rn 8 (ih h.2) (srcExpr_lvl_pos h.2))
  · intro l r op ihl ihr h
    rw [srcExpr, Bool.and_eq_true, Bool.and_eq_true] at h
    rw [bareMin]
    exact bare_binary h.1 (wrap_rn _ (ihl h.2.1) (srcExpr_lvl_pos h.2.1)) (wrap_rn _ (ihr h.2.2) (srcExpr_lvl_pos h.2.2))
  · intro l m r op _ _ _ h; rw [srcExpr] at h; cases h
  · intro es ih h; rw [srcExpr] at h; rw [bareMin]; exact .array (ih h)
  · intro v _; rw [bareMin]; exact .lit v
  · intro n _; rw [bareMin]; exact .var n
  · intro n ps ih h; rw [srcExpr] at h; rw [bareMin]; exact .call (ih h)
  · intro _; rw [listMin]; exact .nil
  · intro e es ih1 ih2 h
    rw [srcList, Bool.and_eq_true] at h
    rw [listMin]; exact rnList_cons (wrap_rn 1 (ih1 h.1) (srcExpr_lvl_pos h.1)) (ih2 h.2)

/-- `wrap q e (bareMin e)`, the minimal rendering where an operand of level `q` is expected, is a rendering -/
theorem renderAt_renders (q : Nat) {e : Expr N} (h : SrcExpr e) : Rn q e (wrap q e (bareMin e)) :=
  wrap_rn q (bareMin_bare e h) (srcExpr_lvl_pos h)

/-- with `SrcExpr e` the top level never needs parentheses -/
theorem renderMin_eq {e : Expr N} (h : SrcExpr e) : renderMin e = bareMin e := by
  unfold renderMin wrap
  rw [if_pos (srcExpr_lvl_pos h)]

theorem renderFull_full (e : Expr N) : srcExpr e = true → ∀ q, q ≤ 10 → Rn q e (renderFull e) := by
  refine Expr.rec (motive_1 := fun e => srcExpr e = true → ∀ q, q ≤ 10 → Rn q e (renderFull e))
    (motive_2 := fun es => srcList es = true → RnList es (listFull es)) ?_ ?_ ?_ ?_ ?_ ?_ ?_ ?_ ?_ e
  · intro r op ih h q _
    rw [srcExpr, Bool.and_eq_true] at h
    rw [renderFull]; exact .paren (.bare (Nat.le_of_ble_eq_true rfl) (bare_unary h.1 (ih h.2 8 (by omega))))
  · intro l r op ihl ihr h q _
    rw [srcExpr, Bool.and_eq_true, Bool.and_eq_true] at h
    have hp := (prec_binOp_le (binOp_binTok (N := N) h.1)).2
    rw [prec_binTok h.1] at hp
    rw [renderFull]
    exact .paren (.bare (opLvl_pos h.1) (bare_binary h.1 (ihl h.2.1 _ (by omega)) (ihr h.2.2 _ (by omega))))
  · intro l m r op _ _ _ h; rw [srcExpr] at h; cases h
  · intro es ih h q hq; rw [srcExpr] at h; rw [renderFull]; exact .bare hq (.array (ih h))
  · intro v _ q hq; rw [renderFull]; exact .bare hq (.lit v)
  · intro n _ q hq; rw [renderFull]; exact .bare hq (.var n)
  · intro n ps ih h q hq; rw [srcExpr] at h; rw [renderFull]; exact .bare hq (.call (ih h))
  · intro _; rw [listFull]; exact .nil
  · intro e es ih1 ih2 h
    rw [srcList, Bool.and_eq_true] at h
    rw [listFull]; exact rnList_cons (ih1 h.1 1 (by omega)) (ih2 h.2)

theorem parser_wf {f p : Nat} {toks : List (Token N)} {x} (h : parsePrec f p toks = .ok x) : srcExpr x.1 = true :=
  (ok_induction (A := fun _ _ x => srcExpr x.1 = true) (B := fun _ _ x => srcExpr x.1 = true)
    (C := fun _ l _ x => srcExpr l = true → srcExpr x.1 = true) (D := fun _ l _ x => srcExpr l = true → srcExpr x.1 = true)
    (E := fun _ _ x => srcList x.1 = true)
    (prec := fun h1 h2 => h2 h1) (lit := by simp [srcExpr]) (var := by simp [srcExpr]) (paren := id)
    (array := fun h => by rw [srcExpr]; exact h) (unot := fun h => by rw [srcExpr, h]; rfl)
    (uminus := fun h => by rw [srcExpr, h]; rfl) (stop := id) (step := fun h1 h2 hl => h2 (h1 hl))
    (binary := fun hb h hl => by rw [srcExpr, hl, h, isBinOp_of_binOp hb]; rfl)
    (call := fun h _ => by rw [srcExpr]; exact h) (close := fun _ => by rw [srcList])
    (item := fun h1 h2 => by rw [srcList, h1, h2]; rfl) f).parsePrec p toks x h

end Slac.Render
