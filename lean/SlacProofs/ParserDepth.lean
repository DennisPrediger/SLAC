/-
  SlacProofs.ParserDepth — recursion depth of the Pratt parser.

  `parse_precedence` is the only entry point of the recursion in compiler.rs: every cycle of calls goes through it
  (parse_precedence → do_prefix → unary | grouping → expression | array → expression_list → expression
                    → do_infix  → binary | call → expression_list → expression            → parse_precedence),
  with at most 5 frames between two activations.  The `while` loops of `parse_precedence` and `expression_list` run
  their bodies one after the other in the same frame, so the depth of a loop is the *maximum* over its iterations.

  `dPrec fuel p toks` = the largest number of simultaneously active `parse_precedence` frames during the run
  `parsePrec fuel p toks` (instrumentation of SlacModel.Parser, same case analysis, loops combined with `max`).
  Theorem `dPrec_le`: it is at most `toks.length + 1` — every activation consumes a token before it recurses.
-/
import SlacProofs.ParserTotal
set_option autoImplicit false
namespace Slac.Parser
variable {N : Type}

/-- continue with `k` on success, depth 0 otherwise (the Rust function has returned) -/
def onOk {α : Type} (x : COut N α) (k : α → Nat) : Nat :=
  match x with
  | .ok a => k a
  | _ => 0

mutual
def dPrec : Nat → Nat → List (Token N) → Nat
  | 0, _, _ => 0
  | _+1, _, [] => 1
  | f+1, p, t :: r => 1 + max (dPrefix f t r) (onOk (doPrefix f t r) fun x => dLoop f p x.1 x.2)
def dPrefix : Nat → Token N → List (Token N) → Nat
  | 0, _, _ => 0
  | f+1, t, rest =>
    match t with
    | .leftParen => dPrec f 1 rest
    | .leftBracket => dList f false rest
    | .not => dPrec f 8 rest
    | .minus => dPrec f 8 rest
    | _ => 0
def dLoop : Nat → Nat → Expr N → List (Token N) → Nat
  | 0, _, _, _ => 0
  | f+1, p, left, toks =>
    match toks with
    | [] => 0
    | t :: rest =>
      if p ≤ Token.prec t then max (dInfix f t left rest) (onOk (doInfix f t left rest) fun x => dLoop f p x.1 x.2)
      else 0
def dInfix : Nat → Token N → Expr N → List (Token N) → Nat
  | 0, _, _, _ => 0
  | f+1, t, left, rest =>
    match Token.binOp? t with
    | some _ => dPrec f (nextPrec (Token.prec t)) rest
    | none =>
      match t with
      | .leftParen =>
        match left with
        | .var _ => dList f true rest
        | _ => 0
      | _ => 0
def dList : Nat → Bool → List (Token N) → Nat
  | 0, _, _ => 0
  | f+1, b, toks =>
    match toks with
    | [] => 0
    | t :: _ =>
      if isClose b t then 0
      else max (dPrec f 1 toks) (onOk (parsePrec f 1 toks) fun x => dList f b (dropComma x.2))
end

theorem onOk_le {α : Type} {x : COut N α} {k : α → Nat} {n : Nat} (h : ∀ a, x = .ok a → k a ≤ n) : onOk x k ≤ n := by
  cases x with
  | ok a => exact h a rfl
  | _ => exact Nat.zero_le _

/-- the bounds have to be monotone under taking suffixes because a loop continues on a suffix of its input -/
theorem depth_induction {a : Nat → List (Token N) → Nat} {b : Token N → List (Token N) → Nat} {c : Nat → List (Token N) → Nat}
    {d : Token N → List (Token N) → Nat} {e : List (Token N) → Nat}
    (c_mono : ∀ {p s l}, s <:+ l → c p s ≤ c p l) (e_mono : ∀ {s l}, s <:+ l → e s ≤ e l)
    (nil : ∀ {p}, 1 ≤ a p []) (cons : ∀ {p t r}, 1 + max (b t r) (c p r) ≤ a p (t :: r))
    (paren : ∀ {rest}, a 1 rest ≤ b .leftParen rest) (array : ∀ {rest}, e rest ≤ b .leftBracket rest)
    (unot : ∀ {rest}, a 8 rest ≤ b .not rest) (uminus : ∀ {rest}, a 8 rest ≤ b .minus rest)
    (loop : ∀ {p t rest}, p ≤ Token.prec t → d t rest ≤ c p (t :: rest))
    (binary : ∀ {t op rest}, Token.binOp? t = some op → a (nextPrec (Token.prec t)) rest ≤ d t rest)
    (call : ∀ {rest}, e rest ≤ d .leftParen rest) (item : ∀ {toks}, a 1 toks ≤ e toks) (f : Nat) :
    (∀ p toks, dPrec f p toks ≤ a p toks) ∧ (∀ t rest, dPrefix f t rest ≤ b t rest) ∧
    (∀ p (l : Expr N) toks, dLoop f p l toks ≤ c p toks) ∧ (∀ t (l : Expr N) rest, dInfix f t l rest ≤ d t rest) ∧
    (∀ b' toks, dList f b' toks ≤ e toks) := by
  induction f with
  | zero =>
    refine ⟨?_, ?_, ?_, ?_, ?_⟩ <;> intros <;> exact Nat.zero_le _
  | succ f ih =>
    obtain ⟨ih1, ih2, ih3, ih4, ih5⟩ := ih
    refine ⟨?_, ?_, ?_, ?_, ?_⟩
    · intro p toks
      cases toks with
      | nil => exact nil
      | cons t r =>
        have h1 := ih2 t r
        have h2 : onOk (doPrefix f t r) (fun x => dLoop f p x.1 x.2) ≤ c p r :=
          onOk_le fun x hx => Nat.le_trans (ih3 p x.1 x.2) (c_mono ((suffix f).doPrefix _ _ _ hx))
        have := cons (p := p) (t := t) (r := r)
        rw [dPrec.eq_def]; simp only; omega
    · intro t rest
      cases t <;> first
        | exact Nat.zero_le _
        | exact Nat.le_trans (ih1 _ _) paren
        | exact Nat.le_trans (ih5 _ _) array
        | exact Nat.le_trans (ih1 _ _) unot
        | exact Nat.le_trans (ih1 _ _) uminus
    · intro p l toks
      cases toks with
      | nil => exact Nat.zero_le _
      | cons t rest =>
        rw [dLoop.eq_def]; simp only
        split
        · rename_i hp
          refine Nat.max_le.2 ⟨Nat.le_trans (ih4 t l rest) (loop hp), onOk_le fun x hx => ?_⟩
          exact Nat.le_trans (ih3 p x.1 x.2) (c_mono (((suffix f).doInfix _ _ _ _ hx).trans (List.suffix_cons t rest)))
        · exact Nat.zero_le _
    · intro t l rest
      rw [dInfix.eq_def]
      simp only
      split
      · rename_i op hb; exact Nat.le_trans (ih1 _ _) (binary hb)
      · split
        · split
          · exact Nat.le_trans (ih5 _ _) call
          · exact Nat.zero_le _
        · exact Nat.zero_le _
    · intro b' toks
      cases toks with
      | nil => exact Nat.zero_le _
      | cons t rest =>
        rw [dList.eq_def]; simp only
        split
        · exact Nat.zero_le _
        · refine Nat.max_le.2 ⟨Nat.le_trans (ih1 _ _) item, onOk_le fun x hx => ?_⟩
          exact Nat.le_trans (ih5 b' _) (e_mono ((dropComma_suffix x.2).trans ((suffix f).parsePrec _ _ _ hx)))

theorem dPrec_le (f p : Nat) (toks : List (Token N)) : dPrec f p toks ≤ toks.length + 1 :=
  (depth_induction (a := fun _ toks => toks.length + 1) (b := fun _ rest => rest.length + 1) (c := fun _ toks => toks.length)
    (d := fun _ rest => rest.length + 1) (e := fun toks => toks.length + 1)
    (c_mono := List.IsSuffix.length_le) (e_mono := fun h => Nat.succ_le_succ h.length_le) (nil := Nat.le_refl _)
    (cons := by intros; simp only [List.length_cons]; omega) (paren := Nat.le_refl _) (array := Nat.le_refl _) (unot := Nat.le_refl _)
    (uminus := Nat.le_refl _) (loop := fun _ => Nat.le_refl _) (binary := fun _ => Nat.le_refl _) (call := Nat.le_refl _)
    (item := Nat.le_refl _) f).1 p toks

end Slac.Parser
