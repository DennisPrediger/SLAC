/-
  SlacProofs.UnlexTree — leaf tokens (literals, names) of a tree versus the tokens of its renderings and of the
  token list it was parsed from.  Both ways the structural tokens (parentheses, brackets, commas, operators) are all that
  is added or dropped:
    * removing them from a rendering of `e` leaves `leaves e` (`rn_filter`);
    * the literals and names the parser consumes are, in order, the leaves of the tree it returns (`parser_filter`).
-/
import SlacModel.Unlex
import SlacProofs.ParserRender
set_option autoImplicit false
namespace Slac.Unlex
open Slac.Parser Slac.Render
variable {N : Type}

/-- neither a literal nor an identifier -/
def Structural : Token N → Bool
  | .literal _ | .identifier _ => false
  | _ => true

/-- a literal or an identifier: the tokens that become leaves of the tree -/
def leaf (t : Token N) : Bool := !Structural t

theorem leaves_unary (r : Expr N) (op : Op) : leaves (.unary r op) = leaves r := by rw [leaves]
theorem leaves_binary (l r : Expr N) (op : Op) : leaves (.binary l r op) = leaves l ++ leaves r := by rw [leaves]
theorem leaves_ternary (l m r : Expr N) (op : Op) :
    leaves (.ternary l m r op) = leaves l ++ (leaves m ++ leaves r) := by rw [leaves]
theorem leaves_array (es : List (Expr N)) : leaves (.array es) = leavesList es := by rw [leaves]
theorem leaves_lit (v : Value N) : leaves (.lit v : Expr N) = [.literal v] := by rw [leaves]
theorem leaves_var (n : Str) : leaves (.var n : Expr N) = [.identifier n] := by rw [leaves]
theorem leaves_call (n : Str) (ps : List (Expr N)) : leaves (.call n ps) = .identifier n :: leavesList ps := by
  rw [leaves]
theorem leavesList_nil : leavesList ([] : List (Expr N)) = [] := by rw [leavesList]
theorem leavesList_cons (e : Expr N) (es : List (Expr N)) : leavesList (e :: es) = leaves e ++ leavesList es := by
  rw [leavesList]

theorem structural_binOp {t : Token N} {op : Op} (h : Token.binOp? t = some op) : Structural t = true := by
  cases t <;> first | rfl | cases h

theorem rn_filter {q : Nat} {e : Expr N} {ts : List (Token N)} (h : Rn q e ts) : ts.filter leaf = leaves e := by
  refine Rn.rec (motive_1 := fun e ts _ => ts.filter leaf = leaves e)
    (motive_2 := fun _ e ts _ => ts.filter leaf = leaves e)
    (motive_3 := fun es ts _ => ts.filter leaf = leavesList es)
    ?_ ?_ ?_ ?_ ?_ ?_ ?_ ?_ ?_ ?_ ?_ ?_ h
  · intro v; rw [leaves_lit]; rfl
  · intro n; rw [leaves_var]; rfl
  · intro r ts _ ih; rw [leaves_unary, ← ih]; rfl
  · intro r ts _ ih; rw [leaves_unary, ← ih]; rfl
  · intro l r op t tl tr hb _ _ ihl ihr
    rw [leaves_binary, ← ihl, ← ihr, List.filter_append, List.filter_cons, leaf, structural_binOp hb]; rfl
  · intro es ts _ ih; rw [leaves_array, ← ih]; simp [leaf, Structural]
  · intro n ps ts _ ih; rw [leaves_call, ← ih]; simp [leaf, Structural]
  · intro q e ts _ _ ih; exact ih
  · intro q e ts _ ih; rw [← ih]; simp [leaf, Structural]
  · rw [leavesList_nil]; rfl
  · intro e ts _ ih; rw [leavesList_cons, leavesList_nil, List.append_nil]; exact ih
  · intro e e' es ts ts' _ _ ih1 ih2; rw [leavesList_cons, ← ih1, ← ih2]; simp [leaf, Structural]

/-- every leaf of the tree occurs in each of its renderings -/
theorem rn_leaves {q : Nat} {e : Expr N} {ts : List (Token N)} (h : Rn q e ts) : ∀ t ∈ leaves e, t ∈ ts := by
  intro t ht; rw [← rn_filter h] at ht; exact (List.mem_filter.1 ht).1

/-- a property that holds of the leaves of a tree and of every structural token holds of every token of every
    rendering of the tree -/
theorem rn_all {P : Token N → Prop} (hs : ∀ t : Token N, Structural t = true → P t) {q : Nat} {e : Expr N}
    {ts : List (Token N)} (h : Rn q e ts) (hl : ∀ t ∈ leaves e, P t) : ∀ t ∈ ts, P t := by
  intro t ht
  cases hst : Structural t with
  | true => exact hs t hst
  | false => exact hl t (rn_filter h ▸ List.mem_filter.2 ⟨ht, by rw [leaf, hst]; rfl⟩)

/-- a rendering has at least one token -/
theorem rn_ne_nil {q : Nat} {e : Expr N} {ts : List (Token N)} (h : Rn q e ts) : ts ≠ [] := by
  cases h with
  | bare _ hb => cases hb <;> simp
  | paren _ => simp

theorem dropComma_filter (r : List (Token N)) :
    (dropComma r).filter leaf = r.filter leaf := by
  rcases r with _ | ⟨t, r⟩
  · rfl
  · cases t <;> rfl

theorem parser_filter {f p : Nat} {toks : List (Token N)} {x} (h : parsePrec f p toks = .ok x) :
    toks.filter leaf = leaves x.1 ++ x.2.filter leaf :=
  (ok_induction (A := fun _ toks x => toks.filter leaf = leaves x.1 ++ x.2.filter leaf)
    (B := fun t rest x => (t :: rest).filter leaf = leaves x.1 ++ x.2.filter leaf)
    (C := fun _ l toks x => leaves l ++ toks.filter leaf = leaves x.1 ++ x.2.filter leaf)
    (D := fun t l rest x => leaves l ++ (t :: rest).filter leaf = leaves x.1 ++ x.2.filter leaf)
    (E := fun _ toks x => toks.filter leaf = leavesList x.1 ++ x.2.filter leaf)
    (prec := fun h1 h2 => h1.trans h2) (lit := by simp [leaves_lit, leaf, Structural]) (var := by simp [leaves_var, leaf, Structural])
    (paren := fun h => by simpa [leaf, Structural] using h) (array := fun h => by simpa [leaves_array, leaf, Structural] using h)
    (unot := fun h => by simpa [leaves_unary, leaf, Structural] using h) (uminus := fun h => by simpa [leaves_unary, leaf, Structural] using h)
    (stop := rfl) (step := fun h1 h2 => h1.trans h2)
    (binary := fun hb h => by simp [leaves_binary, leaf, structural_binOp hb, h])
    (call := fun h => by simpa [leaves_call, leaves_var, leaf, Structural] using h)
    (close := fun {b t _} hc => by
      have : Structural t = true := by cases b <;> cases t <;> first | rfl | cases hc
      simp [leavesList_nil, leaf, this])
    (item := fun h1 h2 => by rw [h1, ← dropComma_filter, h2, leavesList_cons, List.append_assoc]) f).parsePrec p toks x h

/-- the leaves of a parsed tree are tokens of the input -/
theorem parse_leaves {toks : List (Token N)} {e : Expr N} (h : parse toks = .ok e) : ∀ u ∈ leaves e, u ∈ toks := by
  intro u hu
  have := parser_filter (parse_eq_ok.1 h)
  rw [List.filter_nil, List.append_nil] at this
  rw [← this] at hu; exact (List.mem_filter.1 hu).1

end Slac.Unlex
