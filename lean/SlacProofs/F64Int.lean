/-
  SlacProofs.F64Int — a canonical float seen through SlacModel.Num: its exponent and fraction fields, `decode`,
  sign bit and classification (`expBits_mkF` … `isZero_mkF`), C `fmod` of two of them (`rem_mkF`); and integers as
  doubles: `F64.ofInt n` for 0 < |n| < 2^53 is the canonical float with mantissa |n|·2^(52-log2|n|) and exponent
  log2|n|-52 (`ofInt_eq`).
-/
import SlacProofs.F64Round
import SlacProofs.F64Trunc
import SlacModel.Stdlib
set_option autoImplicit false
namespace Slac
namespace F64
open Float.Model Float.Model.UnpackedFloat

theorem expBits_mkF (s : Sign) (m : Nat) (e : Int) (h : Canon m e) :
    expBits (mkF s m e h.pos) = (e + 1074).toNat + m / 2^52 := by
  have := h.le
  rw [expBits_eq, bits_mkF s m e h]; exact (fields (sbit s) _ m (by omega) h.lt).2.1

theorem fracBits_mkF (s : Sign) (m : Nat) (e : Int) (h : Canon m e) :
    fracBits (mkF s m e h.pos) = m % 2^52 := by
  have := h.le
  rw [fracBits_eq, bits_mkF s m e h]; exact (fields (sbit s) _ m (by omega) h.lt).2.2

theorem decode_mkF (s : Sign) (m : Nat) (e : Int) (h : Canon m e) : decode (mkF s m e h.pos) = (m, e) := by
  unfold decode
  simp only [expBits_mkF s m e h, fracBits_mkF s m e h]
  rcases h.normal_or_sub with ⟨h52, h53, _, he⟩ | ⟨h52, _, he⟩
  · have h1 : m / 2^52 = 1 := by omega
    have h2 : m % 2^52 + 2^52 = m := by omega
    have h3 : (((e + 1074).toNat + 1 : Nat) : Int) - 1075 = e := by omega
    rw [h1, h2, h3]; rfl
  · have h1 : m / 2^52 = 0 := by omega
    have h2 : m % 2^52 = m := by omega
    rw [h1, h2, he]; rfl

theorem signBit_mkF (s : Sign) (m : Nat) (e : Int) (h : Canon m e) :
    signBit (mkF s m e h.pos) = decide (sbit s = 1) := by
  have := h.le
  rw [signBit_eq, bits_mkF s m e h]; exact congrArg (fun n => decide (n = 1)) (fields (sbit s) _ m (by omega) h.lt).1

theorem neg_mkF (s : Sign) (m : Nat) (e : Int) (h : Canon m e) : -(mkF s m e h.pos) = mkF (-s) m e h.pos := by
  show Float.neg _ = _
  unfold Float.neg
  show Float.ofModel (Float.Model.neg _) = _
  unfold Float.Model.neg
  rw [unpack_mkF s m e h]
  rfl

def sgnOf (n : Int) : Sign := if n < 0 then .negative else .positive

theorem sgnOf_apply (a : Int) : (sgnOf a).apply (a.natAbs : Int) = a := by
  unfold sgnOf; split <;> simp only [Sign.apply] <;> omega

theorem apply_mul (s : Sign) (a : Nat) (p : Nat) : s.apply ((a * p : Nat) : Int) = s.apply (a : Int) * (p : Int) := by
  cases s <;> simp only [Sign.apply] <;> push_cast
  · rw [Int.neg_mul]
  · rfl

theorem apply_natAbs (s : Sign) (q : Nat) : (s.apply (q : Int)).natAbs = q := by
  cases s
  · show (-(q:Int)).natAbs = q; omega
  · show ((q:Int)).natAbs = q; omega

theorem sgnOf_apply_nat (s : Sign) (q : Nat) (hq : 0 < q) : sgnOf (s.apply (q : Int)) = s := by
  unfold sgnOf
  cases s
  · exact if_pos (by show -(q:Int) < 0; omega)
  · exact if_neg (by show ¬ (q:Int) < 0; omega)

theorem neg_apply (s : Sign) (n : Int) : (-s).apply n = - s.apply n := by
  cases s
  · show n = - -n; omega
  · rfl

/-- `n as f64` for 0 < |n| < 2^53: exact, canonical -/
theorem ofInt_eq (n : Int) (h0 : n ≠ 0) (h : n.natAbs < 2^53) :
    F64.ofInt n = mkF (sgnOf n) (n.natAbs * 2^(52 - n.natAbs.log2)) ((n.natAbs.log2 : Int) - 52)
      (canon_ofNat n.natAbs (by omega) h).pos := by
  unfold F64.ofInt sgnOf
  simp only []
  rw [ofScientific_nat n.natAbs (by omega) h]
  split
  · exact neg_mkF _ _ _ (canon_ofNat n.natAbs (by omega) h)
  · rfl

theorem ofNat_eq (n : Nat) (h0 : 0 < n) (h : n < 2^53) :
    F64.ofNat n = mkF .positive (n * 2^(52 - n.log2)) ((n.log2 : Int) - 52) (canon_ofNat n h0 h).pos :=
  ofScientific_nat n h0 h

theorem bits_ofInt_zero : bits (F64.ofInt 0) = 0 := by decide +kernel
theorem bits_zero : bits (0 : Float) = 0 := by decide +kernel
theorem bits_ofNat_zero : bits (F64.ofNat 0) = 0 := by decide +kernel

theorem float_beq_self_mkF (s : Sign) (m : Nat) (e : Int) (h : Canon m e) :
    (mkF s m e h.pos == mkF s m e h.pos) = true := by
  show Float.beq _ _ = true
  unfold Float.beq
  show Float.Model.beq _ _ = true
  unfold Float.Model.beq
  rw [unpack_mkF s m e h]
  unfold UnpackedFloat.beq UnpackedFloat.compare
  cases s <;> simp

theorem mag_mkF (s : Sign) (m : Nat) (e : Int) (h : Canon m e) : magN (bits (mkF s m e h.pos)) = magOf m e := by
  have := magOf_lt m e h
  have := sbit_le s
  rw [bits_mkF s m e h]; unfold magN; omega

theorem isFinite_mkF (s : Sign) (m : Nat) (e : Int) (h : Canon m e) : isFinite (mkF s m e h.pos) = true := by
  unfold isFinite; rw [mag_mkF s m e h, decide_eq_true_eq]; exact magOf_lt m e h
theorem isNaN_mkF (s : Sign) (m : Nat) (e : Int) (h : Canon m e) : isNaN (mkF s m e h.pos) = false := by
  have := magOf_lt m e h
  unfold isNaN isNaNN; rw [mag_mkF s m e h]; simp; omega
theorem isInf_mkF (s : Sign) (m : Nat) (e : Int) (h : Canon m e) : isInf (mkF s m e h.pos) = false := by
  have := magOf_lt m e h
  unfold isInf; rw [mag_mkF s m e h]; simp; omega
theorem isZero_mkF (s : Sign) (m : Nat) (e : Int) (h : Canon m e) : isZero (mkF s m e h.pos) = false := by
  have := magOf_pos m e h
  unfold isZero; rw [mag_mkF s m e h]; simp; omega

theorem rem_mkF (s1 s2 : Sign) (m1 m2 : Nat) (e1 e2 : Int) (h1 : Canon m1 e1) (h2 : Canon m2 e2) :
    rem (mkF s1 m1 e1 h1.pos) (mkF s2 m2 e2 h2.pos) =
      ofNatScaled (decide (sbit s1 = 1))
        ((m1 <<< (e1 - min e1 e2).toNat) % (m2 <<< (e2 - min e1 e2).toNat)) (min e1 e2) := by
  unfold rem
  simp only [isNaN_mkF _ _ _ h1, isNaN_mkF _ _ _ h2, isInf_mkF _ _ _ h1, isInf_mkF _ _ _ h2, isZero_mkF _ _ _ h1, isZero_mkF _ _ _ h2, decode_mkF _ _ _ h1, decode_mkF _ _ _ h2, signBit_mkF _ _ _ h1]
  simp

end F64
end Slac
