/-
  SlacProofs.ScannerString — string literals: the raw-content + `replace("''", "'")` procedure of scanner.rs
  equals the direct "unescape" reading on every input, and inverts `quote` on every content.
-/
import SlacModel.Scanner
set_option autoImplicit false
namespace Slac
namespace Scanner

/-- source form of a string's content: every quote doubled -/
def quoteBody : Str → Str
  | [] => []
  | c :: cs => if c = '\'' then '\'' :: '\'' :: quoteBody cs else c :: quoteBody cs

/-- source form of a string literal -/
def quote (s : Str) : Str := '\'' :: (quoteBody s ++ ['\''])

/-- the "unescape" reading of a string literal, entered after the opening quote: `''` denotes one quote, a single
    quote ends the literal; returns (content, rest) -/
def strDirect : Str → Option (Str × Str)
  | [] => none
  | c :: cs =>
    if c = '\'' then
      match cs with
      | c2 :: cs' => if c2 = '\'' then (strDirect cs').map (fun p => ('\'' :: p.1, p.2)) else some ([], cs)
      | [] => some ([], cs)
    else (strDirect cs).map (fun p => (c :: p.1, p.2))

theorem replaceQQ_cons_ne (c : Char) (l : Str) (h : c ≠ '\'') : replaceQQ (c :: l) = c :: replaceQQ l := by
  cases l with
  | nil => simp [replaceQQ]
  | cons d r => rw [replaceQQ]; simp [h]

theorem replaceQQ_qq (l : Str) : replaceQQ ('\'' :: '\'' :: l) = '\'' :: replaceQQ l := by
  rw [replaceQQ]; simp

theorem strRaw_direct_aux (cs : Str) :
    match strRaw cs with
    | none => strDirect cs = none
    | some (raw, f, rest) => strDirect cs = some (replaceQQ raw, rest) ∧ (f = false → replaceQQ raw = raw) := by
  fun_induction strRaw cs with
  | case1 => simp [strDirect]
  | case2 cs' ih =>
    rw [strDirect.eq_def]; simp only [if_true]
    cases h : strRaw cs' with
    | none => rw [h] at ih; simp [ih]
    | some p =>
      obtain ⟨raw, f, rest⟩ := p
      rw [h] at ih; simp only at ih
      simp [ih.1, replaceQQ_qq]
  | case3 c2 cs' hc2 =>
    rw [strDirect.eq_def]; simp [hc2, replaceQQ]
  | case4 =>
    rw [strDirect.eq_def]; simp [replaceQQ]
  | case5 c cs hc ih =>
    rw [strDirect.eq_def]; simp only [if_neg hc]
    cases h : strRaw cs with
    | none => rw [h] at ih; simp [ih]
    | some p =>
      obtain ⟨raw, f, rest⟩ := p
      rw [h] at ih; simp only at ih
      simp only [Option.map_some, ih.1, replaceQQ_cons_ne c raw hc, true_and]
      intro hf; rw [ih.2 hf]

/-- the scanner's string procedure (raw extent, then `replace("''","'")` if a doubled quote was seen) computes
    the unescape reading — on every input -/
theorem string_eq_direct {N : Type} (cs : Str) :
    string (N := N) cs = match strDirect cs with
      | none => .error .unterminatedStringLiteral
      | some (s, rest) => .ok (.literal (.str s), rest) := by
  have h := strRaw_direct_aux cs
  unfold string
  cases hr : strRaw cs with
  | none => rw [hr] at h; simp only at h; rw [h]
  | some p =>
    obtain ⟨raw, f, rest⟩ := p
    rw [hr] at h; simp only at h
    rw [h.1]; simp only
    cases f with
    | true => rfl
    | false => simp [h.2 rfl]

/-- a quoted content, followed by anything that is not another quote, reads back as the content -/
theorem strDirect_quote (s rest : Str) (hr : ∀ r, rest ≠ '\'' :: r) :
    strDirect (quoteBody s ++ '\'' :: rest) = some (s, rest) := by
  induction s with
  | nil =>
    rw [quoteBody, List.nil_append, strDirect.eq_def]
    simp only [if_true]
    cases rest with
    | nil => rfl
    | cons c r =>
      have : c ≠ '\'' := fun h => hr r (by rw [h])
      simp only [if_neg this]
  | cons c cs ih =>
    rw [quoteBody]
    split
    · rename_i hc; subst hc
      rw [List.cons_append, List.cons_append, strDirect.eq_def]
      simp only [if_true, ih]; rfl
    · rename_i hc
      rw [List.cons_append, strDirect.eq_def]; simp only [if_neg hc, ih]; rfl

theorem string_quote {N : Type} (s rest : Str) (hr : ∀ r, rest ≠ '\'' :: r) :
    string (N := N) (quoteBody s ++ '\'' :: rest) = .ok (.literal (.str s), rest) := by
  rw [string_eq_direct, strDirect_quote s rest hr]

theorem strRaw_quote (r : Str) (h : r.head? ≠ some '\'') : strRaw ('\'' :: r) = some ([], false, r) := by
  cases r with
  | nil => rfl
  | cons c r =>
    have : c ≠ '\'' := by simpa using h
    simp [strRaw, this]

theorem strRaw_append (cs : Str) : ∀ raw q rest, strRaw cs = some (raw, q, rest) → cs = raw ++ '\'' :: rest := by
  fun_induction strRaw cs with
  | case1 => nofun
  | case2 cs' ih =>
    intro raw q rest h
    obtain ⟨⟨raw', q', rest'⟩, hr, he⟩ := Option.map_eq_some_iff.mp h
    cases he
    rw [ih _ _ _ hr]; rfl
  | case3 c2 cs' hc2 => intro raw q rest h; cases h; rfl
  | case4 => intro raw q rest h; cases h; rfl
  | case5 c cs hc ih =>
    intro raw q rest h
    obtain ⟨⟨raw', q', rest'⟩, hr, he⟩ := Option.map_eq_some_iff.mp h
    cases he
    rw [ih _ _ _ hr]; rfl

/-- the text after a string literal is shorter than the text after its opening quote -/
theorem strRaw_length (cs : Str) : ∀ p, strRaw cs = some p → p.2.2.length < cs.length := by
  rintro ⟨raw, q, rest⟩ h
  have := congrArg List.length (strRaw_append cs raw q rest h)
  simp only [List.length_append, List.length_cons] at this
  show rest.length < cs.length
  omega

end Scanner
end Slac
