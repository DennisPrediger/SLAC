/-
  SlacProofs.TimeZoneRound — chrono's RFC 3339 / RFC 2822 parsers (SlacModel.TimeParse: `rfc3339Utc`, `rfc2822Utc`) invert
  the printers of SlacModel.TimeRfc on date-times of years 0–9999 AT ANY WHOLE-MINUTE OFFSET below 24 h (`rfc3339At off`,
  `rfc2822At off`): the parsed UTC date-time is the printed local date-time shifted by `−off`.  The printers of a process
  in UTC (`rfc3339`, `rfc2822`) are the case `off = 0`.  No time zone occurs here: the offset is a number.
-/
import SlacProofs.TimeRfcRound
set_option autoImplicit false
set_option linter.unusedSimpArgs false
namespace Slac.Time
open Stdlib TimeRfc

/-- a date-time with a time of day below 24 h: its printed fields are in range -/
theorem dt_fields (t : DT) (hms : t.ms < 86400000) :
    t.hour < 24 ∧ t.minute < 60 ∧ t.second < 60 ∧ t.milli < 1000 ∧
    t.hour * 3600 + t.minute * 60 + t.second = t.ms / 1000 ∧
    (t.hour * 3600 + t.minute * 60 + t.second) * 1000 + t.milli = t.ms := by
  simp only [DT.hour, DT.minute, DT.second, DT.milli]; omega

theorem dt_date (t : DT) (h0 : 0 ≤ t.year) (h1 : t.year ≤ 9999) :
    validDate t.year t.month t.day = true ∧ daysFromCivil t.year t.month t.day = t.days ∧ yearInRange t.days = true ∧
    1 ≤ t.month ∧ t.month ≤ 12 ∧ 1 ≤ t.day ∧ t.day ≤ 31 := by
  have hv := civilFromDays_validMD t.days
  have hval : validDate t.year t.month t.day = true :=
    (validDate_iff _ _ _).2 ⟨⟨by simp only [minYear]; omega, by simp only [maxYear]; omega⟩, hv⟩
  have hb := validDate_bounds hval
  refine ⟨hval, days_roundtrip t.days, ?_, hb.1.1, hb.1.2, hb.2.1, hb.2.2⟩
  have e1 : minYear ≤ (civilFromDays t.days).1 := by show minYear ≤ t.year; simp only [minYear]; omega
  have e2 : (civilFromDays t.days).1 ≤ maxYear := by show t.year ≤ maxYear; simp only [maxYear]; omega
  simp [yearInRange, e1, e2]

theorem days_range0 (y : Int) (m d : Nat) (h : ValidMD y m d) (hy0 : 0 ≤ y) (hy2 : y ≤ 9999) :
    -719528 ≤ daysFromCivil y m d ∧ daysFromCivil y m d ≤ 2932896 := by
  have b := days_bounds y m d h
  have l := (days_year_mono 0 y hy0).1
  have u := (days_year_mono y 9999 hy2).2
  have e1 : daysFromCivil 0 1 1 = -719528 := by decide
  have e2 : daysFromCivil 9999 12 31 = 2932896 := by decide
  omega

theorem dt_days_range (t : DT) (h0 : 0 ≤ t.year) (h1 : t.year ≤ 9999) : -719528 ≤ t.days ∧ t.days ≤ 2932896 := by
  obtain ⟨hval, hdays, _⟩ := dt_date t h0 h1
  rw [← hdays]; exact days_range0 _ _ _ ((validDate_iff _ _ _).1 hval).2 h0 h1

/-- a whole-minute offset below 24 h prints as sign, `HH`, [`:`], `MM` with no rounding -/
theorem fmtOffset_eq (colon : Bool) (off : Int) (h1 : -86400 < off) (h2 : off < 86400) (hm : off % 60 = 0) :
    fmtOffset colon off =
      (if off < 0 then '-' else '+') :: (off.natAbs / 3600 / 10).digitChar :: (off.natAbs / 3600 % 10).digitChar ::
        (if colon then [':', (off.natAbs / 60 % 60 / 10).digitChar, (off.natAbs / 60 % 60 % 10).digitChar]
         else [(off.natAbs / 60 % 60 / 10).digitChar, (off.natAbs / 60 % 60 % 10).digitChar]) := by
  have e1 : (off.natAbs + 30) / 60 / 60 = off.natAbs / 3600 := by omega
  have e2 : (off.natAbs + 30) / 60 % 60 = off.natAbs / 60 % 60 := by omega
  simp only [fmtOffset, e1, e2, two, pad2_spec _ (by omega : off.natAbs / 3600 < 100), pad2_spec _ (by omega : off.natAbs / 60 % 60 < 100),
    List.cons_append, List.nil_append]

theorem fmtOffset_colon (off : Int) (h1 : -86400 < off) (h2 : off < 86400) (hm : off % 60 = 0) :
    fmtOffset true off = offsetText (decide (off < 0)) (off.natAbs / 3600) (off.natAbs / 60 % 60) := by
  simp only [fmtOffset_eq true off h1 h2 hm, offsetText, if_true, decide_eq_true_eq]

/-- the signed value the parser reads back from that text -/
theorem offset_value (off : Int) (hm : off % 60 = 0) :
    (if decide (off < 0) = true then -((off.natAbs / 3600 * 3600 + off.natAbs / 60 % 60 * 60 : Nat) : Int)
     else ((off.natAbs / 3600 * 3600 + off.natAbs / 60 % 60 * 60 : Nat) : Int)) = off := by
  by_cases hn : off < 0
  · simp only [hn, decide_true, if_true]; omega
  · simp only [hn, decide_false, Bool.false_eq_true, if_false]; omega

theorem fmtOffset_zero : fmtOffset true 0 = ['+', '0', '0', ':', '0', '0'] ∧ fmtOffset false 0 = ['+', '0', '0', '0', '0'] := by
  decide

theorem rfc3339At_text (off : Int) (t : DT) (hms : t.ms < 86400000) (h0 : 0 ≤ t.year) (h1 : t.year ≤ 9999) :
    rfc3339At off t = rfc3339Head t.year.toNat t.month t.day t.hour t.minute t.second (autoSi t.milli ++ fmtOffset true off) := by
  obtain ⟨_, _, _, hm1, hm12, hd1, hd31⟩ := dt_date t h0 h1
  obtain ⟨hh, hmi, hs, _⟩ := dt_fields t hms
  have hy : 0 ≤ t.year ∧ t.year ≤ 9999 := ⟨h0, h1⟩
  simp only [rfc3339At, year3339, hy, and_self, if_true, two, TimeRfc.hms, pad4_spec _ (by omega : t.year.toNat < 10000),
    pad2_spec _ (by omega : t.month < 100), pad2_spec _ (by omega : t.day < 100), pad2_spec _ (by omega : t.hour < 100),
    pad2_spec _ (by omega : t.minute < 100), pad2_spec _ (by omega : t.second < 100), rfc3339Head,
    List.cons_append, List.nil_append, List.append_assoc]

/-- `parse_from_rfc3339 ∘ to_rfc3339` at a whole-minute offset: the UTC date-time `off` seconds before the printed one -/
theorem rfc3339Utc_rfc3339At (off : Int) (t : DT) (hms : t.ms < 86400000) (h0 : 0 ≤ t.year) (h1 : t.year ≤ 9999)
    (ho1 : -86400 < off) (ho2 : off < 86400) (hm : off % 60 = 0) :
    rfc3339Utc (rfc3339At off t) = .ok (shiftNDT (toNDT t) off) := by
  obtain ⟨hval, hdays, hyr, hm1, hm12, hd1, hd31⟩ := dt_date t h0 h1
  obtain ⟨hh, hmi, hs, hml, hsec, _⟩ := dt_fields t hms
  have hy : ((t.year.toNat : Nat) : Int) = t.year := by omega
  have hr := dt_days_range t h0 h1
  have h60 : ¬ t.second = 60 := by omega
  rw [rfc3339At_text off t hms h0 h1, rfc3339Utc_head _ _ _ _ _ _ (by omega) (by omega) (by omega) (by omega) (by omega) (by omega),
    hy, if_pos hval, hdays, fmtOffset_colon off ho1 ho2 hm,
    rfc3339Tail_shift _ _ _ _ _ hr.1 hr.2 hh hmi (by omega) _ _ _ _ (by omega) (by omega) (fracPart_autoSi _ hml _ _ _),
    offset_value off hm, Nat.min_eq_left (by omega : t.second ≤ 59), if_neg h60, hsec, Nat.zero_add]
  rfl

theorem rfc3339At_zero (t : DT) : rfc3339At 0 t = rfc3339 t := by simp only [rfc3339At, rfc3339, fmtOffset_zero.1]

theorem rfc3339Utc_rfc3339 (t : DT) (hms : t.ms < 86400000) (h0 : 0 ≤ t.year) (h1 : t.year ≤ 9999) :
    rfc3339Utc (rfc3339 t) = .ok (toNDT t) := by
  rw [← rfc3339At_zero, rfc3339Utc_rfc3339At 0 t hms h0 h1 (by decide) (by decide) (by decide),
    shiftNDT_zero _ (by simp only [toNDT]; omega)]

/-- `±hhmm` -/
def offsetText2822 (neg : Bool) (oh om : Nat) : Str :=
  (if neg then '-' else '+') :: (oh / 10).digitChar :: (oh % 10).digitChar :: (om / 10).digitChar :: [(om % 10).digitChar]

theorem fmtOffset_nocolon (off : Int) (h1 : -86400 < off) (h2 : off < 86400) (hm : off % 60 = 0) :
    fmtOffset false off = offsetText2822 (decide (off < 0)) (off.natAbs / 3600) (off.natAbs / 60 % 60) := by
  simp only [fmtOffset_eq false off h1 h2 hm, offsetText2822, Bool.false_eq_true, if_false, decide_eq_true_eq]

theorem timezoneOffset2822_text (neg : Bool) (oh om : Nat) (hoh : oh < 100) (hom : om < 60) :
    timezoneOffset2822 (offsetText2822 neg oh om) =
      .ok ([], if neg then -((oh * 3600 + om * 60 : Nat) : Int) else ((oh * 3600 + om * 60 : Nat) : Int)) := by
  have hsign : isAsciiAlpha (if neg then '-' else '+') = false := by cases neg <;> rfl
  simp only [timezoneOffset2822, offsetText2822, List.takeWhile, hsign, ne_eq, not_true_eq_false, if_false]
  exact timezoneOffset_hhmm .absent false false false neg oh om hoh hom [] fun r => rfl

theorem skipComments_nil (n : Nat) : skipComments n [] = [] := by
  cases n with
  | zero => rfl
  | succ k => simp [skipComments, comment2822, trimStart]

theorem rfcZone_offset (p : Parsed) (hp : p.offset = none) (neg : Bool) (oh om : Nat) (hoh : oh < 24) (hom : om < 60) :
    rfcZone (offsetText2822 neg oh om) p =
      .ok ([], { p with offset := some (if neg then -((oh * 3600 + om * 60 : Nat) : Int) else ((oh * 3600 + om * 60 : Nat) : Int)) }) := by
  have h1 := timezoneOffset2822_text neg oh om (by omega) hom
  have h2 : inR i32Min i32Max (if neg then -((oh * 3600 + om * 60 : Nat) : Int) else ((oh * 3600 + om * 60 : Nat) : Int)) = true := by
    cases neg <;> simp [inR, i32Min, i32Max] <;> omega
  simp only [rfcZone, bind, Except.bind, h1, Parsed.setOffset, h2, if_true, hp, setIf, Except.map, pure, Except.pure, skipComments_nil,
    List.length_nil]

/-- the text `to_rfc2822` prints, from its components and the zone text -/
def rfc2822TextZ (w d m y h mi s : Nat) (zone : Str) : Str :=
  weekdayName w ++ ',' :: ' ' :: (Nat.toDigits 10 d ++ ' ' :: (monthName m ++ ' ' ::
    (y / 1000).digitChar :: (y / 100 % 10).digitChar :: (y / 10 % 10).digitChar :: (y % 10).digitChar :: ' ' ::
    (h / 10).digitChar :: (h % 10).digitChar :: ':' :: (mi / 10).digitChar :: (mi % 10).digitChar :: ':' ::
    (s / 10).digitChar :: (s % 10).digitChar :: ' ' :: zone))

theorem parseRfc2822_textZ (w d m y h mi s : Nat) (hw : w < 7) (hd1 : 1 ≤ d) (hd : d ≤ 31) (hm1 : 1 ≤ m) (hm : m ≤ 12)
    (hy : y < 10000) (hh : h < 24) (hmi : mi < 60) (hs : s < 60) (neg : Bool) (oh om : Nat) (hoh : oh < 24) (hom : om < 60) :
    parseRfc2822 (rfc2822TextZ w d m y h mi s (offsetText2822 neg oh om)) {} =
      .ok ([], { weekday := some w, day := some d, month := some m, year := some (y : Int), hourDiv12 := some (h / 12),
                 hourMod12 := some (h % 12), minute := some mi, second := some s,
                 offset := some (if neg then -((oh * 3600 + om * 60 : Nat) : Int) else ((oh * 3600 + om * 60 : Nat) : Int)) }) := by
  have hsw : Parsed.setWeekday {} w = .ok { weekday := some w } := rfl
  have sc2 : scanSpace (' ' :: offsetText2822 neg oh om) = .ok (offsetText2822 neg oh om) := by
    cases neg <;> simp [offsetText2822, scanSpace, (by decide : isWs ' ' = true), trimStart, List.dropWhile,
      (by decide : isWs '+' = false), (by decide : isWs '-' = false)]
  have ts : ∀ r : Str, trimStart (' ' :: (Nat.toDigits 10 d ++ r)) = Nat.toDigits 10 d ++ r := by
    intro r
    have : trimStart (' ' :: (Nat.toDigits 10 d ++ r)) = trimStart (Nat.toDigits 10 d ++ r) := by
      simp [trimStart, List.dropWhile, (by decide : isWs ' ' = true)]
    rw [this, trimStart_digits d (by omega)]
  have hdt := fun r => rfcDate_text d m y hd1 hd hm1 hm hy r { weekday := some w } rfl rfl rfl
  have htm := fun r => rfcTime_text h mi s hh hmi hs r
    { weekday := some w, day := some d, month := some m, year := some (y : Int) } rfl rfl rfl rfl
  have hz := rfcZone_offset { weekday := some w, day := some d, month := some m, year := some (y : Int),
                              hourDiv12 := some (h / 12), hourMod12 := some (h % 12), minute := some mi, second := some s }
    rfl neg oh om hoh hom
  simp only [parseRfc2822, rfc2822TextZ, bind, Except.bind, rfcDow_name w hw, hsw, Except.map, ts, hdt, scanSpace_dc _ (by omega : h / 10 < 10), htm, sc2, hz]

theorem rfc2822At_text (off : Int) (t : DT) (hms : t.ms < 86400000) (h0 : 0 ≤ t.year) (h1 : t.year ≤ 9999) :
    rfc2822At off t = rfc2822TextZ (weekday t.days) t.day t.month t.year.toNat t.hour t.minute t.second (fmtOffset false off) := by
  obtain ⟨_, _, _, hm1, hm12, hd1, hd31⟩ := dt_date t h0 h1
  obtain ⟨hh, hmi, hs, _⟩ := dt_fields t hms
  simp only [rfc2822At, rfc2822TextZ, two, TimeRfc.hms, pad4_spec _ (by omega : t.year.toNat < 10000),
    pad2_spec _ (by omega : t.hour < 100), pad2_spec _ (by omega : t.minute < 100), pad2_spec _ (by omega : t.second < 100),
    List.cons_append, List.nil_append, List.append_assoc]

theorem toDatetimeUtc_of (p : Parsed) (off d : Int) (t : NTime) (hoff : p.offset = some off) (hts : p.timestamp = none)
    (hd : p.toNaiveDate = .ok d) (ht : p.toNaiveTime = .ok t) (hv : validOffset off = true)
    (hr : yearInRange (shiftNDT ⟨d, t⟩ off).days = true) : p.toDatetimeUtc = .ok (shiftNDT ⟨d, t⟩ off) := by
  simp only [Parsed.toDatetimeUtc, hoff, Parsed.toNaiveDatetime, hd, ht, hts, hv, Bool.not_true, Bool.false_eq_true, if_false,
    subOffset_shift _ _ hr]

/-- `parse_from_rfc2822 ∘ to_rfc2822` at a whole-minute offset: the UTC date-time `off` seconds before the printed
    one, at the whole second (the text has no fraction) -/
theorem rfc2822Utc_rfc2822At (off : Int) (t : DT) (hms : t.ms < 86400000) (h0 : 0 ≤ t.year) (h1 : t.year ≤ 9999)
    (ho1 : -86400 < off) (ho2 : off < 86400) (hm : off % 60 = 0) :
    rfc2822Utc (rfc2822At off t) = .ok (shiftNDT ⟨t.days, ⟨t.ms / 1000, 0⟩⟩ off) := by
  obtain ⟨hval, hdays, hyr, hm1, hm12, hd1, hd31⟩ := dt_date t h0 h1
  obtain ⟨hh, hmi, hs, hml, hsec, _⟩ := dt_fields t hms
  have hy : ((t.year.toNat : Nat) : Int) = t.year := by omega
  have hr := dt_days_range t h0 h1
  have h60 : ¬ t.second = 60 := by omega
  rw [rfc2822At_text off t hms h0 h1, fmtOffset_nocolon off ho1 ho2 hm, rfc2822Utc,
    parseRfc2822_textZ _ _ _ _ _ _ _ (weekday_lt t.days) hd1 hd31 hm1 hm12 (by omega) hh hmi hs _ _ _ (by omega) (by omega),
    hy, offset_value off hm]
  refine toDatetimeUtc_of _ off t.days ⟨t.ms / 1000, 0⟩ rfl rfl ?_ ?_ (by simp [validOffset]; omega)
    (yearInRange_near _ (by simp only [shiftNDT]; omega) (by simp only [shiftNDT]; omega))
  · rw [toNaiveDate_ymd_of _ t.year t.month t.day (some (weekday t.days)) rfl rfl rfl rfl rfl rfl rfl rfl rfl rfl rfl rfl rfl,
      if_pos hval, hdays, if_pos (by simp [optEqOr])]
  · rw [toNaiveTime_hms _ t.hour t.minute t.second none rfl rfl rfl rfl rfl, Nat.min_eq_left (by omega : t.second ≤ 59),
      if_neg h60, hsec]
    rfl

theorem rfc2822At_zero (t : DT) : rfc2822At 0 t = rfc2822 t := by
  simp only [rfc2822At, rfc2822, fmtOffset_zero.2, List.cons_append, List.nil_append]

theorem rfc2822Utc_rfc2822 (t : DT) (hms : t.ms < 86400000) (h0 : 0 ≤ t.year) (h1 : t.year ≤ 9999) :
    rfc2822Utc (rfc2822 t) = .ok ⟨t.days, ⟨t.ms / 1000, 0⟩⟩ := by
  rw [← rfc2822At_zero, rfc2822Utc_rfc2822At 0 t hms h0 h1 (by decide) (by decide) (by decide),
    shiftNDT_zero _ (by show t.ms / 1000 < 86400; omega)]

theorem toNDT_millis (t : DT) : (toNDT t).millis = t.totalMs := by
  simp only [toNDT, NDT.millis, NDT.timestamp, DT.totalMs, DT.milli, msPerDay]; omega

theorem secondNDT_millis (t : DT) : (⟨t.days, ⟨t.ms / 1000, 0⟩⟩ : NDT).millis = (⟨t.days, t.ms / 1000 * 1000⟩ : DT).totalMs := by
  simp only [NDT.millis, NDT.timestamp, DT.totalMs, msPerDay]; omega

end Slac.Time
