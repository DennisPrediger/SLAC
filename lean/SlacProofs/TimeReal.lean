/-
  SlacProofs.TimeReal — the rounding fact behind `LawfulTimeNum.decode_encode_ms`, proved over ℚ from the
  standard model of floating-point arithmetic.

  Standard model: a correctly rounded operation returns `fl q` for the exact result `q`, with
  `|fl q − q| ≤ u·|q|`, `u = 2⁻⁵³` (binary64, round to nearest; valid whenever `q` is in the normal range,
  and trivially for `q = 0`).  A date-time number is `x = fl (T / D)` for the integer millisecond count `T`
  and `D = 86 400 000`; decoding computes `y = fl (x · D)` and rounds `y` to the nearest integer.  For
  `|T| ≤ 2^50` (a superset of the `2^48` used by `LawfulTimeNum`, which covers years 1–9999 with room to
  spare: 9999-12-31T23:59:59.999 is 253 402 300 799 999 ms < 2^48) we show `|y − T| < 1/2`, hence EVERY integer within
  1/2 of `y` — in particular the result of `round`, whatever its tie rule — is `T`.

  Link to the `Float` instance (proved in SlacProofs.F64Time, not here): `T` (|T| ≤ 2^53) and `D` are exactly representable,
  binary64 `/` and `*` satisfy the standard model on these operands (no overflow, no underflow: the
  quotients are 0 or of magnitude ≥ 1/D ≈ 1.2e-8), `f64::round` returns an integer within 1/2 of its argument,
  and `as i64` is exact on integers of this size.
-/
import Mathlib.Tactic.Linarith
import Mathlib.Tactic.NormNum
import Mathlib.Tactic.Positivity
import Mathlib.Tactic.FieldSimp
import Mathlib.Tactic.Ring
import Mathlib.Algebra.Order.Field.Basic
import Mathlib.Algebra.Order.AbsoluteValue.Basic
set_option autoImplicit false
namespace Slac.Time

theorem scaled_error {T x D u : ℚ} (hD : 0 < D) (hx : |x - T / D| ≤ u * |T / D|) : |x * D - T| ≤ u * |T| := by
  have e : x * D - T = (x - T / D) * D := by field_simp
  rw [e, abs_mul, abs_of_pos hD]
  calc |x - T / D| * D ≤ u * |T / D| * D := mul_le_mul_of_nonneg_right hx hD.le
    _ = u * |T| := by rw [abs_div, abs_of_pos hD]; field_simp

/-- two correctly-rounded operations (divide by `D`, multiply by `D`) with relative error `u` move `T` by at most
    `(2u + u²)·|T|`: far less than half a millisecond for `u = 2⁻⁵³`, `|T| ≤ 2^50` -/
theorem roundtrip_core {T x y D u B : ℚ} (hD : 0 < D) (hu : 0 ≤ u) (hT : |T| ≤ B) (hB : (2 * u + u ^ 2) * B < 1 / 2)
    (hx : |x - T / D| ≤ u * |T / D|) (hy : |y - x * D| ≤ u * |x * D|) : |y - T| < 1 / 2 := by
  have h1 := scaled_error hD hx
  have h2 : |x * D| ≤ |T| + u * |T| := by
    have := abs_sub_abs_le_abs_sub (x * D) T
    linarith
  have h3 : |y - T| ≤ |y - x * D| + |x * D - T| := abs_sub_le y (x * D) T
  have h4 : u * |x * D| ≤ u * (|T| + u * |T|) := mul_le_mul_of_nonneg_left h2 hu
  have h5 : (2 * u + u ^ 2) * |T| ≤ (2 * u + u ^ 2) * B := mul_le_mul_of_nonneg_left hT (by positivity)
  calc |y - T| ≤ u * (|T| + u * |T|) + u * |T| := by linarith
    _ = (2 * u + u ^ 2) * |T| := by ring
    _ < 1 / 2 := lt_of_le_of_lt h5 hB

/-- `decode (encode T) = T` in the standard model: with `x = fl (T / D)` and `y = fl (x · D)`, the only integer
    within 1/2 of `y` is `T` -/
theorem decode_encode_real (fl : ℚ → ℚ) (hfl : ∀ q : ℚ, |fl q - q| ≤ (1/2^53) * |q|)
    (T : ℤ) (hT : |T| ≤ 2^50) :
    |fl (fl ((T : ℚ) / 86400000) * 86400000) - (T : ℚ)| < 1/2 ∧
    ∀ r : ℤ, |fl (fl ((T : ℚ) / 86400000) * 86400000) - (r : ℚ)| ≤ 1/2 → r = T := by
  have hTq : |(T : ℚ)| ≤ 2^50 := by exact_mod_cast hT
  have hcore : |fl (fl ((T : ℚ) / 86400000) * 86400000) - (T : ℚ)| < 1 / 2 :=
    roundtrip_core (D := 86400000) (u := 1 / 2^53) (B := 2^50) (by norm_num) (by norm_num) hTq (by norm_num) (hfl _) (hfl _)
  refine ⟨hcore, ?_⟩
  intro r hr
  have h1 : |(r : ℚ) - (T : ℚ)| < 1 := by
    have h := abs_sub_le (r : ℚ) (fl (fl ((T : ℚ) / 86400000) * 86400000)) (T : ℚ)
    rw [abs_sub_comm (r : ℚ) (fl (fl ((T : ℚ) / 86400000) * 86400000))] at h
    linarith
  have h2 : |r - T| < 1 := by exact_mod_cast h1
  have := abs_lt.1 h2
  omega

end Slac.Time
