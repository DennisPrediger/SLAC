/-
  SlacProofs.OrderNum — the facts about IEEE comparison that the ordering laws (C13) need, packaged as a class,
  and the proof that the driver's `Float` instance (bit-level `F64.pcmp` / `F64.beq`) satisfies them
  for every bit pattern.
-/
import SlacModel.Num
set_option autoImplicit false
namespace Slac

/-- laws of `partial_cmp` / `==` on numbers -/
class LawfulNum (N : Type) [NumOps N] : Prop where
  /-- `partial_cmp` is oriented -/
  pcmp_swap : ∀ a b : N, NumOps.pcmp b a = (NumOps.pcmp a b).map Ordering.swap
  /-- `==` is `partial_cmp == Some(Equal)` -/
  beq_iff : ∀ a b : N, NumOps.beq a b = true ↔ NumOps.pcmp a b = some .eq
  /-- two numbers are incomparable iff one of them is a NaN (`x` is a NaN iff `pcmp x x = none`) -/
  pcmp_none_iff : ∀ a b : N, NumOps.pcmp a b = none ↔ (NumOps.pcmp a a = none ∨ NumOps.pcmp b b = none)
  /-- equal numbers compare alike -/
  pcmp_eq_left : ∀ (a b c : N) (o : Ordering), NumOps.pcmp a b = some .eq → NumOps.pcmp b c = some o →
    NumOps.pcmp a c = some o
  /-- `<` is transitive -/
  pcmp_lt_trans : ∀ a b c : N, NumOps.pcmp a b = some .lt → NumOps.pcmp b c = some .lt → NumOps.pcmp a c = some .lt

namespace LawfulNum
variable {N : Type} [NumOps N] [LawfulNum N]

/-- NaN test expressed through the interface -/
def isNaN (a : N) : Bool := (NumOps.pcmp a a).isNone

omit [LawfulNum N] in
theorem isNaN_iff (a : N) : isNaN a = true ↔ NumOps.pcmp a a = none := by
  simp [isNaN]

theorem pcmp_self (a : N) : NumOps.pcmp a a = some .eq ∨ NumOps.pcmp a a = none := by
  have h := pcmp_swap a a
  cases hc : NumOps.pcmp a a with
  | none => exact Or.inr rfl
  | some o =>
    rw [hc] at h
    cases o <;> simp [Ordering.swap] at h
    exact Or.inl rfl

theorem pcmp_self_of_not_nan (a : N) (h : isNaN a = false) : NumOps.pcmp a a = some .eq := by
  rcases pcmp_self a with h' | h'
  · exact h'
  · simp [isNaN, h'] at h

theorem pcmp_some_of_not_nan (a b : N) (ha : isNaN a = false) (hb : isNaN b = false) :
    ∃ o, NumOps.pcmp a b = some o := by
  cases hc : NumOps.pcmp a b with
  | some o => exact ⟨o, rfl⟩
  | none =>
    rcases (pcmp_none_iff a b).1 hc with h | h
    · simp [isNaN, h] at ha
    · simp [isNaN, h] at hb

theorem pcmp_none_of_nan_left (a b : N) (ha : isNaN a = true) : NumOps.pcmp a b = none :=
  (pcmp_none_iff a b).2 (Or.inl ((isNaN_iff a).1 ha))

theorem pcmp_none_of_nan_right (a b : N) (hb : isNaN b = true) : NumOps.pcmp a b = none :=
  (pcmp_none_iff a b).2 (Or.inr ((isNaN_iff b).1 hb))

theorem pcmp_swap_some (a b : N) (o : Ordering) (h : NumOps.pcmp a b = some o) :
    NumOps.pcmp b a = some o.swap := by
  rw [pcmp_swap a b, h]; rfl

theorem pcmp_eq_right (a b c : N) (o : Ordering) (h1 : NumOps.pcmp a b = some o)
    (h2 : NumOps.pcmp b c = some .eq) : NumOps.pcmp a c = some o := by
  have h3 := pcmp_eq_left c b a o.swap (pcmp_swap_some b c .eq h2) (pcmp_swap_some a b o h1)
  have h4 := pcmp_swap_some c a o.swap h3
  simpa using h4

theorem pcmp_gt_trans (a b c : N) (h1 : NumOps.pcmp a b = some .gt) (h2 : NumOps.pcmp b c = some .gt) :
    NumOps.pcmp a c = some .gt := by
  have h3 := pcmp_lt_trans c b a (pcmp_swap_some b c .gt h2) (pcmp_swap_some a b .gt h1)
  exact pcmp_swap_some c a .lt h3

theorem beq_symm (a b : N) : NumOps.beq a b = NumOps.beq b a := by
  rw [Bool.eq_iff_iff, beq_iff, beq_iff]
  exact ⟨pcmp_swap_some a b .eq, pcmp_swap_some b a .eq⟩

end LawfulNum

namespace F64

theorem cmpInt_eq_compare (x y : Int) : cmpInt x y = compare x y := (Int.compare_eq_ite_lt x y).symm

theorem cmpInt_swap (x y : Int) : cmpInt y x = (cmpInt x y).swap := by
  rw [cmpInt_eq_compare, cmpInt_eq_compare, Int.compare_swap]

theorem cmpInt_eq_iff (x y : Int) : cmpInt x y = .eq ↔ x = y := by
  rw [cmpInt_eq_compare]; exact Int.compare_eq_eq

theorem cmpInt_lt_iff (x y : Int) : cmpInt x y = .lt ↔ x < y := by
  rw [cmpInt_eq_compare]; exact Int.compare_eq_lt

theorem pcmpN_swap (a b : Nat) : pcmpN b a = (pcmpN a b).map Ordering.swap := by
  unfold pcmpN
  cases ha : isNaNN a <;> cases hb : isNaNN b <;> simp [cmpInt_swap (keyN a) (keyN b)]

theorem pcmpN_eq_some_iff (a b : Nat) (o : Ordering) :
    pcmpN a b = some o ↔ (isNaNN a = false ∧ isNaNN b = false ∧ cmpInt (keyN a) (keyN b) = o) := by
  unfold pcmpN
  cases ha : isNaNN a <;> cases hb : isNaNN b <;> simp

theorem pcmpN_eq_none_iff (a b : Nat) : pcmpN a b = none ↔ (isNaNN a = true ∨ isNaNN b = true) := by
  unfold pcmpN
  cases ha : isNaNN a <;> cases hb : isNaNN b <;> simp

theorem beqN_iff (a b : Nat) : beqN a b = true ↔ pcmpN a b = some .eq := by
  rw [pcmpN_eq_some_iff, cmpInt_eq_iff]
  unfold beqN
  cases ha : isNaNN a <;> cases hb : isNaNN b <;> simp

end F64

instance : LawfulNum Float where
  pcmp_swap a b := F64.pcmpN_swap (F64.bits a) (F64.bits b)
  beq_iff a b := F64.beqN_iff (F64.bits a) (F64.bits b)
  pcmp_none_iff a b := by
    show F64.pcmpN _ _ = none ↔ (F64.pcmpN _ _ = none ∨ F64.pcmpN _ _ = none)
    simp only [F64.pcmpN_eq_none_iff, or_self]
  pcmp_eq_left a b c o := by
    show F64.pcmpN _ _ = some .eq → F64.pcmpN _ _ = some o → F64.pcmpN _ _ = some o
    simp only [F64.pcmpN_eq_some_iff, F64.cmpInt_eq_iff]
    rintro ⟨ha, _, hab⟩ ⟨_, hc, hbc⟩
    exact ⟨ha, hc, by rw [hab]; exact hbc⟩
  pcmp_lt_trans a b c := by
    show F64.pcmpN _ _ = some .lt → F64.pcmpN _ _ = some .lt → F64.pcmpN _ _ = some .lt
    simp only [F64.pcmpN_eq_some_iff, F64.cmpInt_lt_iff]
    rintro ⟨ha, _, hab⟩ ⟨_, hc, hbc⟩
    exact ⟨ha, hc, by omega⟩

end Slac
