/-
  SlacProofs.OrderSort — lemmas about the models of `sort`, `max`, `min` (SlacModel.StdOrder).
  Facts that need only orientation of `cmp` hold for all inputs; bounds / pairwise-sortedness need transitivity,
  which is taken as a hypothesis relativised to a carrier list `S` (instantiated with a Safe collection).
-/
import SlacModel.StdOrder
import SlacProofs.OrderSafe
set_option autoImplicit false
namespace Slac
namespace Order
variable {N : Type} [NumOps N]
open Value StdOrder

/-- `w ≤ y₀ ≤ y₁ ≤ …` for `l = [y₀, y₁, …]` (adjacent elements only) -/
def Chain (w : Value N) : List (Value N) → Prop
  | [] => True
  | y :: ys => Value.le w y = true ∧ Chain y ys

/-- no element is greater than its successor -/
def AdjSorted : List (Value N) → Prop
  | [] => True
  | x :: xs => Chain x xs

theorem le_iff (a b : Value N) : Value.le a b = true ↔ cmp a b ≠ .gt := by
  simp [Value.le]

theorem Chain.adj {w : Value N} {l : List (Value N)} (h : Chain w l) : AdjSorted l := by
  cases l with
  | nil => trivial
  | cons y ys => exact h.2

theorem insertBy_of_gt {x y : Value N} (ys : List (Value N)) (h : cmp x y = .gt) :
    insertBy x (y :: ys) = y :: insertBy x ys := by
  rw [insertBy, if_pos (beq_iff_eq.2 h)]

theorem insertBy_of_not_gt {x y : Value N} (ys : List (Value N)) (h : cmp x y ≠ .gt) :
    insertBy x (y :: ys) = x :: y :: ys := by
  rw [insertBy, if_neg (fun e => h (beq_iff_eq.1 e))]

theorem insertBy_perm (x : Value N) (l : List (Value N)) : (insertBy x l).Perm (x :: l) := by
  induction l with
  | nil => exact List.Perm.refl _
  | cons y ys ih =>
    by_cases h : cmp x y = .gt
    · rw [insertBy_of_gt ys h]; exact (List.Perm.cons y ih).trans (List.Perm.swap x y ys)
    · rw [insertBy_of_not_gt ys h]

theorem sortBy_perm (xs : List (Value N)) : (sortBy xs).Perm xs := by
  induction xs with
  | nil => exact List.Perm.refl _
  | cons x xs ih => exact (insertBy_perm x (sortBy xs)).trans (List.Perm.cons x ih)

theorem mem_sortBy {xs : List (Value N)} {a : Value N} : a ∈ sortBy xs ↔ a ∈ xs :=
  (sortBy_perm xs).mem_iff

theorem sortBy_of_adj (l : List (Value N)) (h : AdjSorted l) : sortBy l = l := by
  induction l with
  | nil => rfl
  | cons x xs ih =>
    rw [sortBy, ih (Chain.adj h)]
    cases xs with
    | nil => rfl
    | cons y ys => exact insertBy_of_not_gt ys ((le_iff x y).1 h.1)

section fold
variable {α : Type} {f : α → α → α} (hf : ∀ a z, f a z = a ∨ f a z = z)
include hf

theorem foldl_mem (l : List α) : ∀ acc, l.foldl f acc ∈ acc :: l := by
  induction l with
  | nil => intro acc; exact List.mem_cons_self ..
  | cons y ys ih =>
    intro acc
    rcases List.mem_cons.1 (ih (f acc y)) with h | h
    · rw [List.foldl_cons, h]
      rcases hf acc y with e | e <;> rw [e]
      · exact List.mem_cons_self ..
      · exact List.mem_cons_of_mem _ (List.mem_cons_self ..)
    · exact List.mem_cons_of_mem _ (List.mem_cons_of_mem _ h)

theorem foldl_bound {S : List α} {R : α → α → Prop} (hrefl : ∀ a, R a a)
    (htr : ∀ a b c, a ∈ S → b ∈ S → c ∈ S → R a b → R b c → R a c)
    (hstep : ∀ a z, R a (f a z) ∧ R z (f a z)) (l : List α) :
    ∀ acc, acc ∈ S → (∀ y ∈ l, y ∈ S) → ∀ y ∈ acc :: l, R y (l.foldl f acc) := by
  induction l with
  | nil => intro acc _ _ y hy; rw [List.mem_singleton.1 hy]; exact hrefl acc
  | cons z zs ih =>
    intro acc hacc hl y hy
    have hz : z ∈ S := hl z (List.mem_cons_self ..)
    have hzs : ∀ y ∈ zs, y ∈ S := fun y hy => hl y (List.mem_cons_of_mem _ hy)
    have hstepS : f acc z ∈ S := by rcases hf acc z with e | e <;> rw [e] <;> assumption
    have hres := ih (f acc z) hstepS hzs
    have hresS : zs.foldl f (f acc z) ∈ S := by
      rcases List.mem_cons.1 (foldl_mem hf zs (f acc z)) with h | h
      · rw [h]; exact hstepS
      · exact hzs _ h
    have habove := hres (f acc z) (List.mem_cons_self ..)
    rcases List.mem_cons.1 hy with hy | hy
    · rw [hy]; exact htr _ _ _ hacc hstepS hresS (hstep acc z).1 habove
    · rcases List.mem_cons.1 hy with hy | hy
      · rw [hy]; exact htr _ _ _ hz hstepS hresS (hstep acc z).2 habove
      · exact hres y (List.mem_cons_of_mem _ hy)

end fold

theorem maxStep_mem (a z : Value N) : maxStep a z = a ∨ maxStep a z = z := by
  unfold maxStep; split <;> simp

theorem minStep_mem (a z : Value N) : minStep a z = a ∨ minStep a z = z := by
  unfold minStep; split <;> simp

theorem maxV_mem {xs : List (Value N)} {m : Value N} (h : maxV xs = some m) : m ∈ xs := by
  cases xs with
  | nil => cases h
  | cons x xs => cases h; exact foldl_mem maxStep_mem xs x

theorem minV_mem {xs : List (Value N)} {m : Value N} (h : minV xs = some m) : m ∈ xs := by
  cases xs with
  | nil => cases h
  | cons x xs => cases h; exact foldl_mem minStep_mem xs x

theorem maxV_isSome {xs : List (Value N)} (h : xs ≠ []) : ∃ m, maxV xs = some m := by
  cases xs with
  | nil => exact absurd rfl h
  | cons x xs => exact ⟨_, rfl⟩

theorem minV_isSome {xs : List (Value N)} (h : xs ≠ []) : ∃ m, minV xs = some m := by
  cases xs with
  | nil => exact absurd rfl h
  | cons x xs => exact ⟨_, rfl⟩

section
variable [LawfulNum N]

theorem le_refl (a : Value N) : Value.le a a = true := by
  simp [Value.le, Std.ReflCmp.compare_self (cmp := cmp (N := N))]

theorem le_of_gt {a b : Value N} (h : cmp a b = .gt) : Value.le b a = true := by
  rw [le_iff, cmp_swap a b, h]; simp [Ordering.swap]

omit [LawfulNum N] in
theorem le_of_not_gt {a b : Value N} (h : ¬ cmp a b = .gt) : Value.le a b = true :=
  (le_iff a b).2 h

theorem le_total (a b : Value N) : Value.le a b = true ∨ Value.le b a = true := by
  by_cases h : cmp a b = .gt
  · exact Or.inr (le_of_gt h)
  · exact Or.inl (le_of_not_gt h)

theorem cmp_eq_of_le_le {a b : Value N} (h1 : Value.le a b = true) (h2 : Value.le b a = true) : cmp a b = .eq := by
  rw [le_iff] at h1 h2
  rw [cmp_swap a b] at h2
  cases hc : cmp a b with
  | eq => rfl
  | gt => exact absurd hc h1
  | lt => rw [hc] at h2; exact absurd rfl h2

theorem insertBy_chain (x : Value N) (l : List (Value N)) :
    ∀ w, Chain w l → Value.le w x = true → Chain w (insertBy x l) := by
  induction l with
  | nil => intro w _ hx; exact ⟨hx, trivial⟩
  | cons y ys ih =>
    intro w h hx
    by_cases hc : cmp x y = .gt
    · rw [insertBy_of_gt ys hc]; exact ⟨h.1, ih y h.2 (le_of_gt hc)⟩
    · rw [insertBy_of_not_gt ys hc]; exact ⟨hx, le_of_not_gt hc, h.2⟩

theorem insertBy_adj (x : Value N) (l : List (Value N)) (h : AdjSorted l) : AdjSorted (insertBy x l) := by
  cases l with
  | nil => trivial
  | cons y ys =>
    by_cases hc : cmp x y = .gt
    · rw [insertBy_of_gt ys hc]; exact insertBy_chain x ys y h (le_of_gt hc)
    · rw [insertBy_of_not_gt ys hc]; exact ⟨le_of_not_gt hc, h⟩

theorem sortBy_adj (xs : List (Value N)) : AdjSorted (sortBy xs) := by
  induction xs with
  | nil => trivial
  | cons x xs ih => exact insertBy_adj x (sortBy xs) ih

theorem sortBy_idem (xs : List (Value N)) : sortBy (sortBy xs) = sortBy xs :=
  sortBy_of_adj _ (sortBy_adj xs)

end

/-- `≤` is transitive on the members of `S` -/
def TransOn (S : List (Value N)) : Prop :=
  ∀ a b c : Value N, a ∈ S → b ∈ S → c ∈ S → Value.le a b = true → Value.le b c = true → Value.le a c = true

theorem chain_bound {S : List (Value N)} (htr : TransOn S) (l : List (Value N)) :
    ∀ w, w ∈ S → (∀ y ∈ l, y ∈ S) → Chain w l → ∀ y ∈ l, Value.le w y = true := by
  induction l with
  | nil => intro w _ _ _ y hy; cases hy
  | cons z zs ih =>
    intro w hw hl hch y hy
    have hz : z ∈ S := hl z (List.mem_cons_self ..)
    rcases List.mem_cons.1 hy with hy | hy
    · rw [hy]; exact hch.1
    · have hyS : y ∈ S := hl y (List.mem_cons_of_mem _ hy)
      exact htr w z y hw hz hyS hch.1 (ih z hz (fun y hy => hl y (List.mem_cons_of_mem _ hy)) hch.2 y hy)

theorem pairwise_of_adj {S : List (Value N)} (htr : TransOn S) (l : List (Value N)) :
    (∀ y ∈ l, y ∈ S) → AdjSorted l → l.Pairwise (fun a b => Value.le a b = true) := by
  induction l with
  | nil => intro _ _; exact List.Pairwise.nil
  | cons x xs ih =>
    intro hl h
    refine List.Pairwise.cons ?_ (ih (fun y hy => hl y (List.mem_cons_of_mem _ hy)) (Chain.adj h))
    exact chain_bound htr xs x (hl x (List.mem_cons_self ..)) (fun y hy => hl y (List.mem_cons_of_mem _ hy)) h

section
variable [LawfulNum N]

theorem maxStep_ge (a z : Value N) : Value.le a (maxStep a z) = true ∧ Value.le z (maxStep a z) = true := by
  unfold maxStep
  by_cases hc : cmp a z = .gt
  · rw [if_pos (beq_iff_eq.2 hc)]; exact ⟨le_refl a, le_of_gt hc⟩
  · rw [if_neg (fun e => hc (beq_iff_eq.1 e))]; exact ⟨le_of_not_gt hc, le_refl z⟩

theorem minStep_le (a z : Value N) : Value.le (minStep a z) a = true ∧ Value.le (minStep a z) z = true := by
  unfold minStep
  by_cases hc : cmp a z = .gt
  · rw [if_pos (beq_iff_eq.2 hc)]; exact ⟨le_of_gt hc, le_refl z⟩
  · rw [if_neg (fun e => hc (beq_iff_eq.1 e))]; exact ⟨le_refl a, le_of_not_gt hc⟩

theorem foldl_maxStep_bound {S : List (Value N)} (htr : TransOn S) (l : List (Value N)) :
    ∀ acc, acc ∈ S → (∀ y ∈ l, y ∈ S) → ∀ y ∈ acc :: l, Value.le y (l.foldl maxStep acc) = true :=
  foldl_bound maxStep_mem (R := fun a b => Value.le a b = true) le_refl htr maxStep_ge l

theorem foldl_minStep_bound {S : List (Value N)} (htr : TransOn S) (l : List (Value N)) :
    ∀ acc, acc ∈ S → (∀ y ∈ l, y ∈ S) → ∀ y ∈ acc :: l, Value.le (l.foldl minStep acc) y = true :=
  foldl_bound minStep_mem (R := fun a b => Value.le b a = true) le_refl
    (fun a b c ha hb hc h1 h2 => htr c b a hc hb ha h2 h1) minStep_le l

theorem Safe.transOn {S : List (Value N)} (h : Safe S) : TransOn S := by
  intro a b c ha hb hc h1 h2
  rw [le_iff] at h1 h2 ⊢
  exact (cmp_tri_of_safe h ha hb hc).le_trans h1 h2

end
end Order
end Slac
