/-
  SlacProofs.EnvCaseLemmas — "up to the spelling of names": the normalisation `normP fold` applies `fold` to every
  name an outcome carries (error payloads and trace events), and commutes with the operator tables of the
  interpreter model.  Two outcomes are equal up to spelling iff their normal forms are equal.
-/
import SlacProofs.InterpLemmas
set_option autoImplicit false
set_option linter.unusedSectionVars false
namespace Slac
variable {N : Type} [NumOps N]

def NativeError.foldN (fold : Str → Str) : NativeError → NativeError
  | .functionNotFound n => .functionNotFound (fold n)
  | e => e

def Err.foldN (fold : Str → Str) : Err → Err
  | .undefinedVariable n => .undefinedVariable (fold n)
  | .native f e => .native (fold f) (e.foldN fold)
  | e => e

def Event.foldN (fold : Str → Str) : Event N → Event N
  | .lookup n => .lookup (fold n)
  | .call n args => .call (fold n) args

/-- native-call answers up to spelling -/
def normNE (fold : Str → Str) : Except NativeError (Value N) → Except NativeError (Value N)
  | .ok v => .ok v
  | .error e => .error (e.foldN fold)

/-- results up to spelling: values untouched, names inside errors folded -/
def normX {α : Type} (fold : Str → Str) : Except Err α → Except Err α
  | .ok v => .ok v
  | .error e => .error (e.foldN fold)

/-- (result, trace) pairs up to spelling -/
def normP {α : Type} (fold : Str → Str) (r : Except Err α × List (Event N)) : Except Err α × List (Event N) :=
  (normX fold r.1, r.2.map (Event.foldN fold))

theorem normX_ok {α : Type} (fold : Str → Str) (v : α) : normX fold (.ok v) = .ok v := rfl
theorem normX_error {α : Type} (fold : Str → Str) (e : Err) :
    normX (α := α) fold (.error e) = .error (e.foldN fold) := rfl

theorem normX_ok_iff {α : Type} (fold : Str → Str) (r : Except Err α) (v : α) :
    normX fold r = .ok v ↔ r = .ok v := by
  cases r with
  | ok w => simp [normX]
  | error e => simp [normX]

theorem un_norm (fold : Str → Str) (op : Op) (m : R N) :
    normP fold (unModel op m) = unModel op (normP fold m) := by
  obtain ⟨m1, m2⟩ := m
  cases m1 with
  | ok v =>
    cases op <;> simp only [unModel, normP, normX, Value.not, Err.foldN]
    case minus => cases v <;> rfl
  | error e => cases e <;> rfl

theorem rightBool_norm (fold : Str → Str) (tl : List (Event N)) (m : R N) :
    normP fold (rightBool tl m) = rightBool (tl.map (Event.foldN fold)) (normP fold m) := by
  obtain ⟨m1, m2⟩ := m
  cases m1 with
  | ok v => simp only [rightBool, normP, normX, List.map_append]
  | error e => cases e <;> simp only [rightBool, normP, normX, Err.foldN, List.map_append]

theorem binVal_norm (fold : Str → Str) (op : Op) (a b : Value N) :
    normX fold (binVal op a b) = binVal op a b := by
  cases h : binVal op a b with
  | ok v => rfl
  | error x => cases binVal_err h; rfl

theorem absorb_norm (fold : Str → Str) (x : Except Err (Value N)) :
    absorb (normX fold x) = normX fold (absorb x) := by
  cases x with
  | ok v => rfl
  | error e => cases e <;> rfl

theorem normX_map {α β : Type} (fold : Str → Str) (f : α → β) (x : Except Err α) :
    normX fold (x.map f) = (normX fold x).map f := by
  cases x <;> rfl

theorem bin_norm (fold : Str → Str) (op : Op) (l r : R N) :
    normP fold (binModel op l r) = binModel op (normP fold l) (normP fold r) := by
  obtain ⟨x, tl⟩ := l; obtain ⟨y, tr⟩ := r
  simp only [normP]
  rw [binModel_eq, binModel_eq, absorb_norm, absorb_norm]
  cases op.cls with
  | logical isAnd =>
    cases absorb x with
    | error e => rfl
    | ok a => simp only [normX_ok]; split <;> simp only [normX_ok, normX_map, List.map_append]
  | equality neg =>
    cases absorb x with
    | error e => rfl
    | ok a => simp only [normX_ok, normX_map, List.map_append]
  | strict =>
    cases x with
    | error e => rfl
    | ok lv =>
      cases y with
      | error e => simp only [normX_ok, normX_error, Except.bind, List.map_append]
      | ok rv => simp only [normX_ok, Except.bind, List.map_append, binVal_norm]

theorem tern_norm (fold : Str → Str) (op : Op) (c m r : R N) :
    normP fold (ternModel op c m r) = ternModel op (normP fold c) (normP fold m) (normP fold r) := by
  by_cases hop : op = .ternaryCondition
  · subst hop
    obtain ⟨c1, c2⟩ := c
    cases c1 with
    | ok cv => simp only [ternModel, normP, normX_ok]; split <;> simp only [List.map_append]
    | error e => rfl
  · rw [ternModel_other hop, ternModel_other hop]; rfl

end Slac
