/-
  SlacProofs.F64Search — the number-theoretic half of `float(str(x)) = x`: for EVERY finite non-zero double the
  shortest-digits search of `display` (and of the JSON printer) settles on digits that convert back to it.
  A candidate c·10^p converts (`sciOf`, any code path of `Float.ofScientific`) to core's rounding `rnd` of its value
  (`sciOf_ref`), so equal values convert alike (`sciOf_congr`: trailing zeros, `strip_inv`; the parser's
  re-association, `readBack_eq_sciOf`) and a value within relative 2^-54 of x converts to x (`sciOf_near`).
  A search is a sequence of rounds `searchStep` with one digit more each (`IsSearch`; the two printers differ only in
  the tie rule of a round) and returns the first candidate that reads back (`search_found`).  The exponent estimate
  `selK` puts x at or above 10^(k-1) (`selK_spec`), so with 17 digits the scaled value exceeds 10^16 > 2^53 and the
  nearer of the two candidates is within relative 2^-54 (`step17_ok`): the search succeeds within its fuel
  (`candWith_ok`).  Hence `displaySearchOk`, and **`parse_display : parse (display x) = some x`** for every x.
-/
import SlacProofs.F64Near
import SlacProofs.F64Parse
set_option autoImplicit false
namespace Slac
namespace F64
open Float.Model Float.Model.UnpackedFloat

/-- the candidate as a fraction cn/cd -/
def cnOf (c : Nat) (p : Int) : Nat := if p ≥ 0 then c * 10^p.toNat else c
def cdOf (p : Int) : Nat := if p ≥ 0 then 1 else 10^(-p).toNat

theorem cdOf_pos (p : Int) : 0 < cdOf p := by
  unfold cdOf; split
  · decide
  · exact Nat.pow_pos (by decide)

/-- `sciOf c p` is core's rounding of the value c·10^p -/
theorem sciOf_ref (c : Nat) (p : Int) (hc : 0 < c) (hp1 : -2048 ≤ p) (hp2 : p ≤ 2048) :
    sciOf c p = Float.ofModel (Float.Model.pack (rnd .positive (cnOf c p) (cdOf p))) := by
  unfold sciOf cnOf cdOf
  by_cases h : p ≥ 0
  · rw [if_pos h, if_pos h, if_pos h, sci_false c p.toNat hc (by omega)]
  · rw [if_neg h, if_neg h, if_neg h, sci_true c (-p).toNat hc (by omega) (by omega)]

/-- two decimal candidates with the same value convert to the same double -/
theorem sciOf_congr (c c' : Nat) (p p' : Int) (hc : 0 < c) (hc' : 0 < c')
    (hp1 : -2048 ≤ p) (hp2 : p ≤ 2048) (hp1' : -2048 ≤ p') (hp2' : p' ≤ 2048)
    (hval : cnOf c p * cdOf p' = cnOf c' p' * cdOf p) : sciOf c p = sciOf c' p' := by
  rw [sciOf_ref c p hc hp1 hp2, sciOf_ref c' p' hc' hp1' hp2',
    rnd_congr .positive _ _ _ _ (cdOf_pos p) (cdOf_pos p') hval]

theorem strip_value (c' : Nat) (p : Int) :
    cnOf c' (p + 1) * cdOf p = cnOf (10 * c') p * cdOf (p + 1) := by
  unfold cnOf cdOf
  by_cases h0 : p ≥ 0
  · rw [if_pos (by omega : p + 1 ≥ 0), if_pos h0, if_pos h0, if_pos (by omega : p + 1 ≥ 0)]
    have : (p + 1).toNat = p.toNat + 1 := by omega
    rw [this, Nat.pow_succ]; ring
  · by_cases h1 : p = -1
    · subst h1
      have e1 : ((-1:Int) + 1 ≥ 0) := by decide
      have e2 : ¬ ((-1:Int) ≥ 0) := by decide
      have e3 : ((-1:Int) + 1).toNat = 0 := by decide
      have e4 : (-(-1:Int)).toNat = 1 := by decide
      rw [if_pos e1, if_neg e2, if_neg e2, if_pos e1, e3, e4]
      ring
    · rw [if_neg (by omega : ¬ p + 1 ≥ 0), if_neg h0, if_neg h0, if_neg (by omega : ¬ p + 1 ≥ 0)]
      have : (-p).toNat = (-(p + 1)).toNat + 1 := by omega
      rw [this, Nat.pow_succ]; ring

/-- dropping trailing zeros of the digits does not change the converted double -/
theorem strip_inv (fuel : Nat) : ∀ (c : Nat) (p : Int), 0 < c → -2048 ≤ p → p + fuel ≤ 2048 →
    0 < (stripZeros c p fuel).1 ∧ sciOf (stripZeros c p fuel).1 (stripZeros c p fuel).2 = sciOf c p ∧
    p ≤ (stripZeros c p fuel).2 ∧ (stripZeros c p fuel).2 ≤ p + fuel := by
  induction fuel with
  | zero => intro c p hc _ _; rw [stripZeros]; exact ⟨hc, rfl, by omega, by omega⟩
  | succ fuel ih =>
    intro c p hc hp1 hp2
    rw [stripZeros]
    by_cases hz : (c % 10 == 0 && c != 0) = true
    · rw [if_pos hz]
      rw [Bool.and_eq_true, beq_iff_eq] at hz
      have hc10 : c = 10 * (c / 10) := by have := Nat.div_add_mod c 10; omega
      have hc' : 0 < c / 10 := by omega
      obtain ⟨r1, r2, r3, r4⟩ := ih (c / 10) (p + 1) hc' (by omega) (by push_cast at hp2 ⊢; omega)
      refine ⟨r1, ?_, by omega, by push_cast at r4 ⊢; omega⟩
      rw [r2]
      apply sciOf_congr _ _ _ _ hc' hc (by omega) (by push_cast at hp2; omega) hp1 (by push_cast at hp2; omega)
      have := strip_value (c / 10) p
      rw [← hc10] at this
      exact this
    · rw [if_neg hz]; exact ⟨hc, rfl, by omega, by omega⟩

theorem readBack_eq_sciOf (c : Nat) (p : Int) (hc : 0 < c) (hp1 : -2048 ≤ p) (hp2 : p ≤ 2048) :
    readBack c p = sciOf c p := by
  unfold readBack
  by_cases h : p ≥ 0
  · rw [if_pos h]
    have : Float.ofScientific (c * 10^p.toNat) false 0 = sciOf (c * 10^p.toNat) 0 := rfl
    rw [this]
    apply sciOf_congr _ _ _ _ (Nat.mul_pos hc (Nat.pow_pos (by decide))) hc (by decide) (by decide) hp1 hp2
    unfold cnOf cdOf
    rw [if_pos (by decide : (0:Int) ≥ 0), if_pos h, if_pos h, if_pos (by decide : (0:Int) ≥ 0)]
    simp
  · rw [if_neg h]; unfold sciOf; rw [if_neg h]

/-- numerator / denominator of the value m·2^e as `display` forms them -/
def numOf (m : Nat) (e : Int) : Nat := if e ≥ 0 then m <<< e.toNat else m
def denOf (e : Int) : Nat := if e ≥ 0 then 1 else 1 <<< (-e).toNat

theorem denOf_pos (e : Int) : 0 < denOf e := by
  unfold denOf; split
  · decide
  · rw [Nat.shiftLeft_eq, Nat.one_mul]; exact Nat.two_pow_pos _

theorem numOf_pos (m : Nat) (e : Int) (hm : 0 < m) : 0 < numOf m e := by
  unfold numOf; split
  · rw [Nat.shiftLeft_eq]; exact Nat.mul_pos hm (Nat.two_pow_pos _)
  · exact hm

theorem numOf_scale (m : Nat) (e : Int) (J g : Nat) (hg : (g : Int) = e + J) :
    numOf m e * 2^J = m * 2^g * denOf e := by
  unfold numOf denOf
  by_cases he : e ≥ 0
  · rw [if_pos he, if_pos he, Nat.shiftLeft_eq, Nat.mul_one, Nat.mul_assoc, ← Nat.pow_add]
    congr 2; omega
  · rw [if_neg he, if_neg he, Nat.shiftLeft_eq, Nat.one_mul, Nat.mul_assoc, ← Nat.pow_add]
    congr 2; omega

/-- the two closeness inequalities between a/c and n/d carry over to a·T/c and M when n·T = M·d -/
theorem scale_near (a d n c T M K : Nat) (hT : 0 < T) (h : n * T = M * d) :
    (a * d * K < n * c * K + n * c → a * T * K < M * c * K + M * c) ∧
    (n * c * K < a * d * K + n * c → M * c * K < a * T * K + M * c) := by
  have e0 : n * c * T = M * c * d := by rw [Nat.mul_right_comm, h, Nat.mul_right_comm]
  have e1 : n * c * K * T = M * c * K * d := by rw [Nat.mul_right_comm, e0, Nat.mul_right_comm]
  have e2 : a * d * K * T = a * T * K * d := by ring
  constructor
  · intro h1
    have := Nat.mul_lt_mul_of_pos_right h1 hT
    rw [Nat.add_mul, e0, e1, e2, ← Nat.add_mul] at this
    exact Nat.lt_of_mul_lt_mul_right this
  · intro h2
    have := Nat.mul_lt_mul_of_pos_right h2 hT
    rw [Nat.add_mul, e0, e1, e2, ← Nat.add_mul] at this
    exact Nat.lt_of_mul_lt_mul_right this

/-- a value cn/cd within relative 2^-54 of x = m·2^e = num/den, described with a large enough scale 2^J, rounds to x -/
theorem rwaFrac_near_numden (s : Sign) (m : Nat) (e : Int) (hc : Canon m e) (cn cd J : Nat) (hcd : 0 < cd)
    (hJ : -(J : Int) ≤ e - 1)
    (H1 : cn * denOf e * 2^54 < numOf m e * cd * 2^54 + numOf m e * cd)
    (H2 : numOf m e * cd * 2^54 < cn * denOf e * 2^54 + numOf m e * cd) :
    rwaFrac s (cn * 2^J) cd (-(J : Int)) = .finite s m e hc.pos := by
  obtain ⟨g, hg⟩ : ∃ g : Nat, (g : Int) = e + J := ⟨(e + J).toNat, by omega⟩
  obtain ⟨s1, s2⟩ := scale_near cn (denOf e) (numOf m e) cd (2^J) (m * 2^g) (2^54) (Nat.two_pow_pos J)
    (numOf_scale m e J g hg)
  have hgg : (e - -(J : Int)).toNat = g := by omega
  have hB : m * (cd * 2^g) = m * 2^g * cd := by ac_rfl
  apply rwaFrac_near s m e hc (cn * 2^J) cd (-(J : Int)) hcd hJ
  · rw [hgg, hB]; exact s1 H1
  · rw [hgg, hB]; exact s2 H2

/-- a decimal candidate within relative 2^-54 of the positive double m·2^e converts to that double -/
theorem sciOf_near (m : Nat) (e : Int) (hm : Canon m e) (c : Nat) (p : Int) (hc : 0 < c)
    (hp1 : -2048 ≤ p) (hp2 : p ≤ 2048)
    (H1 : cnOf c p * denOf e * 2^54 < numOf m e * cdOf p * 2^54 + numOf m e * cdOf p)
    (H2 : numOf m e * cdOf p * 2^54 < cnOf c p * denOf e * 2^54 + numOf m e * cdOf p) :
    sciOf c p = mkF .positive m e hm.pos := by
  have hge := hm.ge
  rw [sciOf_ref c p hc hp1 hp2, ← rnd_eq_guard _ _ _ 1200 (cdOf_pos p) (by decide),
    rwaFrac_near_numden .positive m e hm _ _ 1200 (cdOf_pos p) (by omega) H1 H2]
  rfl

/-- a round of the search at decimal exponent p scales the value num/den by 10^-p to vn/vd; its candidates are the
    integer part lo and lo + 1 -/
def vnOf (num : Nat) (p : Int) : Nat := if p ≥ 0 then num else num * 10 ^ (-p).toNat
def vdOf (den : Nat) (p : Int) : Nat := if p ≥ 0 then den * 10 ^ p.toNat else den
def loOf (num den : Nat) (p : Int) : Nat := vnOf num p / vdOf den p

/-- the candidate c·10^p against m·2^e, as the search compares them: c·vd against vn -/
theorem cn_den_eq (c : Nat) (p : Int) (m : Nat) (e : Int) :
    cnOf c p * denOf e = c * vdOf (denOf e) p ∧ numOf m e * cdOf p = vnOf (numOf m e) p := by
  unfold cnOf cdOf vdOf vnOf
  by_cases hp : p ≥ 0
  · simp only [if_pos hp]; exact ⟨by ring, by ring⟩
  · simp only [if_neg hp]; exact ⟨trivial, trivial⟩

/-- the search succeeds with n digits, i.e. at decimal exponent p: one of its two candidates reads back -/
def StepOk (ax : Float) (num den : Nat) (p : Int) : Prop :=
  (loOf num den p > 0 ∧ (sciOf (loOf num den p) p == ax) = true) ∨ (sciOf (loOf num den p + 1) p == ax) = true

/-- one round of a shortest-digits search at decimal exponent p: the candidates are lo = ⌊(num/den)·10^-p⌋ and
    lo + 1; `preferLo` decides when both read back (the printers differ only there); `rest` is the search with one
    more digit -/
def searchStep (ax : Float) (num den : Nat) (p : Int) (preferLo : Prop) [Decidable preferLo] (rest : Nat × Int) :
    Nat × Int :=
  if (decide (loOf num den p > 0) && (sciOf (loOf num den p) p == ax) && (sciOf (loOf num den p + 1) p == ax)) = true
  then (if preferLo then (loOf num den p, p) else (loOf num den p + 1, p))
  else if (decide (loOf num den p > 0) && (sciOf (loOf num den p) p == ax)) = true then (loOf num den p, p)
  else if (sciOf (loOf num den p + 1) p == ax) = true then (loOf num den p + 1, p)
  else rest

theorem searchStep_spec (ax : Float) (num den : Nat) (p : Int) (preferLo : Prop) [Decidable preferLo]
    (rest : Nat × Int) :
    (StepOk ax num den p ∧ 0 < (searchStep ax num den p preferLo rest).1 ∧
      (searchStep ax num den p preferLo rest).2 = p ∧
      (sciOf (searchStep ax num den p preferLo rest).1 p == ax) = true) ∨
    (¬ StepOk ax num den p ∧ searchStep ax num den p preferLo rest = rest) := by
  unfold searchStep StepOk
  by_cases hLo : (decide (loOf num den p > 0) && (sciOf (loOf num den p) p == ax)) = true
  · have hLo' := hLo
    rw [Bool.and_eq_true, decide_eq_true_eq] at hLo'
    by_cases hHi : (sciOf (loOf num den p + 1) p == ax) = true
    · rw [if_pos (by rw [Bool.and_eq_true]; exact ⟨hLo, hHi⟩)]
      split
      · exact Or.inl ⟨Or.inl hLo', hLo'.1, rfl, hLo'.2⟩
      · exact Or.inl ⟨Or.inr hHi, Nat.succ_pos _, rfl, hHi⟩
    · rw [if_neg (by rw [Bool.and_eq_true]; exact fun h => hHi h.2), if_pos hLo]
      exact Or.inl ⟨Or.inl hLo', hLo'.1, rfl, hLo'.2⟩
  · rw [if_neg (by rw [Bool.and_eq_true]; exact fun h => hLo h.1), if_neg hLo]
    by_cases hHi : (sciOf (loOf num den p + 1) p == ax) = true
    · rw [if_pos hHi]; exact Or.inl ⟨Or.inr hHi, Nat.succ_pos _, rfl, hHi⟩
    · rw [if_neg hHi]
      refine Or.inr ⟨fun h => ?_, rfl⟩
      rcases h with ⟨hpos, hb⟩ | hb
      · exact hLo (by rw [Bool.and_eq_true, decide_eq_true_eq]; exact ⟨hpos, hb⟩)
      · exact hHi hb

/-- `S n fuel`, started with n digits, tries the exponents k - n, k - n - 1, … as long as the fuel lasts -/
def IsSearch (ax : Float) (num den : Nat) (k : Int) (S : Nat → Nat → Nat × Int) : Prop :=
  ∀ n fuel, ∃ (c : Prop) (_ : Decidable c), S n (fuel + 1) = searchStep ax num den (k - n) c (S (n + 1) fuel)

theorem displaySearch_isSearch (ax : Float) (num den : Nat) (k : Int) :
    IsSearch ax num den k (displaySearch ax num den k) := by
  intro n fuel
  refine ⟨2 * vnOf num (k - n) < (loOf num den (k - n) + (loOf num den (k - n) + 1)) * vdOf den (k - n),
    inferInstance, ?_⟩
  rw [displaySearch]
  rfl

/-- if some round within the fuel succeeds, the search returns a candidate that reads back (`==`) as ax -/
theorem search_found (ax : Float) (num den : Nat) (k : Int) (S : Nat → Nat → Nat × Int)
    (hS : IsSearch ax num den k S) (fuel n : Nat)
    (h : ∃ n₀, n ≤ n₀ ∧ n₀ < n + fuel ∧ StepOk ax num den (k - n₀)) :
    0 < (S n fuel).1 ∧ (sciOf (S n fuel).1 (S n fuel).2 == ax) = true ∧
    ∃ n₁, n ≤ n₁ ∧ n₁ < n + fuel ∧ (S n fuel).2 = k - n₁ := by
  induction fuel generalizing n with
  | zero => obtain ⟨n₀, h1, h2, _⟩ := h; omega
  | succ fuel ih =>
    obtain ⟨c, inst, hstep⟩ := hS n fuel
    rw [hstep]
    rcases searchStep_spec ax num den (k - n) c (S (n + 1) fuel) with ⟨_, h1, h2, h3⟩ | ⟨hno, hrest⟩
    · rw [h2]; exact ⟨h1, h3, n, Nat.le_refl _, by omega, rfl⟩
    · rw [hrest]
      obtain ⟨n₀, a1, a2, a3⟩ := h
      have hne : n₀ ≠ n := fun heq => hno (heq ▸ a3)
      obtain ⟨r1, r2, n₁, r3, r4, r5⟩ := ih (n + 1) ⟨n₀, by omega, by omega, a3⟩
      exact ⟨r1, r2, n₁, by omega, by omega, r5⟩

/-- IEEE `==` with a finite non-zero double is equality of doubles -/
theorem eq_of_beq_mkF (y : Float) (m : Nat) (e : Int) (h : Canon m e)
    (hb : (y == mkF .positive m e h.pos) = true) : y = mkF .positive m e h.pos := by
  have hb' : Float.Model.beq y.toModel (mkF .positive m e h.pos).toModel = true := hb
  unfold Float.Model.beq at hb'
  rw [unpack_mkF _ _ _ h] at hb'
  rw [← ofModel_pack_unpack y]
  unfold mkF
  congr 2
  generalize y.toModel.unpack = u at hb'
  unfold UnpackedFloat.beq at hb'
  cases u with
  | notANumber => simp [UnpackedFloat.compare] at hb'
  | infinity s => cases s <;> simp [UnpackedFloat.compare] at hb'
  | zero s => simp [UnpackedFloat.compare] at hb'
  | finite s m' e' hm' =>
    cases s with
    | negative => simp [UnpackedFloat.compare] at hb'
    | positive =>
      simp only [UnpackedFloat.compare] at hb'
      have hcmp : (compare e' e).then (compare m' m) = .eq := by simpa using hb'
      rw [Ordering.then_eq_eq] at hcmp
      have h1 : e' = e := by have := hcmp.1; rwa [Int.compare_eq_eq] at this
      have h2 : m' = m := by have := hcmp.2; rwa [Nat.compare_eq_eq] at this
      subst h1; subst h2; rfl

/-- value num/den ≥ 10^i -/
def GeTen (num den : Nat) (i : Int) : Prop :=
  if i ≥ 0 then 10^i.toNat * den ≤ num else den ≤ num * 10^(-i).toNat

theorem ratCmp_ge_iff (num den : Nat) (i : Int) :
    ((match (if i ≥ 0 then ((10:Nat) ^ i.toNat, 1) else (1, 10 ^ (-i).toNat) : Nat × Nat) with
      | (pn, pd) => ratCmp num den pn pd != Ordering.lt) = true) ↔ GeTen num den i := by
  unfold GeTen ratCmp
  by_cases h : i ≥ 0
  · simp only [if_pos h]
    rw [bne_iff_ne, Ne, Nat.compare_eq_lt]; omega
  · simp only [if_neg h]
    rw [bne_iff_ne, Ne, Nat.compare_eq_lt]; omega

/-- the decimal-exponent estimate of `display` (first power of ten above the value) -/
def selK (num den : Nat) (k0 : Int) : Int :=
  let pow (i : Int) : Nat × Nat := if i ≥ 0 then (10 ^ i.toNat, 1) else (1, 10 ^ (-i).toNat)
  let ge (i : Int) : Bool := let (pn, pd) := pow i; ratCmp num den pn pd != .lt
  if ge (k0 + 1) then k0 + 2 else if ge k0 then k0 + 1 else if ge (k0 - 1) then k0 else k0 - 1

theorem selK_bounds (num den : Nat) (k0 : Int) : k0 - 1 ≤ selK num den k0 ∧ selK num den k0 ≤ k0 + 2 := by
  unfold selK
  extract_lets pow ge
  split
  · omega
  · split
    · omega
    · split <;> omega

theorem selK_spec (num den : Nat) (k0 : Int) (hbase : GeTen num den (k0 - 2)) :
    GeTen num den (selK num den k0 - 1) := by
  unfold selK
  extract_lets pow ge
  have hge : ∀ i, ge i = true ↔ GeTen num den i := fun i => ratCmp_ge_iff num den i
  split
  · rename_i h; have := (hge _).1 h
    have e : k0 + 2 - 1 = k0 + 1 := by omega
    rw [e]; exact this
  · split
    · rename_i h; have := (hge _).1 h
      have e : k0 + 1 - 1 = k0 := by omega
      rw [e]; exact this
    · split
      · rename_i h; exact (hge _).1 h
      · have e : k0 - 1 - 1 = k0 - 2 := by omega
        rw [e]; exact hbase

theorem decLen_pos (n : Nat) : 1 ≤ decLen n := by unfold decLen; exact Nat.length_toDigits_pos

theorem decLen_lower (n : Nat) (hn : 0 < n) : 10^(decLen n - 1) ≤ n := by
  unfold decLen
  by_cases h1 : (Nat.toDigits 10 n).length - 1 = 0
  · rw [h1]; exact hn
  · have := (Nat.length_toDigits_le_iff (b := 10) (n := n) (k := (Nat.toDigits 10 n).length - 1)
      (by decide) (by omega))
    rcases Nat.lt_or_ge n (10^((Nat.toDigits 10 n).length - 1)) with hlt | hge
    · have := this.2 hlt; omega
    · exact hge

theorem decLen_upper (n : Nat) : n < 10^(decLen n) := by
  unfold decLen
  exact (Nat.length_toDigits_le_iff (b := 10) (by decide) Nat.length_toDigits_pos).1 (Nat.le_refl _)

theorem geTen_base (num den : Nat) (hnum : 0 < num) :
    GeTen num den ((decLen num : Int) - (decLen den : Int) - 2) := by
  have h1 := decLen_lower num hnum
  have h2 := decLen_upper den
  have ha := decLen_pos num
  generalize decLen num = a at *
  generalize decLen den = b at *
  unfold GeTen
  by_cases h : (a : Int) - (b : Int) - 2 ≥ 0
  · rw [if_pos h]
    have e : ((a : Int) - (b : Int) - 2).toNat = a - b - 2 := by omega
    rw [e]
    calc 10^(a - b - 2) * den ≤ 10^(a - b - 2) * 10^b := Nat.mul_le_mul_left _ (Nat.le_of_lt h2)
      _ = 10^(a - 2) := by rw [← Nat.pow_add]; congr 1; omega
      _ ≤ 10^(a - 1) := Nat.pow_le_pow_right (by decide) (by omega)
      _ ≤ num := h1
  · rw [if_neg h]
    have e : (-((a : Int) - (b : Int) - 2)).toNat = b + 2 - a := by omega
    rw [e]
    calc den ≤ 10^b := Nat.le_of_lt h2
      _ ≤ 10^(a - 1 + (b + 2 - a)) := Nat.pow_le_pow_right (by decide) (by omega)
      _ = 10^(a - 1) * 10^(b + 2 - a) := Nat.pow_add _ _ _
      _ ≤ num * 10^(b + 2 - a) := Nat.mul_le_mul_right _ h1

set_option exponentiation.threshold 2000 in
theorem decLen_numOf (m : Nat) (e : Int) (h : Canon m e) : decLen (numOf m e) ≤ 309 := by
  have hlt := h.lt; have hle := h.le
  unfold decLen
  rw [Nat.length_toDigits_le_iff (by decide) (by decide)]
  have hb : numOf m e < 2^1024 := by
    unfold numOf; split
    · rw [Nat.shiftLeft_eq]
      calc m * 2^e.toNat < 2^53 * 2^e.toNat := Nat.mul_lt_mul_of_pos_right hlt (Nat.two_pow_pos _)
        _ = 2^(53 + e.toNat) := (Nat.pow_add _ _ _).symm
        _ ≤ 2^1024 := Nat.pow_le_pow_right (by decide) (by omega)
    · exact Nat.lt_of_lt_of_le hlt (Nat.pow_le_pow_right (by decide) (by decide))
  exact Nat.lt_trans hb (by decide +kernel)

set_option exponentiation.threshold 2000 in
theorem decLen_denOf (e : Int) (he : -1074 ≤ e) : decLen (denOf e) ≤ 324 := by
  unfold decLen
  rw [Nat.length_toDigits_le_iff (by decide) (by decide)]
  have h2 : ∀ j, j ≤ 1074 → 2^j < 10^324 := fun j hj =>
    Nat.lt_of_le_of_lt (Nat.pow_le_pow_right (by decide) hj) (by decide +kernel)
  unfold denOf; split
  · exact h2 0 (by decide)
  · rw [Nat.shiftLeft_eq, Nat.one_mul]; exact h2 _ (by omega)

/-- with 17 digits the scaled value has at least 17 integer digits -/
theorem scaled_ge (num den : Nat) (k : Int) (h : GeTen num den (k - 1)) :
    10^16 * vdOf den (k - 17) ≤ vnOf num (k - 17) := by
  unfold GeTen at h
  unfold vdOf vnOf
  by_cases hp : k - 17 ≥ 0
  · rw [if_pos hp, if_pos hp]
    rw [if_pos (by omega)] at h
    have e : (k - 1).toNat = 16 + (k - 17).toNat := by omega
    rw [e, Nat.pow_add] at h
    calc 10^16 * (den * 10^(k - 17).toNat) = 10^16 * 10^(k - 17).toNat * den := by ring
      _ ≤ num := h
  · rw [if_neg hp, if_neg hp]
    by_cases hi : k - 1 ≥ 0
    · rw [if_pos hi] at h
      have e : 16 = (k - 1).toNat + (-(k - 17)).toNat := by omega
      calc 10^16 * den = 10^((k - 1).toNat + (-(k - 17)).toNat) * den := by rw [← e]
        _ = 10^(-(k - 17)).toNat * (10^(k - 1).toNat * den) := by rw [Nat.pow_add]; ring
        _ ≤ 10^(-(k - 17)).toNat * num := Nat.mul_le_mul_left _ h
        _ = num * 10^(-(k - 17)).toNat := Nat.mul_comm _ _
    · rw [if_neg hi] at h
      have e : (-(k - 17)).toNat = (-(k - 1)).toNat + 16 := by omega
      rw [e, Nat.pow_add]
      calc 10^16 * den ≤ 10^16 * (num * 10^(-(k - 1)).toNat) := Nat.mul_le_mul_left _ h
        _ = num * (10^(-(k - 1)).toNat * 10^16) := by ring

/-- at 17 digits the scaled value vn/vd exceeds 10^16 > 2^53, so the nearer of the two candidates, within half a
    unit of it, is within relative 2^-54 and converts back to the double (the bounds on k keep the decimal exponent
    k - 17 within the ±2048 of `sciOf_near`) -/
theorem step17_ok (m : Nat) (e : Int) (hm : Canon m e) (k : Int)
    (hk1 : -2031 ≤ k) (hk2 : k ≤ 2065)
    (hge : GeTen (numOf m e) (denOf e) (k - 1)) :
    StepOk (mkF .positive m e hm.pos) (numOf m e) (denOf e) (k - 17) := by
  have hsc := scaled_ge _ _ k hge
  generalize hp : k - 17 = p at hsc ⊢
  have hvdpos : 0 < vdOf (denOf e) p := by
    unfold vdOf; split
    · exact Nat.mul_pos (denOf_pos e) (Nat.pow_pos (by decide))
    · exact denOf_pos e
  have near : ∀ c, 0 < c → 2 * (c * vdOf (denOf e) p) ≤ 2 * vnOf (numOf m e) p + vdOf (denOf e) p →
      2 * vnOf (numOf m e) p ≤ 2 * (c * vdOf (denOf e) p) + vdOf (denOf e) p →
      (sciOf c p == mkF .positive m e hm.pos) = true := by
    intro c hc h1 h2
    obtain ⟨e1, e2⟩ := cn_den_eq c p m e
    rw [sciOf_near m e hm c p hc (by omega) (by omega) (by rw [e1, e2]; omega) (by rw [e1, e2]; omega)]
    exact float_beq_self_mkF _ _ _ hm
  unfold StepOk loOf
  generalize vnOf (numOf m e) p = vn at *
  generalize vdOf (denOf e) p = vd at *
  have hdm := Nat.div_add_mod vn vd
  have hr := Nat.mod_lt vn hvdpos
  have hlo : 10^16 ≤ vn / vd := by rw [Nat.le_div_iff_mul_le hvdpos]; exact hsc
  by_cases hclose : 2 * (vn % vd) < vd
  · rw [Nat.mul_comm] at hdm
    exact Or.inl ⟨by omega, near _ (by omega) (by omega) (by omega)⟩
  · have hmul : (vn / vd + 1) * vd = vd * (vn / vd) + vd := by rw [Nat.add_mul, Nat.one_mul, Nat.mul_comm]
    exact Or.inr (near _ (by omega) (by rw [hmul]; omega) (by rw [hmul]; omega))

/-- `displayCand` / `JsonText.shortest` with the search and the decoded magnitude as parameters -/
def candWith (S : Float → Nat → Nat → Int → Nat → Nat → Nat × Int) (ax : Float) (d : Nat × Int) : Nat × Int :=
  let (m, e) := d
  let k : Int := selK (numOf m e) (denOf e) ((decLen (numOf m e) : Int) - (decLen (denOf e) : Int))
  let (c, p) := S ax (numOf m e) (denOf e) k 1 18
  stripZeros c p 20

theorem displayCand_eq (x : Float) : displayCand x = candWith displaySearch (absF x) (decode (absF x)) := by
  unfold displayCand candWith selK numOf denOf absF; rfl

/-- the candidate a printer settles on for the positive double m·2^e converts back to it: the estimate k puts the
    value at or above 10^(k-1), so the search succeeds with 17 digits at the latest, within its fuel of 18 -/
theorem candWith_ok (S : Float → Nat → Nat → Int → Nat → Nat → Nat × Int)
    (hS : ∀ ax num den k, IsSearch ax num den k (S ax num den k)) (m : Nat) (e : Int) (hm : Canon m e) :
    0 < (candWith S (mkF .positive m e hm.pos) (m, e)).1 ∧
    sciOf (candWith S (mkF .positive m e hm.pos) (m, e)).1 (candWith S (mkF .positive m e hm.pos) (m, e)).2 =
      mkF .positive m e hm.pos ∧
    -400 ≤ (candWith S (mkF .positive m e hm.pos) (m, e)).2 ∧ (candWith S (mkF .positive m e hm.pos) (m, e)).2 ≤ 400 := by
  unfold candWith
  simp only []
  have hnpos := numOf_pos m e hm.pos
  have ha1 := decLen_pos (numOf m e)
  have ha2 := decLen_numOf m e hm
  have hb1 := decLen_pos (denOf e)
  have hb2 := decLen_denOf e hm.ge
  obtain ⟨hk1, hk2⟩ := selK_bounds (numOf m e) (denOf e) ((decLen (numOf m e) : Int) - (decLen (denOf e) : Int))
  have hge := selK_spec (numOf m e) (denOf e) _ (geTen_base (numOf m e) (denOf e) hnpos)
  generalize selK (numOf m e) (denOf e) ((decLen (numOf m e) : Int) - (decLen (denOf e) : Int)) = k at *
  have hstep := step17_ok m e hm k (by omega) (by omega) hge
  obtain ⟨r1, r2, n₁, r3, r4, r5⟩ := search_found _ _ _ k _ (hS (mkF .positive m e hm.pos) (numOf m e) (denOf e) k) 18 1
    ⟨17, by omega, by omega, hstep⟩
  have r2' := eq_of_beq_mkF _ m e hm r2
  generalize S (mkF .positive m e hm.pos) (numOf m e) (denOf e) k 1 18 = cp at *
  obtain ⟨c, p⟩ := cp
  simp only [] at r1 r2' r5 ⊢
  obtain ⟨s1, s2, s3, s4⟩ := strip_inv 20 c p r1 (by omega) (by omega)
  exact ⟨s1, by rw [s2, r2'], by omega, by omega⟩

/-- **the shortest-digits search always succeeds**, for every finite non-zero double -/
theorem displaySearchOk (x : Float) (hf : isFinite x = true) (hz : isZero x = false) : DisplaySearchOk x := by
  show readBack (displayCand x).1 (displayCand x).2 = absF x
  obtain ⟨s, m, e, h, rfl⟩ := exists_mkF x hf hz
  rw [displayCand_eq, absF_mkF s m e h, decode_mkF _ _ _ h]
  obtain ⟨c1, c2, c3, c4⟩ := candWith_ok displaySearch displaySearch_isSearch m e h
  rw [readBack_eq_sciOf _ _ c1 (by omega) (by omega), c2]

/-- **`parse (display x) = some x` for every double** -/
theorem parse_display (x : Float) : parse (display x) = some x := by
  by_cases hn : isNaN x = true
  · exact parse_display_special x (Or.inl hn)
  by_cases hi : isInf x = true
  · exact parse_display_special x (Or.inr (Or.inl hi))
  by_cases hz : isZero x = true
  · exact parse_display_special x (Or.inr (Or.inr hz))
  have hn' : isNaN x = false := Bool.eq_false_iff.2 hn
  have hi' : isInf x = false := Bool.eq_false_iff.2 hi
  have hz' : isZero x = false := Bool.eq_false_iff.2 hz
  have hf : isFinite x = true := by
    unfold isNaN isNaNN at hn'; unfold isInf at hi'; unfold isFinite
    rw [decide_eq_false_iff_not] at hn' hi'
    rw [decide_eq_true_eq]; omega
  have hr : readBack (displayCand x).1 (displayCand x).2 = absF x := displaySearchOk x hf hz'
  rw [parse_display_cand x hn' hi' hz', hr, sgnB_absF x hf hz']

end F64
end Slac
