/-
  SlacProofs.EnvLemmas — association-list facts behind the `StaticEnv` model (SlacModel.Env):
  `alGet` after `ins`/`del`, key uniqueness, membership, and pointwise-related lists.
-/
import SlacModel.Env
set_option autoImplicit false
set_option linter.unusedSectionVars false
namespace Slac

section AList
variable {K : Type} [DecidableEq K] {β : Type}

theorem alGet_del (k k' : K) (l : List (K × β)) :
    alGet k' (del k l) = if k' = k then none else alGet k' l := by
  induction l with
  | nil => simp [del, alGet]
  | cons p l ih =>
    obtain ⟨a, b⟩ := p
    simp only [del]
    by_cases ha : a = k
    · subst ha
      rw [if_pos rfl, ih]
      by_cases hk : k' = a
      · simp [hk]
      · have : a ≠ k' := fun e => hk e.symm
        simp [hk, alGet, this]
    · rw [if_neg ha]
      simp only [alGet]
      by_cases hk : a = k'
      · subst hk; simp [ha]
      · simp [hk, ih]

theorem alGet_ins (k k' : K) (b : β) (l : List (K × β)) :
    alGet k' (ins k b l) = if k' = k then some b else alGet k' l := by
  simp only [ins, alGet]
  by_cases h : k' = k
  · subst h; simp
  · have : k ≠ k' := fun e => h e.symm
    simp [this, h, alGet_del]

def keys (l : List (K × β)) : List K := l.map (·.1)

theorem del_eq_filter (k : K) (l : List (K × β)) : del k l = l.filter (fun p => p.1 ≠ k) := by
  induction l with
  | nil => rfl
  | cons p l ih => obtain ⟨a, b⟩ := p; by_cases h : a = k <;> simp [del, h, ih]

theorem mem_del {k : K} {p : K × β} {l : List (K × β)} : p ∈ del k l ↔ p ∈ l ∧ p.1 ≠ k := by
  simp [del_eq_filter]

theorem mem_keys {k : K} {l : List (K × β)} : k ∈ keys l ↔ ∃ b, (k, b) ∈ l := by
  simp only [keys, List.mem_map]
  constructor
  · rintro ⟨⟨a, b⟩, h, rfl⟩; exact ⟨b, h⟩
  · rintro ⟨b, h⟩; exact ⟨(k, b), h, rfl⟩

theorem not_mem_keys_del (k : K) (l : List (K × β)) : k ∉ keys (del k l) := by
  intro h
  obtain ⟨b, hb⟩ := mem_keys.1 h
  exact (mem_del.1 hb).2 rfl

theorem nodup_keys_del (k : K) {l : List (K × β)} (h : (keys l).Nodup) : (keys (del k l)).Nodup := by
  rw [del_eq_filter]; exact h.sublist (List.filter_sublist.map _)

theorem nodup_keys_ins (k : K) (b : β) {l : List (K × β)} (h : (keys l).Nodup) : (keys (ins k b l)).Nodup := by
  simp only [ins, keys, List.map_cons, List.nodup_cons]
  exact ⟨not_mem_keys_del k l, nodup_keys_del k h⟩

theorem mem_ins {k : K} {b : β} {p : K × β} {l : List (K × β)} :
    p ∈ ins k b l ↔ p = (k, b) ∨ (p ∈ l ∧ p.1 ≠ k) := by
  simp only [ins, List.mem_cons, mem_del]

/-- a successful lookup returns an entry of the list -/
theorem mem_of_alGet {k : K} {b : β} {l : List (K × β)} (h : alGet k l = some b) : (k, b) ∈ l := by
  induction l with
  | nil => cases h
  | cons q l ih =>
    obtain ⟨a, c⟩ := q
    simp only [alGet] at h
    by_cases ha : a = k
    · rw [if_pos ha] at h; cases h; subst ha; exact List.mem_cons_self
    · rw [if_neg ha] at h; exact List.mem_cons_of_mem _ (ih h)

/-- with unique keys, lookup and membership coincide -/
theorem alGet_eq_some_iff {k : K} {b : β} {l : List (K × β)} (h : (keys l).Nodup) :
    alGet k l = some b ↔ (k, b) ∈ l := by
  refine ⟨mem_of_alGet, fun hm => ?_⟩
  induction l with
  | nil => cases hm
  | cons q l ih =>
    obtain ⟨a, c⟩ := q
    simp only [keys, List.map_cons, List.nodup_cons] at h
    simp only [alGet]
    rcases List.mem_cons.1 hm with e | e
    · cases e; rw [if_pos rfl]
    · rw [if_neg (fun ha : a = k => h.1 (ha ▸ mem_keys.2 ⟨b, e⟩)), ih h.2 e]

/-! pointwise related association lists (same keys in the same order, related entries) -/

inductive AllRel {α γ : Type} (R : α → γ → Prop) : List α → List γ → Prop
  | nil : AllRel R [] []
  | cons {a : α} {c : γ} {l : List α} {l' : List γ} : R a c → AllRel R l l' → AllRel R (a :: l) (c :: l')

theorem AllRel.refl {α : Type} {R : α → α → Prop} (h : ∀ a, R a a) : ∀ l : List α, AllRel R l l
  | [] => .nil
  | a :: l => .cons (h a) (AllRel.refl h l)

theorem AllRel.map {α γ α' γ' : Type} {R : α → γ → Prop} {S : α' → γ' → Prop} {f : α → α'} {g : γ → γ'}
    (hfg : ∀ a c, R a c → S (f a) (g c)) {l : List α} {l' : List γ} (h : AllRel R l l') :
    AllRel S (l.map f) (l'.map g) := by
  induction h with
  | nil => exact .nil
  | cons hp _ ih => exact .cons (hfg _ _ hp) ih

/-- entries related by `R`, keys equal -/
def EntryRel {γ : Type} (R : β → γ → Prop) (p : K × β) (q : K × γ) : Prop := p.1 = q.1 ∧ R p.2 q.2

theorem allRel_del {γ : Type} {R : β → γ → Prop} (k : K) {l : List (K × β)} {l' : List (K × γ)}
    (h : AllRel (EntryRel R) l l') : AllRel (EntryRel R) (del k l) (del k l') := by
  induction h with
  | nil => exact .nil
  | @cons p q l l' hp _ ih =>
    obtain ⟨a, b⟩ := p; obtain ⟨a', b'⟩ := q
    obtain ⟨h1, h2⟩ := hp; simp only at h1 h2; subst h1
    simp only [del]
    by_cases ha : a = k
    · rw [if_pos ha, if_pos ha]; exact ih
    · rw [if_neg ha, if_neg ha]; exact .cons ⟨rfl, h2⟩ ih

theorem allRel_ins {γ : Type} {R : β → γ → Prop} (k : K) {b : β} {c : γ} (hbc : R b c) {l : List (K × β)}
    {l' : List (K × γ)} (h : AllRel (EntryRel R) l l') :
    AllRel (EntryRel R) (ins k b l) (ins k c l') :=
  .cons ⟨rfl, hbc⟩ (allRel_del k h)

/-- related lists give related lookups -/
theorem allRel_alGet {γ : Type} {R : β → γ → Prop} (k : K) {l : List (K × β)} {l' : List (K × γ)}
    (h : AllRel (EntryRel R) l l') :
    (alGet k l = none ∧ alGet k l' = none) ∨ ∃ b c, alGet k l = some b ∧ alGet k l' = some c ∧ R b c := by
  induction h with
  | nil => exact .inl ⟨rfl, rfl⟩
  | @cons p q l l' hp _ ih =>
    obtain ⟨a, b⟩ := p; obtain ⟨a', b'⟩ := q
    obtain ⟨h1, h2⟩ := hp; simp only at h1 h2; subst h1
    simp only [alGet]
    by_cases ha : a = k
    · rw [if_pos ha, if_pos ha]; exact .inr ⟨b, b', rfl, rfl, h2⟩
    · rw [if_neg ha, if_neg ha]; exact ih

end AList

/-! ### Well-formedness of the function table: unique keys, each key is the folded name of its entry -/

variable {N : Type}

structure FnsWF (fold : Str → Str) (s : StaticEnv N) : Prop where
  nodup : (keys s.fns).Nodup
  key : ∀ p ∈ s.fns, p.1 = fold p.2.name

namespace StaticEnv

theorem wf_empty (fold : Str → Str) : FnsWF fold (empty : StaticEnv N) :=
  ⟨by simp [empty, keys], by intro p hp; cases hp⟩

theorem wf_addFunction {fold : Str → Str} {s : StaticEnv N} (h : FnsWF fold s) (f : Fn N) :
    FnsWF fold (addFunction fold s f) := by
  refine ⟨nodup_keys_ins _ _ h.nodup, ?_⟩
  intro p hp
  rcases mem_ins.1 hp with rfl | ⟨hp, _⟩
  · rfl
  · exact h.key p hp

theorem wf_addFunctions {fold : Str → Str} (fs : List (Fn N)) : ∀ {s : StaticEnv N}, FnsWF fold s →
    FnsWF fold (addFunctions fold s fs) := by
  induction fs with
  | nil => intro s h; exact h
  | cons f fs ih => intro s h; exact ih (wf_addFunction h f)

theorem wf_removeFunction {fold : Str → Str} {s : StaticEnv N} (h : FnsWF fold s) (n : Str) :
    FnsWF fold (removeFunction fold s n).1 :=
  ⟨nodup_keys_del _ h.nodup, fun p hp => h.key p (mem_del.1 hp).1⟩

/-- the listing contains exactly the functions some key maps to -/
theorem mem_listFunctions {fold : Str → Str} {s : StaticEnv N} (h : FnsWF fold s) (f : Fn N) :
    f ∈ listFunctions s ↔ ∃ k, alGet k s.fns = some f := by
  simp only [listFunctions, List.mem_map]
  constructor
  · rintro ⟨⟨k, g⟩, hp, rfl⟩; exact ⟨k, (alGet_eq_some_iff h.nodup).2 hp⟩
  · rintro ⟨k, hk⟩; exact ⟨(k, f), (alGet_eq_some_iff h.nodup).1 hk, rfl⟩

/-- the folded names of the listed functions are the keys of the table -/
theorem listFunctions_keys {fold : Str → Str} {s : StaticEnv N} (h : FnsWF fold s) :
    (listFunctions s).map (fun f => fold f.name) = keys s.fns := by
  simp only [listFunctions, keys, List.map_map]
  apply List.map_congr_left
  intro p hp
  exact (h.key p hp).symm

/-- no two listed functions have the same folded name -/
theorem listFunctions_nodup {fold : Str → Str} {s : StaticEnv N} (h : FnsWF fold s) :
    ((listFunctions s).map (fun f => fold f.name)).Nodup := by
  rw [listFunctions_keys h]; exact h.nodup

theorem addFunctions_vars (fold : Str → Str) (fs : List (Fn N)) : ∀ s : StaticEnv N,
    (addFunctions fold s fs).vars = s.vars := by
  induction fs with
  | nil => intro s; rfl
  | cons f fs ih => intro s; exact (ih (addFunction fold s f)).trans rfl

end StaticEnv
end Slac
