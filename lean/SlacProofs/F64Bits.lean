/-
  SlacProofs.F64Bits — bridge between core's logical float model (`Float.Model`, `UnpackedFloat`) and the
  numeric bit pattern `F64.bits x = x.toBits.toNat` used by SlacModel.Num.
  Core (Init/Data/Float/Model/**) ships NO lemma relating `Float.toBits` and `Float.ofBits` (only
  `valid_pack`, `unpackMantissa_packComponents`, `unpackExponent_packComponents`); everything here is proved from
  the definitions of `pack`/`unpack`:
    * `unpackN`/`packN`: `UnpackedFloat.unpack`/`pack` for binary64 as functions on `Nat`;
    * `bits_ofBits_of`: `toBits (ofBits b) = b` unless b is a non-canonical NaN pattern;
    * `ofBits_bits`: `ofBits (toBits x) = x`;  `eq_of_bits_eq`: a Float is determined by its bits;
    * `bits_valid`: the only NaN pattern a `Float` can carry is 0x7FF8000000000000.
-/
import SlacModel.Num
set_option autoImplicit false
namespace Slac
namespace F64
open Float.Model Float.Model.UnpackedFloat

abbrev B64 := Format.binary64

theorem um_toNat (v : BitVec 64) : (unpackMantissa (spec := B64) v).toNat = v.toNat % 2^52 := by
  simp [unpackMantissa, BitVec.extractLsb, BitVec.extractLsb']
theorem ue_toNat (v : BitVec 64) : (unpackExponent (spec := B64) v).toNat = v.toNat / 2^52 % 2^11 := by
  simp [unpackExponent, BitVec.extractLsb, BitVec.extractLsb', Nat.shiftRight_eq_div_pow]
theorem us_toNat (v : BitVec 64) : (unpackSign (spec := B64) v).toNat = v.toNat / 2^63 := by
  have := v.isLt
  simp [unpackSign, BitVec.extractLsb, BitVec.extractLsb', Nat.shiftRight_eq_div_pow]
  omega
theorem pc_toNat (s : Sign) (e : BitVec 11) (m : BitVec 52) :
    (packComponents B64 s e m).toNat = s.toBitVec.toNat * 2^63 + e.toNat * 2^52 + m.toNat := by
  simp only [packComponents]
  rw [BitVec.toNat_append, BitVec.toNat_append]
  have h1 := e.isLt
  have h2 := m.isLt
  rw [← Nat.shiftLeft_add_eq_or_of_lt h1, ← Nat.shiftLeft_add_eq_or_of_lt h2, Nat.shiftLeft_eq, Nat.shiftLeft_eq]
  omega

theorem e_all (E : BitVec 11) : E = -1#11 ↔ E.toNat = 2047 := BitVec.toNat_inj.symm
theorem e_zero (E : BitVec 11) : E = 0#11 ↔ E.toNat = 0 := BitVec.toNat_inj.symm
theorem m_zero (M : BitVec 52) : M = 0#52 ↔ M.toNat = 0 := BitVec.toNat_inj.symm

def signN (b : Nat) : Sign := if b / 2^63 % 2 = 1 then .negative else .positive
def sbit : Sign → Nat | .negative => 1 | .positive => 0

theorem sign_ofBitVec (v : BitVec 64) : Sign.ofBitVec (unpackSign (spec := B64) v) = signN v.toNat := by
  have h := us_toNat v
  have hv := v.isLt
  unfold Sign.ofBitVec signN
  have : unpackSign (spec := B64) v = 0#1 ↔ (unpackSign (spec := B64) v).toNat = 0 := BitVec.toNat_inj.symm
  simp only [this, h]
  split <;> split <;> first | rfl | omega

/-- `UnpackedFloat.unpack` on the numeric value of the bit pattern -/
def unpackN (b : Nat) : UnpackedFloat :=
  let E : Nat := b / 2^52 % 2^11
  let M : Nat := b % 2^52
  let S := signN b
  if E = 2047 then (if M = 0 then .infinity S else .notANumber)
  else if E = 0 then
    (if h : M = 0 then .zero S else .finite S M (-1074) (Nat.pos_of_ne_zero h))
  else .finite S (2^52 + M) ((E : Int) - 1075) (by omega)

theorem unpack_eq (v : BitVec 64) : UnpackedFloat.unpack B64 v = unpackN v.toNat := by
  unfold UnpackedFloat.unpack unpackN
  simp only [e_all, e_zero, m_zero, sign_ofBitVec, um_toNat, ue_toNat]
  have hb : (B64.exponentBias : Int) = 1023 := by decide
  split
  · rfl
  · split
    · split
      · rfl
      · congr 1; rw [hb]; omega
    · congr 1
      · rw [BitVec.toNat_append, ← Nat.shiftLeft_add_eq_or_of_lt (unpackMantissa (spec := B64) v).isLt, um_toNat]
        rfl

/-- `UnpackedFloat.pack` as a number -/
def packN : UnpackedFloat → Nat
  | .notANumber => 0x7FF8000000000000
  | .infinity s => sbit s * 2^63 + 0x7FF0000000000000
  | .zero s => sbit s * 2^63
  | .finite s m e _ =>
    let be := (e + 1075).toNat
    if 2^11 ≤ be + 1 then sbit s * 2^63 + 0x7FF0000000000000
    else if m.log2 + 1 = 53 then sbit s * 2^63 + be * 2^52 + m % 2^52
    else sbit s * 2^63 + m % 2^52

theorem sbit_eq (s : Sign) : s.toBitVec.toNat = sbit s := by cases s <;> rfl

theorem packedInfinity_toNat (s : Sign) : (packedInfinity B64 s).toNat = sbit s * 2^63 + 0x7FF0000000000000 := by
  cases s <;> decide
theorem packedZero_toNat (s : Sign) : (packedZero B64 s).toNat = sbit s * 2^63 := by
  cases s <;> decide
theorem packedNaN_toNat : (packedNaN B64).toNat = 0x7FF8000000000000 := by decide

theorem pack_toNat (f : UnpackedFloat) : (UnpackedFloat.pack B64 f).toNat = packN f := by
  cases f with
  | notANumber => exact packedNaN_toNat
  | infinity s => exact packedInfinity_toNat s
  | zero s => exact packedZero_toNat s
  | finite s m e hm =>
    simp only [UnpackedFloat.pack, packN]
    have hb : (e + (B64.exponentBias : Int) + (B64.mantissaBitsWithoutImplicit : Int)).toNat = (e + 1075).toNat := by
      have : (B64.exponentBias : Int) = 1023 := by decide
      rw [this]; congr 1; simp only []; omega
    rw [hb]
    split
    · exact packedInfinity_toNat s
    · split
      · rename_i h1 h2
        rw [if_pos (by simpa [Format.mantissaBits] using h2)]
        simp only [pc_toNat, sbit_eq, BitVec.toNat_ofNat]
        rw [Nat.mod_eq_of_lt (by omega : (e + 1075).toNat < 2^11)]
      · rename_i h1 h2
        rw [if_neg (by simpa [Format.mantissaBits] using h2)]
        simp only [pc_toNat, sbit_eq, BitVec.toNat_ofNat]
        show sbit s * 2 ^ 63 + 0 * 2 ^ 52 + m % 2 ^ 52 = _
        omega

theorem bits_def (x : Float) : bits x = x.toModel.toBits.toBitVec.toNat := rfl

theorem bits_lt (x : Float) : bits x < 2^64 := x.toModel.toBits.toBitVec.isLt

theorem unpack_bits (x : Float) : x.toModel.unpack = unpackN (bits x) := by
  rw [Float.Model.unpack, unpack_eq]; rfl

theorem bits_ofModel_pack (f : UnpackedFloat) : bits (Float.ofModel (Float.Model.pack f)) = packN f := by
  rw [bits_def]; exact pack_toNat f

theorem eq_of_bits_eq {x y : Float} (h : bits x = bits y) : x = y := by
  cases x with | ofModel mx => cases y with | ofModel my =>
  cases mx with | mk bx vx => cases my with | mk b_y vy =>
  have : bx = b_y := by
    cases bx with | ofBitVec vbx => cases b_y with | ofBitVec vby =>
    have : vbx = vby := BitVec.eq_of_toNat_eq h
    rw [this]
  subst this; rfl

/-- a NaN bit pattern inside a `Float` is the canonical one -/
theorem bits_valid (x : Float) (h : bits x / 2^52 % 2^11 = 2047) (hm : bits x % 2^52 ≠ 0) :
    bits x = 0x7FF8000000000000 := by
  have hv := x.toModel.valid
  have := hv.eq_packedNaN (by rw [e_all, ue_toNat]; exact h) (by rw [Ne, m_zero, um_toNat]; exact hm)
  rw [bits_def, this]; exact packedNaN_toNat

theorem log2_lt_of (m k : Nat) (h : m < 2^k) (h0 : m ≠ 0) : m.log2 < k := (Nat.log2_lt h0).2 h
theorem log2_eq_of (m k : Nat) (h1 : 2^k ≤ m) (h2 : m < 2^(k+1)) : m.log2 = k := by
  have h0 : m ≠ 0 := by have := Nat.two_pow_pos k; omega
  have := (Nat.log2_lt h0).2 h2
  have := (Nat.le_log2 h0).2 h1
  omega

theorem sbit_signN (b : Nat) : sbit (signN b) = b / 2^63 % 2 := by
  unfold signN; split <;> simp [sbit] <;> omega

theorem sbit_le (s : Sign) : sbit s ≤ 1 := by cases s <;> simp [sbit]

theorem signN_of (b : Nat) (s : Sign) (h : b / 2^63 = sbit s) : signN b = s := by
  unfold signN; rw [h]; cases s <;> rfl

theorem unpackN_normal (b : Nat) (h1 : b / 2^52 % 2^11 ≠ 2047) (h0 : b / 2^52 % 2^11 ≠ 0) :
    unpackN b = .finite (signN b) (2^52 + b % 2^52) (((b / 2^52 % 2^11 : Nat) : Int) - 1075) (by omega) := by
  unfold unpackN; simp only []; rw [if_neg h1, if_neg h0]
theorem unpackN_subnormal (b : Nat) (h0 : b / 2^52 % 2^11 = 0) (hM : b % 2^52 ≠ 0) :
    unpackN b = .finite (signN b) (b % 2^52) (-1074) (Nat.pos_of_ne_zero hM) := by
  unfold unpackN; simp only []; rw [if_neg (by omega), if_pos h0, dif_neg hM]
theorem unpackN_zero (b : Nat) (h0 : b / 2^52 % 2^11 = 0) (hM : b % 2^52 = 0) : unpackN b = .zero (signN b) := by
  unfold unpackN; simp only []; rw [if_neg (by omega), if_pos h0, dif_pos hM]
theorem unpackN_inf (b : Nat) (h1 : b / 2^52 % 2^11 = 2047) (hM : b % 2^52 = 0) : unpackN b = .infinity (signN b) := by
  unfold unpackN; simp only []; rw [if_pos h1, if_pos hM]
theorem unpackN_nan (b : Nat) (h1 : b / 2^52 % 2^11 = 2047) (hM : b % 2^52 ≠ 0) : unpackN b = .notANumber := by
  unfold unpackN; simp only []; rw [if_pos h1, if_neg hM]

theorem fields_sum (b : Nat) : b = b / 2^63 * 2^63 + b / 2^52 % 2^11 * 2^52 + b % 2^52 := by omega

theorem packN_unpackN (b : Nat) (hb : b < 2^64)
    (h : b / 2^52 % 2^11 = 2047 → b % 2^52 ≠ 0 → b = 0x7FF8000000000000) : packN (unpackN b) = b := by
  have hs : sbit (signN b) = b / 2^63 := by rw [sbit_signN]; omega
  have hsum := fields_sum b
  have hM := Nat.mod_lt b (show 0 < 2^52 by decide)
  -- the three fields become variables, so that the arithmetic below is linear
  generalize hEE : b / 2^52 % 2^11 = E at hsum
  generalize hMM : b % 2^52 = M at hsum hM
  generalize b / 2^63 = S at hsum hs
  by_cases hE : E = 2047
  · by_cases hM0 : M = 0
    · rw [unpackN_inf b (hEE.trans hE) (hMM.trans hM0)]; simp only [packN]; omega
    · rw [unpackN_nan b (hEE.trans hE) (by rw [hMM]; exact hM0)]
      exact (h (hEE.trans hE) (by rw [hMM]; exact hM0)).symm
  · by_cases hE0 : E = 0
    · by_cases hM0 : M = 0
      · rw [unpackN_zero b (hEE.trans hE0) (hMM.trans hM0)]; simp only [packN]; omega
      · rw [unpackN_subnormal b (hEE.trans hE0) (by rw [hMM]; exact hM0)]
        simp only [packN, hMM]
        have hl : M.log2 < 52 := log2_lt_of _ _ hM hM0
        rw [if_neg (by omega), if_neg (by omega)]
        omega
    · rw [unpackN_normal b (by rw [hEE]; exact hE) (by rw [hEE]; exact hE0)]
      simp only [packN, hMM, hEE]
      have hl : (2^52 + M).log2 = 52 := log2_eq_of _ _ (by omega) (by omega)
      rw [if_neg (by omega), if_pos (by omega)]
      omega

theorem bits_ofBits (b : UInt64) : bits (Float.ofBits b) = packN (unpackN b.toNat) := by
  unfold Float.ofBits Float.Model.ofBits
  rw [bits_ofModel_pack, unpack_eq]; rfl

/-- `toBits ∘ ofBits` is the identity away from non-canonical NaN patterns -/
theorem bits_ofBits_of (b : UInt64)
    (h : b.toNat / 2^52 % 2^11 = 2047 → b.toNat % 2^52 ≠ 0 → b.toNat = 0x7FF8000000000000) :
    bits (Float.ofBits b) = b.toNat := by
  rw [bits_ofBits]; exact packN_unpackN _ b.toBitVec.isLt h

theorem ofBits_bits (x : Float) : Float.ofBits x.toBits = x := by
  apply eq_of_bits_eq
  rw [bits_ofBits_of]; rfl
  exact bits_valid x

theorem ofModel_pack_unpack (x : Float) : Float.ofModel (Float.Model.pack x.toModel.unpack) = x := ofBits_bits x

theorem float_sub_def (x y : Float) :
    x - y = Float.ofModel (Float.Model.pack (UnpackedFloat.sub B64 x.toModel.unpack y.toModel.unpack)) := rfl
theorem float_add_def (x y : Float) :
    x + y = Float.ofModel (Float.Model.pack (UnpackedFloat.add B64 x.toModel.unpack y.toModel.unpack)) := rfl
theorem float_mul_def (x y : Float) :
    x * y = Float.ofModel (Float.Model.pack (UnpackedFloat.mul B64 x.toModel.unpack y.toModel.unpack)) := rfl
theorem float_div_def (x y : Float) :
    x / y = Float.ofModel (Float.Model.pack (UnpackedFloat.div B64 x.toModel.unpack y.toModel.unpack)) := rfl

end F64
end Slac
