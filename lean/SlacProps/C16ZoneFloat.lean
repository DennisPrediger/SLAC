/-
  C16Zone for the driver's number type — the through-numbers theorems of SlacProps.C16Zone at `N = Float` (IEEE binary64)
  with NO hypothesis about numbers (`instance : LawfulTimeNum Float` is proved in SlacProofs.F64Time), for every lawful
  zone and in particular for the two POSIX zones of the correspondence runs.
  Every theorem here is the generic theorem of the same name (without `_float`); the last two are
  `rfc3339_roundtrip_zone` at `Zone.cet` and `Zone.est`.
-/
import SlacProps.C16Zone
import SlacProofs.F64Time
set_option autoImplicit false
namespace Slac.C16
open Slac.Time Slac.TimeRfc Slac.Stdlib

/-- ROUND TRIP on binary64 in a lawful zone: `date_from_rfc3339 (date_to_rfc3339 x) = x`, bit for bit, for every date-time
    number `x = total_ms / 86400000` of years 0–9999 for which `date_to_rfc3339` answers a text and whose next second is
    not a skipped reading -/
theorem rfc3339_roundtrip_zone_float {z : Zone} (hz : z.Lawful) (t : DT) (h : Rfc t)
    (hn : z.localResult (t.timestamp + 1) ≠ .none) (txt : Str)
    (hp : dateToRfc3339Z z [(encode t : Value Float)] = .ok (.str txt)) :
    dateFromRfc3339Z z [(.str txt : Value Float)] = some (.ok (encode t)) := rfc3339_roundtrip_zone hz t h hn txt hp

theorem rfc2822_roundtrip_zone_float {z : Zone} (hz : z.Lawful) (t : DT) (h : Rfc t) (hs : t.ms % 1000 = 0)
    (hn : z.localResult (t.timestamp + 1) ≠ .none) (txt : Str)
    (hp : dateToRfc2822Z z [(encode t : Value Float)] = .ok (.str txt)) :
    dateFromRfc2822Z z [(.str txt : Value Float)] = some (.ok (encode t)) := rfc2822_roundtrip_zone hz t h hs hn txt hp

theorem dateToRfc3339Z_error_iff_float {z : Zone} (hz : z.Lawful) (t : DT) (h : Rfc t) :
    (∃ e, dateToRfc3339Z z [(encode t : Value Float)] = .error e) ↔
      (z.localResult t.timestamp = .none ∨ ∃ a b, z.localResult t.timestamp = .ambiguous a b) :=
  dateToRfc3339Z_error_iff hz t h

theorem dateToRfc2822Z_error_iff_float {z : Zone} (hz : z.Lawful) (t : DT) (h : Rfc t) :
    (∃ e, dateToRfc2822Z z [(encode t : Value Float)] = .error e) ↔
      (z.localResult t.timestamp = .none ∨ ∃ a b, z.localResult t.timestamp = .ambiguous a b) :=
  dateToRfc2822Z_error_iff hz t h

theorem dateToRfc3339Z_offset_float {z : Zone} (hz : z.Lawful) (t : DT) (h : Rfc t)
    (hn : z.localResult (t.timestamp + 1) ≠ .none) (txt : Str)
    (hp : dateToRfc3339Z z [(encode t : Value Float)] = .ok (.str txt)) :
    ∃ off, txt = rfc3339At off t ∧ z.localResult t.timestamp = .single off ∧ z.offsetFromUtc (t.timestamp - off) = off :=
  dateToRfc3339Z_offset hz t h hn txt hp

/-- the two zones of the correspondence runs -/
theorem rfc3339_roundtrip_cet_float (t : DT) (h : Rfc t) (hn : Zone.cet.localResult (t.timestamp + 1) ≠ .none) (txt : Str)
    (hp : dateToRfc3339Z Zone.cet [(encode t : Value Float)] = .ok (.str txt)) :
    dateFromRfc3339Z Zone.cet [(.str txt : Value Float)] = some (.ok (encode t)) :=
  rfc3339_roundtrip_zone Zone.cet_lawful t h hn txt hp

theorem rfc3339_roundtrip_est_float (t : DT) (h : Rfc t) (hn : Zone.est.localResult (t.timestamp + 1) ≠ .none) (txt : Str)
    (hp : dateToRfc3339Z Zone.est [(encode t : Value Float)] = .ok (.str txt)) :
    dateFromRfc3339Z Zone.est [(.str txt : Value Float)] = some (.ok (encode t)) :=
  rfc3339_roundtrip_zone Zone.est_lawful t h hn txt hp

example : okStr? (dateToRfc3339Z Zone.cet [encode (dtOf 2021 7 1 12 0 0 1)]) = some "2021-07-01T12:00:00.001+02:00".toList := by
  decide +kernel
example : dateFromRfc3339Z Zone.cet [(.str (rfc3339At 7200 (dtOf 2021 7 1 12 0 0 1)) : Value Float)] =
    some (.ok (encode (dtOf 2021 7 1 12 0 0 1))) :=
  dateFromRfc3339Z_rfc3339At Zone.cet_lawful _ ⟨by decide +kernel, by decide +kernel, by decide +kernel⟩ 7200
    (by decide +kernel) (by decide +kernel)
example : ∃ e, dateToRfc3339Z Zone.cet [(encode (dtOf 2021 3 28 2 15 0 0) : Value Float)] = .error e :=
  (dateToRfc3339Z_error_iff_float Zone.cet_lawful _ ⟨by decide +kernel, by decide +kernel, by decide +kernel⟩).2
    (Or.inl (by decide +kernel))
example : ∃ e, dateToRfc3339Z Zone.est [(encode (dtOf 2021 11 7 1 30 0 0) : Value Float)] = .error e :=
  (dateToRfc3339Z_error_iff_float Zone.est_lawful _ ⟨by decide +kernel, by decide +kernel, by decide +kernel⟩).2
    (Or.inr ⟨-18000, -14400, by decide +kernel⟩)

end Slac.C16
