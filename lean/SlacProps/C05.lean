/-
  C05 — `optimize` preserves meaning.
  (A) For trees without a three-argument `if_then` call the optimized tree — or the partially rewritten tree a
      failed `optimize` leaves behind — yields the identical result, value or error, under every variable
      binding (defined or not) of an environment with the same functions.
  (B) For every tree whose variables resolve, if executing the original yields a value then executing the
      optimized (or partially rewritten) tree yields the identical value, provided `if_then`, where bound,
      is the standard function.
  Model: SlacModel/Optimizer.lean.  Environment functions are Lean functions, hence independent of call
  history — the property's "impure functions whose result does not depend on call history".
-/
import SlacProofs.OptRefine
import SlacProofs.OptStable
import SlacProofs.OptExample
set_option autoImplicit false
namespace Slac.C05
open Slac.Opt
variable {N : Type} [NumOps N]

/-- One `fold_constants` pass — completed or aborted by an error (`(fold env e).tree` is then the partially
    rewritten tree) — never changes what the tree evaluates to, value or error, under any environment `env'`
    with the same functions and arbitrary variable bindings. -/
theorem fold_preserves (env env' : Env N) (hcall : ∀ f vs, env'.call f vs = env.call f vs) (e : Expr N) :
    evalR env' (fold env e).tree = evalR env' e :=
  Slac.Opt.fold_preserves env env' hcall e

/-- Trees without a three-argument `if_then` call: the tree the caller holds after `optimize` — returned
    `Ok` or `Err` — yields the identical result, value or error, under every variable binding. -/
theorem optimize_preserves_noIf3 (env env' : Env N) (hcall : ∀ f vs, env'.call f vs = env.call f vs) :
    ∀ (fuel : Nat) (e e' : Expr N), if3 e = 0 → (optimize env fuel e).tree? = some e' →
      evalR env' e' = evalR env' e := by
  intro fuel e e' h3 h
  refine (optimize_ind env (I := fun t => if3 t = 0 ∧ evalR env' t = evalR env' e) ?_ fuel e e' ⟨h3, rfl⟩ h).2
  intro t ⟨ht, hv⟩
  rw [transform_eq_self t ht]
  exact ⟨by have := if3_fold env t; omega, (fold_preserves env env' hcall t).trans hv⟩

/-- `transform_ternary` on a tree whose variables are bound, `if_then` being the standard function:
    a value stays the same value.  (`env.var n ≠ none` for every variable is all that is used of `Resolved`.) -/
theorem transform_refines_varsBound (env : Env N) (e : Expr N) (hr : VarsBound env e) (hi : IfThenStd env)
    (v : Value N) : evalR env e = .ok v → evalR env (transform e) = .ok v :=
  transform_le env hi e hr v

theorem transform_refines (env : Env N) (e : Expr N) (hr : Resolved env e) (hi : IfThenStd env)
    (v : Value N) : evalR env e = .ok v → evalR env (transform e) = .ok v :=
  transform_refines_varsBound env e hr.1 hi v

/-- General form: optimize under `env`, execute under any `env'` with the same functions in which the
    variables of the tree are bound. -/
theorem optimize_preserves_value_gen (env env' : Env N) (hcall : ∀ f vs, env'.call f vs = env.call f vs)
    (hi : IfThenStd env') (v : Value N) :
    ∀ (fuel : Nat) (e e' : Expr N), VarsBound env' e → evalR env' e = .ok v →
      (optimize env fuel e).tree? = some e' → evalR env' e' = .ok v := by
  intro fuel e e' hb hv h
  refine (optimize_ind env (I := fun t => VarsBound env' t ∧ evalR env' t = .ok v) ?_ fuel e e' ⟨hb, hv⟩ h).2
  intro t ⟨hb, hv⟩
  exact ⟨varsBound_fold env env' _ (varsBound_transform env' t hb),
    (fold_preserves env env' hcall _).trans (transform_le env' hi t hb v hv)⟩

/-- For every tree whose variables and functions resolve in the environment, if executing the original
    yields a value then executing the tree the caller holds after `optimize` — the optimized tree, or the
    partially rewritten tree left behind when `optimize` reports an error — yields the identical value. -/
theorem optimize_preserves_value (env : Env N) (fuel : Nat) (e e' : Expr N) (hr : Resolved env e)
    (hi : IfThenStd env) (v : Value N) (hv : evalR env e = .ok v)
    (h : (optimize env fuel e).tree? = some e') : evalR env e' = .ok v :=
  optimize_preserves_value_gen env env (fun _ _ => rfl) hi v fuel e e' hr.1 hv h

/-- the same with the fuel the driver uses: a tree exists and has the value -/
theorem optimize_preserves_value' (env : Env N) (e : Expr N) (hr : Resolved env e)
    (hi : IfThenStd env) (v : Value N) (hv : evalR env e = .ok v) :
    ∃ e', (optimize env (mu e + 1) e).tree? = some e' ∧ evalR env e' = .ok v := by
  obtain ⟨e', h⟩ := optimize_tree_some env (mu e + 1) e (Nat.lt_succ_self _)
  exact ⟨e', h, optimize_preserves_value env _ e e' hr hi v hv h⟩

section Examples
open Slac.Opt.Ex
attribute [local instance] intOps

theorem call_found (f : Str) (hf : f = ifThenName ∨ f = maxName ∨ f = rndName) (vs : List (Value Int)) (n : Str) :
    Ex.call f vs ≠ .error (.functionNotFound n) := by
  rcases hf with rfl | rfl | rfl
  · intro h; simp only [Ex.call, if_true] at h
    split at h
    · rename_i c a b; cases c <;> simp only [ifThen3] at h
      · rename_i bb; cases bb <;> simp only at h <;> cases h
      all_goals cases h
    all_goals cases h
  · intro h; simp only [Ex.call, show maxName ≠ ifThenName by decide, if_false, if_true] at h
    split at h <;> cases h
  · intro h; simp only [Ex.call, show rndName ≠ ifThenName by decide, show rndName ≠ maxName by decide,
      if_false, if_true] at h
    cases h

theorem ifThenStd_env : IfThenStd Ex.env := ifThenStd_of_eq Ex.env (fun _ _ _ => rfl)

/-- `x + if_then(max(1,2) > 1, rnd(), 0 - 1)` resolves in `env` (`x = 5`; `if_then`, `max`, `rnd` registered) -/
theorem resolved_t1 : Resolved Ex.env t1 := by
  refine ⟨?_, ?_⟩
  · simp only [t1, VarsBound, VarsBoundL, and_true]
    decide
  · simp only [t1, FnsResolved, FnsResolvedL, and_true, true_and]
    refine ⟨⟨true, by decide⟩, fun vs n _ => call_found _ (.inl rfl) vs n, ⟨⟨true, by decide⟩, fun vs n _ => call_found _ (.inr (.inl rfl)) vs n⟩,
      ⟨false, by decide⟩, fun vs n _ => call_found _ (.inr (.inr rfl)) vs n⟩

/-- it yields `5 + 4 = 9`, before and after optimization (the optimized tree is `x + rnd()`) -/
example : evalR Ex.env t1 = .ok (.num 9) := by rfl
example : (optimize Ex.env 9 t1).tree? = some (.binary (.var x) (.call rndName []) .plus) := by rfl
example : evalR Ex.env (.binary (.var x) (.call rndName []) .plus) = .ok (.num 9) :=
  optimize_preserves_value Ex.env 9 t1 _ resolved_t1 ifThenStd_env _ (by rfl) (by rfl)
example : evalR Ex.env (transform t1) = .ok (.num 9) :=
  transform_refines Ex.env t1 resolved_t1 ifThenStd_env _ (by rfl)

/-- a failing pass: `[1 + 2, y, -true]` is left as `[3, y, -true]`; under `env'` (`y = 7`) both fail with
    `InvalidUnary(-)`, under `env` (`y` unbound) both fail with `UndefinedVariable(y)` -/
example : (fold Ex.env t2).err = some (.invalidUnary .minus) := by rfl
example : evalR Ex.env' (fold Ex.env t2).tree = evalR Ex.env' t2 := fold_preserves Ex.env Ex.env' (fun _ _ => rfl) t2
example : evalR Ex.env' t2 = .error (.invalidUnary .minus) := by rfl
example : evalR Ex.env t2 = .error (.undefinedVariable y) := by rfl
example : (optimize Ex.env 9 t2).tree? = some (.array [.lit (.num 3), .var y, .unary (.lit (.bool true)) .minus]) := by rfl
example : evalR Ex.env (.array [.lit (.num 3), .var y, .unary (.lit (.bool true)) .minus]) = evalR Ex.env t2 :=
  optimize_preserves_noIf3 Ex.env Ex.env (fun _ _ => rfl) 9 t2 _ (by rfl) (by rfl)

/-- `(y = 0) or (1 < max(2, 3) ? [] : rnd())` optimizes to `(y = 0) or []`; with `y` unbound (`env`) and with
    `y = 7` (`env'`) the results agree -/
example : (optimize Ex.env 9 t3).tree? = some (.binary (.binary (.var y) (.lit (.num 0)) .equal) (.lit (.arr [])) .or) := by rfl
example : evalR Ex.env' (.binary (.binary (.var y) (.lit (.num 0)) .equal) (.lit (.arr [])) .or) = evalR Ex.env' t3 :=
  optimize_preserves_noIf3 Ex.env Ex.env' (fun _ _ => rfl) 9 t3 _ (by rfl) (by rfl)

/-- The hypothesis `Resolved` is necessary: with `y` unbound, `0 = if_then(true, 1, y)` is `true` before
    (the eager call propagates `UndefinedVariable`, which `=` reads as empty) and `false` after. -/
def t4 : Expr Int :=
  .binary (.lit (.num 0)) (.call ifThenName [.lit (.bool true), .lit (.num 1), .var y]) .equal
example : evalR Ex.env t4 = .ok (.bool true) := by rfl
example : optimize Ex.env 9 t4 = .ok (.lit (.bool false)) := by rfl

end Examples

end Slac.C05
