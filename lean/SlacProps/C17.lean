/-
  C17 — conversions and math builtins of the standard library (src/stdlib/common.rs str/float/int/bool,
  string.rs chr/ord, math.rs).  Model: SlacModel.Stdlib (generic in the number type `N`, `[NumX N]`), registry
  SlacModel.Registry; the driver's numbers are core `Float` with the bit-level definitions of SlacModel.Num.

  What is proved (details and everything that is relative to a hypothesis are stated at the theorems):
  1. generic in N: every math builtin IS the library function of `NumX` (abs, arc_tan, cos, exp, frac, ln, round,
     sin, sqrt, trunc via the macro arms; pow with default exponent 2), wrong kinds/counts give the Rust arms'
     errors; `int = trunc ∘ float`, `bool = as_bool`, `float` of String/Boolean/Number, `str = Display`.
  2. generic in N with `LawfulAscii N` (two facts about the integers 0..127, proved for Float): chr and ord are
     mutually inverse on 0..127; ord rejects non-ASCII, empty and longer strings; chr rejects every number outside
     0.0..=127.0.  OBSERVATION (`chr_accepts_fractions`): chr does NOT reject fractions inside the range —
     chr(65.5) = "A" (Rust `65.5 as u32`); for Float every accepted number yields a code point ≤ 127.
  3. for the driver's doubles, from core's logical float model (Init/Data/Float/Model, no lemma library exists
     there — the bridge is SlacProofs.F64Bits):
     trunc idempotent / sign-preserving / |trunc x| ≤ |x|;  trunc x + frac x = x for every finite x (bitwise,
     except -0.0 ↦ +0.0);  round = nearest integer, ties away from zero (|x| < 2^52, identity above);
     even(n) ⇔ 2 ∣ n and odd(n) ⇔ ¬ even(n) for every integer |n| ≤ 2^53 (`n as f64`) and for EVERY integer-valued
     double of any magnitude (`even_of_integer_valued`); odd = not even for EVERY number;
     int_to_hex(x) = upper-case hex numeral of the exact integer part of x for every finite x with 0 ≤ ⌊x⌋ < 2^63
     (two's complement below zero, saturation outside i64), and the numeral really is base 16 (evaluates back,
     digits 0-9A-F, no leading 0);
     float(str(x)) = x for EVERY double, unconditionally (`float_str`): printing = shortest digits that read back,
     parsing = `Float.ofScientific`; proved from core's model incl. correct rounding of decimal → binary on all
     four code paths and the 17-digit argument (SlacProofs.F64Parse/F64Rwa/F64Sci/F64Near/F64Search); concrete
     texts, roundings and casts are kernel-evaluated tests (SlacProofs.F64Tests).
-/
import SlacModel.Registry
import SlacProofs.MathHex
import SlacProofs.F64Cast
import SlacProofs.F64RoundHalf
import SlacProofs.F64Even
import SlacProofs.F64Hex
import SlacProofs.F64Tests
import SlacProofs.F64Search
set_option autoImplicit false
namespace Slac.C17
open Stdlib Registry
set_option linter.unusedSectionVars false
variable {N : Type} [NumX N]

/-- the registry entries of the ten one-argument math functions -/
theorem registry_math (cm : CaseMap) (off : Nat) :
    builtin (N := N) cm off "abs" = some (tot (num1 NumX.abs)) ∧
    builtin (N := N) cm off "arc_tan" = some (tot (num1 NumX.atan)) ∧
    builtin (N := N) cm off "cos" = some (tot (num1 NumX.cos)) ∧
    builtin (N := N) cm off "exp" = some (tot (num1 NumX.exp)) ∧
    builtin (N := N) cm off "frac" = some (tot (num1 NumX.fract)) ∧
    builtin (N := N) cm off "ln" = some (tot (num1 NumX.ln)) ∧
    builtin (N := N) cm off "round" = some (tot (num1 NumX.round)) ∧
    builtin (N := N) cm off "sin" = some (tot (num1 NumX.sin)) ∧
    builtin (N := N) cm off "sqrt" = some (tot (num1 NumX.sqrt)) ∧
    builtin (N := N) cm off "trunc" = some (tot (num1 NumOps.trunc)) :=
  ⟨rfl, rfl, rfl, rfl, rfl, rfl, rfl, rfl, rfl, rfl⟩

theorem registry_conv (cm : CaseMap) (off : Nat) :
    builtin (N := N) cm off "str" = some strF ∧ builtin (N := N) cm off "float" = some (tot float) ∧
    builtin (N := N) cm off "int" = some (tot int) ∧ builtin (N := N) cm off "bool" = some (tot Stdlib.bool) ∧
    builtin (N := N) cm off "chr" = some (tot chr) ∧ builtin (N := N) cm off "ord" = some (tot ord) ∧
    builtin (N := N) cm off "int_to_hex" = some (tot intToHex) ∧ builtin (N := N) cm off "even" = some (tot even) ∧
    builtin (N := N) cm off "odd" = some (tot odd) ∧ builtin (N := N) cm off "pow" = some (tot pow) :=
  ⟨rfl, rfl, rfl, rfl, rfl, rfl, rfl, rfl, rfl, rfl⟩

def call (cm : CaseMap) (off : Nat) (name : String) (ps : List (Value N)) : Option (Option (Res N)) :=
  (builtin (N := N) cm off name).map fun f => f ps

/-- macro-generated arms of math.rs: `[Number(x)] => Ok(Number(x.f()))`, `[_] => WrongParameterType`,
    `_ => WrongParameterCount(1)` -/
theorem num1_num (f : N → N) (x : N) : num1 f [.num x] = .ok (.num (f x)) := rfl
theorem num1_wrong_type (f : N → N) (v : Value N) (h : v.isNumber = false) : num1 f [v] = .error .wrongParameterType := by
  cases v <;> first | rfl | simp [Value.isNumber] at h
theorem num1_wrong_count (f : N → N) (ps : List (Value N)) (h : ps.length ≠ 1) :
    num1 f ps = .error (.wrongParameterCount 1) := by
  match ps, h with
  | [], _ => rfl
  | a :: _ :: _, _ => cases a <;> rfl
  | [_], h => simp at h

theorem call_of_builtin {cm : CaseMap} {off : Nat} {name : String} {f : List (Value N) → Option (Res N)}
    (h : builtin (N := N) cm off name = some f) (ps : List (Value N)) : call cm off name ps = some (f ps) := by
  unfold call; rw [h]; rfl

theorem abs_is_lib (cm : CaseMap) (off : Nat) (x : N) : call cm off "abs" [.num x] = some (some (.ok (.num (NumX.abs x)))) :=
  call_of_builtin (registry_math cm off).1 _
theorem arc_tan_is_lib (cm : CaseMap) (off : Nat) (x : N) : call cm off "arc_tan" [.num x] = some (some (.ok (.num (NumX.atan x)))) :=
  call_of_builtin (registry_math cm off).2.1 _
theorem cos_is_lib (cm : CaseMap) (off : Nat) (x : N) : call cm off "cos" [.num x] = some (some (.ok (.num (NumX.cos x)))) :=
  call_of_builtin (registry_math cm off).2.2.1 _
theorem exp_is_lib (cm : CaseMap) (off : Nat) (x : N) : call cm off "exp" [.num x] = some (some (.ok (.num (NumX.exp x)))) :=
  call_of_builtin (registry_math cm off).2.2.2.1 _
theorem frac_is_lib (cm : CaseMap) (off : Nat) (x : N) : call cm off "frac" [.num x] = some (some (.ok (.num (NumX.fract x)))) :=
  call_of_builtin (registry_math cm off).2.2.2.2.1 _
theorem ln_is_lib (cm : CaseMap) (off : Nat) (x : N) : call cm off "ln" [.num x] = some (some (.ok (.num (NumX.ln x)))) :=
  call_of_builtin (registry_math cm off).2.2.2.2.2.1 _
theorem round_is_lib (cm : CaseMap) (off : Nat) (x : N) : call cm off "round" [.num x] = some (some (.ok (.num (NumX.round x)))) :=
  call_of_builtin (registry_math cm off).2.2.2.2.2.2.1 _
theorem sin_is_lib (cm : CaseMap) (off : Nat) (x : N) : call cm off "sin" [.num x] = some (some (.ok (.num (NumX.sin x)))) :=
  call_of_builtin (registry_math cm off).2.2.2.2.2.2.2.1 _
theorem sqrt_is_lib (cm : CaseMap) (off : Nat) (x : N) : call cm off "sqrt" [.num x] = some (some (.ok (.num (NumX.sqrt x)))) :=
  call_of_builtin (registry_math cm off).2.2.2.2.2.2.2.2.1 _
theorem trunc_is_lib (cm : CaseMap) (off : Nat) (x : N) : call cm off "trunc" [.num x] = some (some (.ok (.num (NumOps.trunc x)))) :=
  call_of_builtin (registry_math cm off).2.2.2.2.2.2.2.2.2 _

example (cm : CaseMap) : call (N := Float) cm 1 "sqrt" [.num 2] = some (some (.ok (.num (Float.sqrt 2)))) :=
  sqrt_is_lib cm 1 2
example (cm : CaseMap) : call (N := Float) cm 1 "sin" [.str ['x']] = some (some (.error .wrongParameterType)) :=
  call_of_builtin (registry_math cm 1).2.2.2.2.2.2.2.1 _
example (cm : CaseMap) : call (N := Float) cm 1 "sin" [] = some (some (.error (.wrongParameterCount 1))) :=
  call_of_builtin (registry_math cm 1).2.2.2.2.2.2.2.1 _
example : num1 (N := Float) NumX.abs [.num 1, .num 2] = .error (.wrongParameterCount 1) :=
  num1_wrong_count _ _ (by decide)

/-- pow: default exponent 2 -/
theorem pow_default (x : N) : pow [.num x] = .ok (.num (NumX.pow x (NumX.ofNat 2))) := rfl
theorem pow_two_args (x y : N) : pow [.num x, .num y] = .ok (.num (NumX.pow x y)) := rfl
/-- further parameters are ignored by the function itself (the arity check `optional(1,1)` sits in the caller) -/
theorem pow_more_args (x y : N) (rest : List (Value N)) : pow (.num x :: .num y :: rest) = .ok (.num (NumX.pow x y)) := rfl
theorem pow_no_args : pow ([] : List (Value N)) = .error (.wrongParameterCount 1) := rfl
theorem pow_bad_base (v : Value N) (h : v.isNumber = false) : pow [v] = .error .wrongParameterType := by
  cases v <;> first | rfl | simp [Value.isNumber] at h
/-- a non-number exponent is reported first (`default_number(..)?` precedes the match) -/
theorem pow_bad_exponent (b e : Value N) (h : e.isNumber = false) : pow [b, e] = .error .wrongParameterType := by
  cases e <;> first | rfl | simp [Value.isNumber] at h

example : pow [(.num 10 : Value Float)] = .ok (.num (Float.pow 10 (F64.ofNat 2))) := pow_default 10
example : pow [(.num 10 : Value Float), .num (-3)] = .ok (.num (Float.pow 10 (-3))) := pow_two_args 10 (-3)
example : pow [(.bool true : Value Float)] = .error .wrongParameterType := pow_bad_base _ rfl
example : pow [(.num 10 : Value Float), .bool true] = .error .wrongParameterType := pow_bad_exponent _ _ rfl

theorem bool_def (v : Value N) : Stdlib.bool [v] = .ok (.bool v.asBool) := rfl
theorem bool_wrong_count (ps : List (Value N)) (h : ps.length ≠ 1) : Stdlib.bool ps = .error (.wrongParameterCount 1) := by
  match ps, h with
  | [], _ => rfl
  | _ :: _ :: _, _ => rfl
  | [_], h => simp at h

example : Stdlib.bool [(.str ['x'] : Value Float)] = .ok (.bool true) ∧ Stdlib.bool [(.num 0 : Value Float)] = .ok (.bool false) ∧
    Stdlib.bool [(.arr [] : Value Float)] = .ok (.bool false) := by
  refine ⟨?_, ?_, ?_⟩ <;> rw [bool_def] <;> exact congrArg (fun b => Except.ok (Value.bool b)) (by decide)

theorem float_bool (b : Bool) : float [(.bool b : Value N)] = .ok (.num (NumOps.ofBool b)) := rfl
theorem float_num (x : N) : float [.num x] = .ok (.num x) := rfl
theorem float_of_string (s : Str) :
    float [(.str s : Value N)] = match NumOps.parse (N := N) s with
      | some x => .ok (.num x)
      | none => .error (parseFloatError s) := rfl
theorem float_arr (vs : List (Value N)) : float [.arr vs] = .error .wrongParameterType := rfl
theorem float_wrong_count (ps : List (Value N)) (h : ps.length ≠ 1) : float ps = .error (.wrongParameterCount 1) := by
  match ps, h with
  | [], _ => rfl
  | a :: _ :: _, _ => cases a <;> rfl
  | [_], h => simp at h

/-- the error for EVERY unparsable text: std's `ParseFloatError` text ("cannot parse float from empty string" for `float("")`, "invalid float
    literal" otherwise) as a custom error -/
theorem float_unparsable (s : Str) (h : NumOps.parse (N := N) s = none) :
    float [(.str s : Value N)] = .error (parseFloatError s) := by rw [float_of_string, h]

example : float [(.bool true : Value Float)] = .ok (.num 1) := float_bool true
example : float [(.str ['1','e','3'] : Value Float)] = .ok (.num 1000) := by
  rw [float_of_string]; have : NumOps.parse (N := Float) ['1','e','3'] = some 1000 := by decide +kernel
  rw [this]
example : float [(.str ['a'] : Value Float)] = .error (custom "invalid float literal") :=
  float_unparsable _ (by decide +kernel)
example : float [(.str [] : Value Float)] = .error (custom "cannot parse float from empty string") :=
  float_unparsable _ (by decide +kernel)

/-- `int` is `float` followed by `trunc` -/
theorem int_def (ps : List (Value N)) :
    int ps = match float ps with
      | .ok (.num x) => .ok (.num (NumOps.trunc x))
      | .ok _ => .error .wrongParameterType
      | .error e => .error e := rfl
theorem int_num (x : N) : int [.num x] = .ok (.num (NumOps.trunc x)) := rfl
theorem int_bool (b : Bool) : int [(.bool b : Value N)] = .ok (.num (NumOps.trunc (NumOps.ofBool b))) := rfl
theorem int_of_string (s : Str) :
    int [(.str s : Value N)] = match NumOps.parse (N := N) s with
      | some x => .ok (.num (NumOps.trunc x))
      | none => .error (parseFloatError s) := by
  simp only [int, float]; cases NumOps.parse (N := N) s <;> rfl

example : int [(.str ['-','2','.','7'] : Value Float)] = .ok (.num (-2)) := by
  rw [int_of_string]
  have : NumOps.parse (N := Float) ['-','2','.','7'] = some (-2.7) := by decide +kernel
  rw [this]
  exact congrArg (fun x => Except.ok (Value.num x)) (by decide +kernel : F64.trunc (-2.7) = -2)

/-- `str` is `Display for Value` (arrays are outside the model: Rust's `Debug` rendering) -/
theorem str_def (v : Value N) : strF [v] = (valueToString v).map fun s => .ok (.str s) := rfl
theorem str_num (x : N) : strF [.num x] = some (.ok (.str (NumX.display x))) := rfl
theorem str_bool (b : Bool) : strF [(.bool b : Value N)] = some (.ok (.str (if b then ['t','r','u','e'] else ['f','a','l','s','e']))) := by
  cases b <;> rfl
theorem str_str (s : Str) : strF [(.str s : Value N)] = some (.ok (.str s)) := rfl

/-- `float(str(x)) = x` reduces to the printing/parsing round trip of the number type -/
theorem float_str_of_roundtrip (x : N) (h : NumOps.parse (NumX.display x) = some x) :
    (strF [.num x]).map (fun r => r.bind fun s => float [s]) = some (.ok (.num x)) := by
  simp only [str_num, Option.map, Except.bind, float, h]

/-- what `chr`/`ord` need from the number type: the integers 0..127 lie in `0.0..=127.0` and survive `as u32`.
    True of IEEE doubles (instance below, from `F64.ascii_table` in SlacProofs.F64Cast). -/
class LawfulAscii (N : Type) [NumX N] : Prop where
  inAscii_ofNat : ∀ n : Nat, n ≤ 127 → NumX.inAscii (NumX.ofNat n : N) = true
  toU32_ofNat : ∀ n : Nat, n ≤ 127 → NumX.toU32 (NumX.ofNat n : N) = n

theorem toNat_char_ofNat (n : Nat) (h : n ≤ 127) : (Char.ofNat n).toNat = n := by
  have : n.isValidChar := Or.inl (by omega)
  simp [Char.ofNat, this, Char.toNat, Char.ofNatAux]

/-- `ord(chr(n)) = n` for every n in 0..127, with both calls succeeding -/
theorem ord_chr [LawfulAscii N] (n : Nat) (h : n ≤ 127) :
    chr [.num (NumX.ofNat n : N)] = .ok (.str [Char.ofNat n]) ∧
    ord [(.str [Char.ofNat n] : Value N)] = .ok (.num (NumX.ofNat n)) := by
  constructor
  · simp only [chr, LawfulAscii.inAscii_ofNat n h, LawfulAscii.toU32_ofNat n h, if_true]
  · simp only [ord, toNat_char_ofNat n h]
    rw [if_pos (by omega)]

/-- `chr(ord(c)) = c` for every ASCII character, with both calls succeeding -/
theorem chr_ord [LawfulAscii N] (c : Char) (h : c.toNat ≤ 127) :
    ord [(.str [c] : Value N)] = .ok (.num (NumX.ofNat c.toNat)) ∧
    chr [.num (NumX.ofNat c.toNat : N)] = .ok (.str [c]) := by
  constructor
  · simp only [ord]; rw [if_pos (by omega)]
  · simp only [chr, LawfulAscii.inAscii_ofNat c.toNat h, LawfulAscii.toU32_ofNat c.toNat h, if_true,
      Char.ofNat_toNat]

/-- `ord` rejects everything that is not a single ASCII character -/
theorem ord_rejects :
    (∀ c : Char, 128 ≤ c.toNat → ord [(.str [c] : Value N)] = .error (custom "character is out of ASCII range")) ∧
    ord [(.str [] : Value N)] = .error (custom "string is too long") ∧
    (∀ (a b : Char) (r : Str), ord [(.str (a :: b :: r) : Value N)] = .error (custom "string is too long")) ∧
    (∀ v : Value N, (∀ s, v ≠ .str s) → ord [v] = .error .wrongParameterType) ∧
    (∀ ps : List (Value N), ps.length ≠ 1 → ord ps = .error (.wrongParameterCount 1)) := by
  refine ⟨?_, rfl, fun _ _ _ => rfl, ?_, ?_⟩
  · intro c h; simp only [ord]; rw [if_neg (by omega)]
  · intro v h; cases v with
    | str s => exact absurd rfl (h s)
    | _ => rfl
  · intro ps h
    match ps, h with
    | [], _ => rfl
    | a :: _ :: _, _ =>
      cases a with
      | str s => match s with
        | [] => rfl
        | [_] => rfl
        | _ :: _ :: _ => rfl
      | _ => rfl
    | [_], h => simp at h

/-- `chr` rejects every number outside `0.0..=127.0` (NaN included: `contains` is false) -/
theorem chr_rejects (x : N) (h : NumX.inAscii x = false) :
    chr [.num x] = .error (custom "number is out of ASCII range") := by
  simp only [chr, h]; rfl

theorem chr_accepts (x : N) (h : NumX.inAscii x = true) :
    chr [.num x] = .ok (.str [Char.ofNat (NumX.toU32 x)]) := by
  simp only [chr, h, if_true]

theorem chr_wrong_type (v : Value N) (h : v.isNumber = false) : chr [v] = .error .wrongParameterType := by
  cases v <;> first | rfl | simp [Value.isNumber] at h
theorem chr_wrong_count (ps : List (Value N)) (h : ps.length ≠ 1) : chr ps = .error (.wrongParameterCount 1) := by
  match ps, h with
  | [], _ => rfl
  | a :: _ :: _, _ => cases a <;> rfl
  | [_], h => simp at h

/-- `odd(x) = not even(x)` for every number (NaN and infinities included: both sides use the same test) -/
theorem odd_eq_not_even (x : N) :
    even [.num x] = .ok (.bool (isEven x)) ∧ odd [.num x] = .ok (.bool (!isEven x)) := ⟨rfl, rfl⟩

theorem odd_iff_not_even (x : N) (b : Bool) : even [.num x] = .ok (.bool b) ↔ odd [.num x] = .ok (.bool (!b)) := by
  simp only [even, odd]
  constructor
  · intro h; injection h with h; injection h with h; rw [h]
  · intro h; injection h with h; injection h with h
    have : isEven x = b := by cases hx : isEven x <;> cases b <;> simp_all
    rw [this]

theorem even_wrong_type (v : Value N) (h : v.isNumber = false) :
    even [v] = .error .wrongParameterType ∧ odd [v] = .error .wrongParameterType := by
  cases v <;> first | exact ⟨rfl, rfl⟩ | simp [Value.isNumber] at h
theorem even_wrong_count (ps : List (Value N)) (h : ps.length ≠ 1) :
    even ps = .error (.wrongParameterCount 1) ∧ odd ps = .error (.wrongParameterCount 1) := by
  match ps, h with
  | [], _ => exact ⟨rfl, rfl⟩
  | a :: _ :: _, _ => cases a <;> exact ⟨rfl, rfl⟩
  | [_], h => simp at h

/-- `int_to_hex(x)` is the upper-case hexadecimal numeral of `trunc(x) as i64` when that is non-negative -/
theorem int_to_hex_nonneg (x : N) (h : 0 ≤ NumX.toI64 (NumOps.trunc x)) :
    intToHex [.num x] = .ok (.str (upperHexDigits (NumX.toI64 (NumOps.trunc x)).toNat)) := by
  simp only [intToHex, hexUpperI64]; rw [if_neg (by omega)]

/-- negative values print as 64-bit two's complement (Rust `{:X}` of an `i64`) -/
theorem int_to_hex_neg (x : N) (h : NumX.toI64 (NumOps.trunc x) < 0) :
    intToHex [.num x] = .ok (.str (upperHexDigits (2^64 + NumX.toI64 (NumOps.trunc x)).toNat)) := by
  simp only [intToHex, hexUpperI64]; rw [if_pos h]

/-- what `int_to_hex_spec` needs from the number type: exactly representable integers are fixed by `trunc`
    and survive `as i64`.  True of IEEE doubles for |n| ≤ 2^53 (SlacProofs.F64Cast). -/
class LawfulI64 (N : Type) [NumX N] : Prop where
  trunc_ofInt : ∀ n : Int, n.natAbs ≤ 2^53 → NumOps.trunc (NumX.ofInt n : N) = NumX.ofInt n
  toI64_ofInt : ∀ n : Int, n.natAbs ≤ 2^53 → NumX.toI64 (NumX.ofInt n : N) = n

theorem int_to_hex_spec [LawfulI64 N] (n : Int) (h0 : 0 ≤ n) (h : n ≤ 2^53) :
    intToHex [.num (NumX.ofInt n : N)] = .ok (.str (upperHexDigits n.toNat)) := by
  have hn : n.natAbs ≤ 2^53 := by omega
  rw [int_to_hex_nonneg]
  · rw [LawfulI64.trunc_ofInt n hn, LawfulI64.toI64_ofInt n hn]
  · rw [LawfulI64.trunc_ofInt n hn, LawfulI64.toI64_ofInt n hn]; exact h0

/-- and `upperHexDigits` is the hexadecimal numeral: evaluates back to n, digits 0-9A-F, no leading zero -/
theorem upperHexDigits_is_hex (n : Nat) :
    MathHex.evalHex (upperHexDigits n) = n ∧
    (∀ c ∈ upperHexDigits n, MathHex.isUpperHex c = true) ∧
    (0 < n → (upperHexDigits n).head? ≠ some '0') ∧
    upperHexDigits n ≠ [] :=
  ⟨MathHex.evalHex_upperHexDigits n, MathHex.upperHexDigits_all n, MathHex.upperHexDigits_head n,
   MathHex.upperHexDigits_ne_nil n⟩

theorem int_to_hex_wrong_type (v : Value N) (h : v.isNumber = false) : intToHex [v] = .error .wrongParameterType := by
  cases v <;> first | rfl | simp [Value.isNumber] at h
theorem int_to_hex_wrong_count (ps : List (Value N)) (h : ps.length ≠ 1) :
    intToHex ps = .error (.wrongParameterCount 1) := by
  match ps, h with
  | [], _ => rfl
  | a :: _ :: _, _ => cases a <;> rfl
  | [_], h => simp at h

section FloatFacts
open F64

/-- the two ASCII facts hold for IEEE doubles (`F64.ascii_table`: evaluated for each of 0..127) -/
instance : LawfulAscii Float where
  inAscii_ofNat n h := (F64.ascii_table n h).1
  toU32_ofNat n h := (F64.ascii_table n h).2

/-- exactly representable integers are fixed by `trunc` and survive `as i64` -/
instance : LawfulI64 Float where
  trunc_ofInt := F64.trunc_ofInt
  toI64_ofInt := F64.toI64_ofInt

/-- chr and ord are mutually inverse on the whole ASCII range, for the driver's numbers -/
theorem ord_chr_float (n : Nat) (h : n ≤ 127) :
    chr [.num (F64.ofNat n)] = .ok (.str [Char.ofNat n]) ∧
    ord [(.str [Char.ofNat n] : Value Float)] = .ok (.num (F64.ofNat n)) := ord_chr (N := Float) n h
theorem chr_ord_float (c : Char) (h : c.toNat ≤ 127) :
    ord [(.str [c] : Value Float)] = .ok (.num (F64.ofNat c.toNat)) ∧
    chr [.num (F64.ofNat c.toNat)] = .ok (.str [c]) := chr_ord (N := Float) c h

example : chr [(.num 65 : Value Float)] = .ok (.str ['A']) ∧ ord [(.str ['A'] : Value Float)] = .ok (.num 65) :=
  ord_chr_float 65 (by decide)
example : ord [(.str ['é'] : Value Float)] = .error (custom "character is out of ASCII range") :=
  (ord_rejects (N := Float)).1 'é' (by decide)
example : ord [(.str ['a','b'] : Value Float)] = .error (custom "string is too long") := rfl

/-- whatever `chr` accepts, its result is a single ASCII character -/
theorem chr_result_ascii (x : Float) (s : Str) (h : chr [.num x] = .ok (.str s)) :
    ∃ c : Char, s = [c] ∧ c.toNat ≤ 127 ∧ NumX.inAscii x = true := by
  cases hx : NumX.inAscii x with
  | false => rw [chr_rejects x hx] at h; cases h
  | true =>
    rw [chr_accepts x hx] at h
    injection h with h; injection h with h
    refine ⟨Char.ofNat (NumX.toU32 x), h.symm, ?_, rfl⟩
    rw [toNat_char_ofNat _ (F64.toU32_le_of_inAscii x hx)]
    exact F64.toU32_le_of_inAscii x hx

/-- OBSERVATION about "reject everything else": fractions inside 0.0..=127.0 are NOT rejected; they are
    truncated (`ordinal as u32`): chr(65.5) = "A", chr(0.99) = "\0", chr(-0.0) = "\0"; 127.5 and -0.5 are rejected. -/
theorem chr_accepts_fractions :
    chr [(.num 65.5 : Value Float)] = .ok (.str ['A']) ∧
    chr [(.num 0.99 : Value Float)] = .ok (.str [Char.ofNat 0]) ∧
    chr [(.num 127.5 : Value Float)] = .error (custom "number is out of ASCII range") ∧
    chr [(.num (-0.5) : Value Float)] = .error (custom "number is out of ASCII range") ∧
    chr [(.num F64.nan : Value Float)] = .error (custom "number is out of ASCII range") := by
  obtain ⟨h1, h2, h3, h4, _, h6, _, _, h9, h10⟩ := F64Tests.chr_samples
  refine ⟨?_, ?_, chr_rejects _ h3, chr_rejects _ h4, chr_rejects _ h6⟩
  · rw [chr_accepts _ h1, h2]
  · rw [chr_accepts _ h9, h10]

/-- `even(n)` holds iff n is divisible by 2, `odd(n)` iff not, for every integer of either sign that lies in the
    range |n| ≤ 2^53 where doubles represent all integers. -/
theorem even_iff_divisible (n : Int) (h : n.natAbs ≤ 2^53) :
    even [(.num (F64.ofInt n) : Value Float)] = .ok (.bool (decide (n % 2 = 0))) ∧
    odd [(.num (F64.ofInt n) : Value Float)] = .ok (.bool (decide (n % 2 ≠ 0))) := by
  have := F64.isEven_ofInt n h
  constructor
  · simp only [even, this]
  · simp only [odd, this]
    by_cases h2 : n % 2 = 0 <;> simp [h2]

example : even [(.num (F64.ofInt (-7)) : Value Float)] = .ok (.bool false) ∧
    odd [(.num (F64.ofInt (-7)) : Value Float)] = .ok (.bool true) := even_iff_divisible (-7) (by decide)
example : even [(.num (F64.ofInt (-(2^53))) : Value Float)] = .ok (.bool true) :=
  (even_iff_divisible (-(2^53)) (by decide)).1

/-- the same for EVERY integer-valued double — any magnitude (beyond 2^53 all doubles are even integers), either sign,
    ±0: `even(x)` iff the integer x represents (`truncToInt x`, exact) is divisible by 2, `odd(x)` iff not. -/
theorem even_of_integer_valued (x : Float) (hf : F64.isFinite x = true) (hint : NumOps.trunc x = x) :
    even [(.num x : Value Float)] = .ok (.bool (decide (F64.truncToInt x % 2 = 0))) ∧
    odd [(.num x : Value Float)] = .ok (.bool (decide (F64.truncToInt x % 2 ≠ 0))) := by
  have := F64.isEven_of_integer x hf hint
  constructor
  · simp only [even, this]
  · simp only [odd, this]
    by_cases h2 : F64.truncToInt x % 2 = 0 <;> simp [h2]

example : even [(.num (F64.ofInt (2^60 + 2^8)) : Value Float)] = .ok (.bool true) := by
  have h := (even_of_integer_valued (F64.ofInt (2^60 + 2^8)) (by decide +kernel) (by decide +kernel)).1
  rw [h]; exact congrArg (fun b => Except.ok (Value.bool b)) (by decide +kernel)

/-- beyond the integers (tests): `floor` is applied first, so even(-2.5) is false (floor -3); every double ≥ 2^53
    is even; NaN and ±inf are "odd" (`NaN == 0.0` is false) -/
theorem even_beyond_integers :
    isEven (2.5 : Float) = true ∧ isEven (-2.5 : Float) = false ∧ isEven (1e300 : Float) = true ∧
    isEven F64.nan = false ∧ isEven F64.inf = false :=
  ⟨F64Tests.even_samples.1, F64Tests.even_samples.2.1, F64Tests.even_samples.2.2.1,
   F64Tests.even_samples.2.2.2.2.2.2.1, F64Tests.even_samples.2.2.2.2.2.2.2.1⟩

/-- `int_to_hex(n)` is the upper-case hexadecimal numeral of n, for every integer 0 ≤ n ≤ 2^53 -/
theorem int_to_hex_float (n : Int) (h0 : 0 ≤ n) (h : n ≤ 2^53) :
    intToHex [(.num (F64.ofInt n) : Value Float)] = .ok (.str (upperHexDigits n.toNat)) :=
  int_to_hex_spec (N := Float) n h0 h

example : intToHex [(.num (F64.ofInt 3735928559) : Value Float)] = .ok (.str ['D','E','A','D','B','E','E','F']) := by
  rw [int_to_hex_float 3735928559 (by decide) (by decide)]
  exact congrArg (fun s => Except.ok (Value.str s)) (by decide)

theorem toI64_trunc_in_range (x : Float) (hf : F64.isFinite x = true)
    (h1 : -(2^63) ≤ F64.truncToInt x) (h2 : F64.truncToInt x < 2^63) :
    NumX.toI64 (NumOps.trunc x) = F64.truncToInt x := by
  have h := F64.toI64_trunc x hf
  rwa [if_neg (by omega), if_neg (by omega)] at h

/-- for EVERY finite double with 0 ≤ ⌊x⌋ < 2^63 (fractions, values beyond 2^53 included): `int_to_hex(x)` is the
    upper-case hexadecimal numeral of the exact integer part of x ("the truncated non-negative value") -/
theorem int_to_hex_of_value (x : Float) (hf : F64.isFinite x = true)
    (h0 : 0 ≤ F64.truncToInt x) (h63 : F64.truncToInt x < 2^63) :
    intToHex [(.num x : Value Float)] = .ok (.str (upperHexDigits (F64.truncToInt x).toNat)) := by
  have h' := toI64_trunc_in_range x hf (by omega) h63
  rw [int_to_hex_nonneg x (by rw [h']; exact h0), h']

example : intToHex [(.num 3735928559.1234 : Value Float)] = .ok (.str ['D','E','A','D','B','E','E','F']) := by
  rw [int_to_hex_of_value _ (by decide +kernel) (by decide +kernel) (by decide +kernel)]
  exact congrArg (fun s => Except.ok (Value.str s)) (by decide +kernel)

/-- negative finite values down to -2^63: the two's complement of the integer part -/
theorem int_to_hex_of_negative (x : Float) (hf : F64.isFinite x = true)
    (h0 : F64.truncToInt x < 0) (h63 : -(2^63) ≤ F64.truncToInt x) :
    intToHex [(.num x : Value Float)] = .ok (.str (upperHexDigits (2^64 + F64.truncToInt x).toNat)) := by
  have h' := toI64_trunc_in_range x hf h63 (by omega)
  rw [int_to_hex_neg x (by rw [h']; exact h0), h']

/-- tests: fractions are truncated first; negative values print as two's complement; NaN ↦ "0";
    out-of-range values saturate (`as i64`) -/
theorem int_to_hex_tests :
    intToHex [(.num 3735928559.1234 : Value Float)] = .ok (.str ['D','E','A','D','B','E','E','F']) ∧
    intToHex [(.num (-1) : Value Float)] = .ok (.str (List.replicate 16 'F')) ∧
    intToHex [(.num F64.nan : Value Float)] = .ok (.str ['0']) ∧
    intToHex [(.num 1e300 : Value Float)] = .ok (.str ('7' :: List.replicate 15 'F')) := by
  obtain ⟨h1, h2, h3, h4, h5, h6, _⟩ := F64Tests.hex_samples
  refine ⟨?_, ?_, ?_, ?_⟩
  · rw [int_to_hex_nonneg _ (by have := h1; omega), h1]; exact congrArg _ (congrArg _ h2)
  · rw [int_to_hex_neg _ (by have := h3; omega), h3]; exact congrArg _ (congrArg _ h4)
  · rw [int_to_hex_nonneg _ (by have := h5; omega)]
    exact congrArg (fun s => Except.ok (Value.str s)) (by rw [h5]; decide)
  · rw [int_to_hex_nonneg _ (by have := h6; omega)]
    exact congrArg (fun s => Except.ok (Value.str s)) (by rw [h6]; decide)

theorem trunc_idempotent (x : Float) : NumOps.trunc (NumOps.trunc x) = NumOps.trunc x := F64.trunc_idempotent x
/-- `trunc` keeps the sign bit (so trunc(-0.3) = -0.0) -/
theorem trunc_keeps_sign (x : Float) : F64.signBit (NumOps.trunc x) = F64.signBit x := F64.trunc_signBit x
/-- `|trunc x| ≤ |x|`: on the magnitude bits, and in the sign-magnitude key order trunc x lies between 0 and x -/
theorem trunc_toward_zero (x : Float) :
    F64.magN (F64.bits (NumOps.trunc x)) ≤ F64.magN (F64.bits x) ∧
    (0 ≤ F64.keyN (F64.bits x) → 0 ≤ F64.keyN (F64.bits (NumOps.trunc x)) ∧
      F64.keyN (F64.bits (NumOps.trunc x)) ≤ F64.keyN (F64.bits x)) ∧
    (F64.keyN (F64.bits x) ≤ 0 → F64.keyN (F64.bits x) ≤ F64.keyN (F64.bits (NumOps.trunc x)) ∧
      F64.keyN (F64.bits (NumOps.trunc x)) ≤ 0) :=
  ⟨F64.trunc_mag_le x, (F64.trunc_key_between x).1, (F64.trunc_key_between x).2⟩
/-- `trunc` of an exactly representable integer is that integer, and `int(n) = n` -/
theorem trunc_of_integer (n : Int) (h : n.natAbs ≤ 2^53) :
    int [(.num (F64.ofInt n) : Value Float)] = .ok (.num (F64.ofInt n)) := by
  rw [int_num]; exact congrArg _ (congrArg _ (F64.trunc_ofInt n h))

example : (NumOps.trunc (2.75 : Float) = 2 ∧ NumX.fract (2.75 : Float) = 0.75) ∧
    (NumOps.trunc (-2.75 : Float) = -2 ∧ NumX.fract (-2.75 : Float) = -0.75) :=
  ⟨⟨F64Tests.trunc_frac_samples.1, F64Tests.trunc_frac_samples.2.1⟩,
   ⟨F64Tests.trunc_frac_samples.2.2.1, F64Tests.trunc_frac_samples.2.2.2.1⟩⟩

/-- `frac` is `x - trunc x` (Rust `f64::fract`) -/
theorem frac_def (x : Float) : NumX.fract x = x - NumOps.trunc x := rfl

/-- trunc(x) + frac(x) = x, bit for bit, for every finite x other than -0.0; both the subtraction and the addition
    are exact in IEEE arithmetic (proved from core's `UnpackedFloat.add`/`sub`/`round`). -/
theorem trunc_add_frac (x : Float) (hf : F64.isFinite x = true) (hnz : F64.bits x ≠ 2^63) :
    NumOps.trunc x + NumX.fract x = x := F64.trunc_add_fract x hf hnz
/-- for -0.0 the sum is +0.0 — equal under IEEE `==` — and in that sense the identity holds for every finite x -/
theorem trunc_add_frac_ieee (x : Float) (hf : F64.isFinite x = true) :
    NumOps.beq (NumOps.trunc x + NumX.fract x) x = true := F64.trunc_add_fract_beq x hf
theorem trunc_add_frac_neg_zero :
    NumOps.trunc (Float.ofBits 0x8000000000000000) + NumX.fract (Float.ofBits 0x8000000000000000) = Float.ofBits 0 :=
  F64.trunc_add_fract_neg_zero.1
/-- not for infinities: frac(±inf) = NaN -/
theorem frac_inf_is_nan : F64.isNaN (NumX.fract F64.inf) = true ∧ F64.isNaN (NumX.fract (-F64.inf)) = true :=
  F64.fract_inf

example : NumOps.trunc (0.1 : Float) + NumX.fract (0.1 : Float) = 0.1 := F64Tests.trunc_frac_samples.2.2.2.2.1

/-- for every finite non-zero x = ± m·2^e with e < 0 (that is |x| < 2^52), with q = m / 2^-e (the integer part of
    |x|) and f = m mod 2^-e (the fraction, in units of 2^e):  round x = ±(q+1) if f/2^-e ≥ 1/2, else trunc x. -/
theorem round_half_away (x : Float) (hf : F64.isFinite x = true) (hz : F64.isZero x = false)
    (he : (F64.decode x).2 < 0) :
    NumX.round x =
      if 2 * ((F64.decode x).1 % 2^(-(F64.decode x).2).toNat) ≥ 2^(-(F64.decode x).2).toNat
      then F64.ofInt (if F64.signBit x then -(((F64.decode x).1 / 2^(-(F64.decode x).2).toNat + 1 : Nat) : Int)
                      else (((F64.decode x).1 / 2^(-(F64.decode x).2).toNat + 1 : Nat) : Int))
      else NumOps.trunc x := F64.round_half_away x hf hz he

/-- that integer is the nearest one to m/2^k, and an exact tie goes up in magnitude (away from zero) -/
theorem round_is_nearest (m k q f R : Nat) (hq : q = m / 2^k) (hf : f = m % 2^k)
    (hR : R = if 2 * f ≥ 2^k then q + 1 else q) :
    (2 * (R * 2^k - m) ≤ 2^k ∧ 2 * (m - R * 2^k) ≤ 2^k) ∧ (2 * f = 2^k → R = q + 1) ∧
    (∀ R', 2 * (R' * 2^k - m) < 2^k → 2 * (m - R' * 2^k) < 2^k → R' = R) :=
  F64.round_nearest_arith m k q f R hq hf hR

/-- weak form, for every x at once: the result is x itself, `trunc x`, or `trunc x ± 1` with the sign of x -/
theorem round_cases (x : Float) :
    NumX.round x = x ∨ NumX.round x = NumOps.trunc x ∨
    (F64.signBit x = false ∧ NumX.round x = NumOps.trunc x + 1) ∨
    (F64.signBit x = true ∧ NumX.round x = NumOps.trunc x - 1) := F64.round_cases x

/-- everything else is returned unchanged: |x| ≥ 2^52 (already integral), NaN, ±inf, ±0 -/
theorem round_identity (x : Float) (h : F64.expBits x ≥ 1075) : NumX.round x = x := F64.round_big x h
theorem round_zero : NumX.round (Float.ofBits 0) = Float.ofBits 0 ∧
    NumX.round (Float.ofBits 0x8000000000000000) = Float.ofBits 0x8000000000000000 := F64.round_zero

/-- and `trunc x` there is the integer float ±q (so the result of `round` is always an integer float) -/
theorem trunc_is_integer_part (x : Float) (hf : F64.isFinite x = true) (hz : F64.isZero x = false)
    (he1 : -52 ≤ (F64.decode x).2) (he2 : (F64.decode x).2 < 0) :
    NumOps.trunc x = F64.ofInt (if F64.signBit x then -(((F64.decode x).1 / 2^(-(F64.decode x).2).toNat : Nat) : Int)
                                else (((F64.decode x).1 / 2^(-(F64.decode x).2).toNat : Nat) : Int)) := by
  obtain ⟨s, m, e, h, rfl⟩ := F64.exists_mkF x hf hz
  rw [F64.decode_mkF s m e h] at he1 he2 ⊢
  simp only [] at he1 he2 ⊢
  rw [F64.signBit_mkF s m e h]
  show F64.trunc _ = _
  rw [(F64.trunc_mkF_mid_ofInt s m e h he1 he2).1]
  cases s <;> rfl

/-- the tie cases (tests): 0.5 ↦ 1, 1.5 ↦ 2, 2.5 ↦ 3, -0.5 ↦ -1, -2.5 ↦ -3; the largest double below 0.5 ↦ 0 -/
theorem round_ties :
    NumX.round (0.5 : Float) = 1 ∧ NumX.round (1.5 : Float) = 2 ∧ NumX.round (2.5 : Float) = 3 ∧
    NumX.round (-0.5 : Float) = -1 ∧ NumX.round (-2.5 : Float) = -3 ∧
    NumX.round (0.49999999999999994 : Float) = Float.ofBits 0 :=
  ⟨F64Tests.round_ties.1, F64Tests.round_ties.2.1, F64Tests.round_ties.2.2.1, F64Tests.round_ties.2.2.2.1,
   F64Tests.round_ties.2.2.2.2.1, F64Tests.round_ties.2.2.2.2.2.1⟩

/-- **float(str(x)) = x for every number** (the driver's doubles; bit for bit — the model's single NaN included).
    `str` prints the shortest decimal that reads back (Rust `Display`), `float` parses it (Rust `FromStr`).
    Proof (SlacProofs.F64Parse, F64Rwa, F64Sci, F64Near, F64Search), all from core's logical float model:
    * structural half: whatever digits c and decimal exponent p `display` emits — integer part, optional fraction,
      leading "0.", trailing zeros, sign — `parse` reads the same (c, p) back (`F64.parse_body`; a text without
      exponent part never reaches the parser's clamps); "NaN", "inf", "-inf", "0", "-0" by evaluation;
    * number-theoretic half: all four code paths of `Float.ofScientific` round the decimal VALUE
      (`F64.sci_false`, `F64.sci_true`: both are `F64.rnd` of it); a value within relative 2^-54 of a double rounds to it
      (`F64.rwaFrac_near`); with 17 digits the nearer candidate is that close because 10^16 > 2^53 (`F64.step17_ok`),
      so the shortest-digits search succeeds within its fuel and its result reads back (`F64.displaySearchOk`). -/
theorem float_str (x : Float) :
    float [(.str (NumX.display x) : Value Float)] = .ok (.num x) ∧
    (strF [(.num x : Value Float)]).map (fun r => r.bind fun s => float [s]) = some (.ok (.num x)) := by
  have hp : NumOps.parse (NumX.display x) = some x := F64.parse_display x
  exact ⟨by rw [float_of_string, hp], float_str_of_roundtrip x hp⟩

/-- the digits `display` settles on read back as |x|, for every finite non-zero double -/
theorem display_search_ok (x : Float) (hf : F64.isFinite x = true) (hz : F64.isZero x = false) :
    F64.DisplaySearchOk x := F64.displaySearchOk x hf hz

/-- the full round trip on boundary values (instances of `float_str`): ±0, ±1, ±0.1, the smallest subnormal 5e-324,
    the largest double 1.7976931348623157e308, 2^53+1 (↦ 2^53), 2^53+2, 0.30000000000000004, 0.3, 1e21, 1e22, 1e23,
    1e-7, the smallest normal, 1e300, ±inf, NaN, … (`F64Tests.samples`) -/
theorem float_str_tests : ∀ x ∈ F64Tests.samples, float [(.str (NumX.display x) : Value Float)] = .ok (.num x) := by
  intro x hx
  rw [float_of_string]
  have : NumOps.parse (NumX.display x) = some x := F64.parse_display x
  rw [this]

example : float [(.str ['0','.','1'] : Value Float)] = .ok (.num 0.1) ∧ NumX.display (0.1 : Float) = ['0','.','1'] := by
  refine ⟨?_, F64Tests.display_texts.1⟩
  have := float_str_tests 0.1 (.tail _ (.tail _ (.tail _ (.tail _ (.head _)))))
  rwa [show NumX.display (0.1 : Float) = ['0','.','1'] from F64Tests.display_texts.1] at this

end FloatFacts

end Slac.C17
