/-
  C09 — every standard-library function is total on arbitrary arguments.
  PARTIAL by nature.  The models of the builtins (SlacModel/Stdlib, StdOrder, Time, Regex) are total Lean functions
  into `Except NativeError (Value N)`: they have no panic outcome, so "never panics" is a claim about the CODE that
  rests on the model/code tie — the `call` stream runs every builtin on generated argument lists in worker
  processes in all four builds (overflow checks on/off x string offset 1/0).  What Lean proves:
  SLAC's own index arithmetic — the one place where the code could underflow — is total and exact in both
  offset configurations; and, on the table regenerated from the running crate, no builtin panicked on any tuple of
  argument kinds of length <= 5.  Panics inside third-party code (chrono, slice::sort, regex-lite), memory and time
  are visible only to the crash-observing run.
-/
import SlacProofs.Tables
import SlacModel.Stdlib
set_option autoImplicit false
namespace Slac.C09
open Slac.Stdlib
variable {N : Type} [NumX N]

/-- `get_index`: non-negative (and not NaN) ⇒ the saturating cast; otherwise IndexNegative. -/
theorem getIndex_spec (x : N) :
    getIndex x = if NumX.ge0 x then .ok (NumX.toUsize x) else .error .indexNegative := rfl

/-- `get_string_index` never underflows: position p ≥ offset ⇒ index p − offset; a position below the offset
    (only position 0 of a one-based string) ⇒ IndexOutOfBounds, in both configurations. -/
theorem getStringIndex_spec (off : Nat) (x : N) (h : NumX.ge0 x = true) :
    getStringIndex off x = if off ≤ NumX.toUsize x then .ok (NumX.toUsize x - off) else .error (.indexOutOfBounds (NumX.toUsize x)) := by
  simp [getStringIndex, getIndex, h]

theorem getStringIndex_negative (off : Nat) (x : N) (h : NumX.ge0 x = false) :
    getStringIndex off x = .error .indexNegative := by
  simp [getStringIndex, getIndex, h]

/-- with the zero-based feature every non-negative position is an index -/
theorem getStringIndex_zero_based (x : N) (h : NumX.ge0 x = true) : getStringIndex 0 x = .ok (NumX.toUsize x) := by
  simp [getStringIndex, getIndex, h]

/-- the result of `get_string_index`, when there is one, is the position minus the offset: it can never wrap around -/
theorem getStringIndex_le (off : Nat) (x : N) (i : Nat) (h : getStringIndex off x = .ok i) : i + off = NumX.toUsize x := by
  cases hx : NumX.ge0 x with
  | false => rw [getStringIndex_negative off x hx] at h; cases h
  | true =>
    rw [getStringIndex_spec off x hx] at h
    split at h
    · cases h; omega
    · cases h

/-- `at` on a string: an index is only ever used through `s[idx]?` — out of range is an error value. -/
theorem at_total (off : Nat) (ps : List (Value N)) : ∃ r, at_ off ps = r := ⟨_, rfl⟩

/-- `insert` checks `idx ≤ length` before splicing (the Rust `Vec::insert` would panic beyond the length). -/
theorem insert_array_checked (vs : List (Value N)) (el : Value N) (x : N) (h : NumX.ge0 x = true)
    (hbig : vs.length < NumX.toUsize x) :
    insert 1 [.arr vs, el, .num x] = .error (.indexOutOfBounds (NumX.toUsize x)) := by
  simp [Stdlib.insert, getIndex, h, hbig]

/-- On the table regenerated from the running crate: no builtin panicked on any of the 1365 kind tuples of length
    ≤ 5 (8 combinations of representative values each). -/
theorem dispatch_no_panic :
    Tables.rowsOk (fun _ d => (List.range Tables.nTuples).all fun t => !Tables.panicFlag d t) = true :=
  Tables.dispatch_no_panic

end Slac.C09
