/-
  C16 for the driver's number type — part B of SlacProps.C16 ("through numbers") specialised to `N = Float`
  (IEEE binary64) with NO hypothesis about numbers: `instance : LawfulTimeNum Float` is proved in
  SlacProofs.F64Time.  In particular the rounding fact `decode_encode_ms`
      (round ((T as f64 / 86400000.0) * 86400000.0)) as i64 = T      for every |T| ≤ 2^48
  is a theorem about core's logical float model: `/` and `*` are shown to satisfy the standard model
  |fl q − q| ≤ 2^-53·|q| (SlacProofs.F64Arith: `div_std`, `mul_std`), the two roundings move T by < 1/2
  (SlacProofs.TimeReal), and `f64::round` picks the nearest integer (SlacProofs.F64RoundHalf).
  Apart from the first three, every theorem here is the generic theorem of the same name (without `_float`) at `N := Float`.
-/
import SlacProps.C16
import SlacProofs.F64Time
set_option autoImplicit false
namespace Slac.C16
open Slac.Time Slac.Stdlib

theorem lawfulTimeNum_float : LawfulTimeNum Float := inferInstance

/-- the rounding fact itself, on binary64: divide by the day length, multiply back, round, cast -/
theorem decode_encode_ms_float (T : Int) (h1 : -(281474976710656) ≤ T) (h2 : T ≤ 281474976710656) :
    F64.toI64 (F64.round ((F64.ofInt T / F64.ofNat 86400000) * F64.ofNat 86400000)) = T :=
  F64.decode_encode_ms T h1 h2

/-- the standard model of floating-point arithmetic holds for core `Float` division and multiplication
    (finite non-zero operands, exact result of magnitude in [2^-1022, 2^1023)); `F64.toQ` is the exact rational
    value of a finite double -/
theorem float_std_model (x y : Float) (hx : F64.isFinite x = true) (hx0 : F64.isZero x = false)
    (hy : F64.isFinite y = true) (hy0 : F64.isZero y = false) :
    ((2:ℚ)^(-1022:ℤ) ≤ |F64.toQ x / F64.toQ y| → |F64.toQ x / F64.toQ y| < (2:ℚ)^(1023:ℤ) →
      F64.isFinite (x / y) = true ∧ |F64.toQ (x / y) - F64.toQ x / F64.toQ y| ≤ 1 / 2^53 * |F64.toQ x / F64.toQ y|) ∧
    ((2:ℚ)^(-1022:ℤ) ≤ |F64.toQ x * F64.toQ y| → |F64.toQ x * F64.toQ y| < (2:ℚ)^(1023:ℤ) →
      F64.isFinite (x * y) = true ∧ |F64.toQ (x * y) - F64.toQ x * F64.toQ y| ≤ 1 / 2^53 * |F64.toQ x * F64.toQ y|) :=
  ⟨fun h1 h2 => ⟨(F64.div_std x y hx hx0 hy hy0 h1 h2).1, (F64.div_std x y hx hx0 hy hy0 h1 h2).2.2⟩,
   fun h1 h2 => ⟨(F64.mul_std x y hx hx0 hy hy0 h1 h2).1, (F64.mul_std x y hx hx0 hy hy0 h1 h2).2.2⟩⟩

/-! ### B6. decode ∘ encode and the components (with B8, B9 on stamps) -/

theorem decode_encode_float (y : Int) (m d ms : Nat) (hv : validDate y m d = true) (hy1 : 1 ≤ y) (hy2 : y ≤ 9999)
    (hms : ms < 86400000) :
    decode (encode ⟨daysFromCivil y m d, ms⟩ : Value Float) = .ok ⟨daysFromCivil y m d, ms⟩ :=
  decode_encode y m d ms hv hy1 hy2 hms

/-- general form: every date-time with |total milliseconds| ≤ 2^48 -/
theorem decode_encode_enc_float (t : DT) (h : t.Enc) : decode (encode t : Value Float) = .ok t :=
  decode_encode_enc t h

section stamps
variable {y : Int} {m d h mi s ml : Nat}

theorem year_spec_float (st : Stamp y m d h mi s ml) :
    year [(encode (stampDT y m d h mi s ml) : Value Float)] = .ok (.num (NumX.ofInt y)) := year_spec st
theorem month_spec_float (st : Stamp y m d h mi s ml) :
    month [(encode (stampDT y m d h mi s ml) : Value Float)] = .ok (.num (NumX.ofNat m)) := month_spec st
theorem day_spec_float (st : Stamp y m d h mi s ml) :
    day [(encode (stampDT y m d h mi s ml) : Value Float)] = .ok (.num (NumX.ofNat d)) := day_spec st
theorem hour_spec_float (st : Stamp y m d h mi s ml) :
    hour [(encode (stampDT y m d h mi s ml) : Value Float)] = .ok (.num (NumX.ofNat h)) := hour_spec st
theorem minute_spec_float (st : Stamp y m d h mi s ml) :
    minute [(encode (stampDT y m d h mi s ml) : Value Float)] = .ok (.num (NumX.ofNat mi)) := minute_spec st
theorem second_spec_float (st : Stamp y m d h mi s ml) :
    second [(encode (stampDT y m d h mi s ml) : Value Float)] = .ok (.num (NumX.ofNat s)) := second_spec st
theorem millisecond_spec_float (st : Stamp y m d h mi s ml) :
    millisecond [(encode (stampDT y m d h mi s ml) : Value Float)] = .ok (.num (NumX.ofNat ml)) :=
  millisecond_spec st
theorem dayOfWeek_spec_float (st : Stamp y m d h mi s ml) :
    dayOfWeek [(encode (stampDT y m d h mi s ml) : Value Float)] =
      .ok (.num (NumX.ofNat (weekday (daysFromCivil y m d)))) := dayOfWeek_spec st
theorem isLeapYear_spec_float (st : Stamp y m d h mi s ml) :
    isLeapYear [(encode (stampDT y m d h mi s ml) : Value Float)] = .ok (.bool (isLeap y)) := isLeapYear_spec st

theorem dateToString_spec_float (st : Stamp y m d h mi s ml) :
    dateToString [.str fmtDate, (encode (stampDT y m d h mi s ml) : Value Float)] = some (.ok (.str (dateText y m d))) ∧
    dateToString [.str fmtTime, (encode (stampDT y m d h mi s ml) : Value Float)] = some (.ok (.str (timeText h mi s))) ∧
    dateToString [.str fmtDatetime, (encode (stampDT y m d h mi s ml) : Value Float)] =
      some (.ok (.str (datetimeText y m d h mi s))) := dateToString_spec st

theorem string_roundtrip_float (st : Stamp y m d h mi s 0) (txt : Str)
    (hp : dateToString [.str fmtDatetime, (encode (stampDT y m d h mi s 0) : Value Float)] = some (.ok (.str txt))) :
    stringToDatetime [(.str txt : Value Float)] = some (.ok (encode (stampDT y m d h mi s 0))) :=
  string_roundtrip st txt hp

theorem incMonth_stamp_float (st : Stamp y m d h mi s ml) (k : Int) (hk1 : -3000000 ≤ k) (hk2 : k ≤ 3000000) :
    ∃ t2 : DT, incMonth [(encode (stampDT y m d h mi s ml) : Value Float), .num (NumX.ofInt k)] = .ok (encode t2) ∧
      t2.ms = ((h * 60 + mi) * 60 + s) * 1000 + ml ∧
      t2.year * 12 + ((t2.month : Int) - 1) = y * 12 + ((m : Int) - 1) + k ∧
      t2.day = min d (daysInMonth t2.year t2.month) := incMonth_stamp st k hk1 hk2
end stamps

/-! ### B7. encode_date, encode_time -/

theorem encodeDate_spec_float (y : Int) (m d : Nat) (hv : validDate y m d = true) :
    encodeDate [(.num (NumX.ofInt y) : Value Float), .num (NumX.ofNat m), .num (NumX.ofNat d)] =
      .ok (encode ⟨daysFromCivil y m d, 0⟩) := encodeDate_spec y m d hv

theorem encodeDate_rejects_float (y : Int) (m d : Nat) (hy1 : -2147483648 ≤ y) (hy2 : y < 2147483648)
    (hm : m < 4294967296) (hd : d < 4294967296) (hv : validDate y m d = false) :
    encodeDate [(.num (NumX.ofInt y) : Value Float), .num (NumX.ofNat m), .num (NumX.ofNat d)] =
      .error (custom "invalid date parameters") := encodeDate_rejects y m d hy1 hy2 hm hd hv

theorem encodeTime_spec_float (h mi s ml : Nat) (hh : h < 24) (hmi : mi < 60) (hs : s < 60) (hml : ml < 1000) :
    encodeTime [(.num (NumX.ofNat h) : Value Float), .num (NumX.ofNat mi), .num (NumX.ofNat s), .num (NumX.ofNat ml)] =
      .ok (encode ⟨0, ((h * 60 + mi) * 60 + s) * 1000 + ml⟩) := encodeTime_spec h mi s ml hh hmi hs hml

theorem encodeTime_spec3_float (h mi s : Nat) (hh : h < 24) (hmi : mi < 60) (hs : s < 60) :
    encodeTime [(.num (NumX.ofNat h) : Value Float), .num (NumX.ofNat mi), .num (NumX.ofNat s)] =
      .ok (encode ⟨0, ((h * 60 + mi) * 60 + s) * 1000⟩) := encodeTime_spec3 h mi s hh hmi hs

theorem encodeTime_rejects_float (h mi s ml : Nat) (hh : h < 4294967296) (hmi : mi < 4294967296)
    (hs : s < 4294967296) (hml : ml < 4294967296) (hbad : 24 ≤ h ∨ 60 ≤ mi ∨ 60 ≤ s) :
    encodeTime [(.num (NumX.ofNat h) : Value Float), .num (NumX.ofNat mi), .num (NumX.ofNat s), .num (NumX.ofNat ml)] =
      .error (custom "invalid time parameters") := encodeTime_rejects h mi s ml hh hmi hs hml hbad

theorem encodeTime_rejects_negative_float (h mi s ml : Int)
    (bh : -4294967296 ≤ h ∧ h ≤ 4294967296) (bmi : -4294967296 ≤ mi ∧ mi ≤ 4294967296)
    (bs : -4294967296 ≤ s ∧ s ≤ 4294967296) (bml : -4294967296 ≤ ml ∧ ml ≤ 4294967296)
    (hneg : h < 0 ∨ mi < 0 ∨ s < 0 ∨ ml < 0) :
    encodeTime [(.num (NumX.ofInt h) : Value Float), .num (NumX.ofInt mi), .num (NumX.ofInt s), .num (NumX.ofInt ml)] =
      .error (custom "invalid time parameters") := encodeTime_rejects_negative h mi s ml bh bmi bs bml hneg

/-! ### B9. inc_month -/

theorem incMonth_spec_float (t : DT) (ht : t.Enc) (k : Int) (hk1 : -2147483648 ≤ k) (hk2 : k < 2147483648) :
    incMonth [(encode t : Value Float), .num (NumX.ofInt k)] =
      match addMonths t k with
      | some t2 => .ok (encode t2)
      | none => .error (custom (if 0 < k then "inc_month increment overflow" else "inc_month decrement underflow")) :=
  incMonth_spec t ht k hk1 hk2

/-! ### B10. date(x) + time(x) = x -/

/-- for every date-time number `x` of the covered range, `date(x) + time(x)` is `x` itself, bit for bit -/
theorem date_plus_time_float (t : DT) (ht : t.Enc) (a b : Value Float)
    (ha : num1 NumOps.trunc [(encode t : Value Float)] = .ok a) (hb : num1 NumX.fract [(encode t : Value Float)] = .ok b) :
    Value.add a b = .ok (encode t) := date_plus_time t ht a b ha hb

/-! ### non-vacuity: concrete stamps on binary64 numbers -/

/-- 2024-02-29T23:59:59.999 as a binary64 date-time number decodes to year 2024 -/
example : year [(encode (stampDT 2024 2 29 23 59 59 999) : Value Float)] = .ok (.num (F64.ofInt 2024)) :=
  year_spec_float ⟨by decide, by decide, by decide, by decide, by decide, by decide, by decide⟩
example : millisecond [(encode (stampDT 9999 12 31 23 59 59 999) : Value Float)] = .ok (.num (F64.ofNat 999)) :=
  millisecond_spec_float ⟨by decide, by decide, by decide, by decide, by decide, by decide, by decide⟩
example : decode (encode ⟨daysFromCivil 1 1 1, 0⟩ : Value Float) = .ok ⟨daysFromCivil 1 1 1, 0⟩ :=
  decode_encode_float 1 1 1 0 (by decide) (by decide) (by decide) (by decide)
/-- the extreme millisecond counts of the covered range -/
example : F64.toI64 (F64.round ((F64.ofInt 281474976710656 / F64.ofNat 86400000) * F64.ofNat 86400000))
    = 281474976710656 := decode_encode_ms_float _ (by decide) (by decide)
example : F64.toI64 (F64.round ((F64.ofInt (-281474976710655) / F64.ofNat 86400000) * F64.ofNat 86400000))
    = -281474976710655 := decode_encode_ms_float _ (by decide) (by decide)

end Slac.C16
