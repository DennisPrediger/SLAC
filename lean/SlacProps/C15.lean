/-
  C15 — the sequence builtins (length, at, copy, insert, find, count, contains, replace/remove, reverse, unique,
  all/any, split, split_csv, trim*, lowercase/uppercase/same_text) return what their documentation describes,
  as judged by an independent sequence model, and they agree on what a *position* is.
  Model: SlacModel.Seq (Rust `str` pattern API) + SlacModel.Stdlib (common.rs / string.rs, arm by arm).
  Independent meaning: SlacProofs.SeqSpec (core `List` notions: `<+:`, `<:+:`, take/drop/filter/reverse).
  Numbers: positions travel as numbers of the abstract type `N`; the facts "small integers are exact"
  are the hypotheses `[LawfulIdx N]` (SlacProofs.SeqIdx; satisfiable: SlacProofs.SeqToy, N = Int).
  `off` is STRING_OFFSET (1, or 0 with feature zero_based_strings): `first = off`.  Strings are lists of
  `Char` (Unicode scalar values), so 'ä' and '𝄞' are one position each — that is the content of the property.
  Observations recorded here (all confirmed on the crate): `unique` does not merge NaN with NaN
  (`unique_irreflexive`: `==` is not reflexive); `split_csv` silently ignores a separator that is not one ASCII
  character, e.g. "ä" (`splitCsv_sep_fallback`); the payload of IndexOutOfBounds is the raw position below
  `first` but the zero-based index beyond the end (`at_below_first` / `at_beyond_last`); `split` with a wrong
  argument count reports WrongParameterCount(1) although it takes two parameters.
-/
import SlacProofs.SeqSearch
import SlacProofs.SeqSplit
import SlacProofs.SeqMisc
import SlacProofs.SeqToy
set_option autoImplicit false
set_option linter.unusedSectionVars false
namespace Slac.C15
open Slac.Seq Slac.SeqSpec Slac.Stdlib Slac.NumX Slac.SeqMisc

section search
variable {α : Type} [DecidableEq α]

/-- `contains` = "is an infix" -/
theorem containsSeq_iff_infix (n h : List α) : containsSeq n h = true ↔ n <:+: h := containsSeq_iff n h

/-- `find` = the least position where the needle starts -/
theorem findSeq_some_iff (n h : List α) (i : Nat) :
    findSeq n h = some i ↔ (n <+: h.drop i ∧ i ≤ h.length ∧ ∀ j, j < i → ¬ n <+: h.drop j) :=
  findSeq_eq_some_iff n h i

theorem findSeq_none_iff (n h : List α) : findSeq n h = none ↔ ¬ n <:+: h := findSeq_eq_none_iff n h

/-- `count` = number of leftmost non-overlapping occurrences -/
theorem countOcc_spec (n h : List α) : countOcc n h = occCount n h := countOcc_eq_occCount n h

/-- `replace` = splice `to` in for every leftmost non-overlapping occurrence -/
theorem replaceSeq_spec (frm to hay : List α) : replaceSeq frm to hay = replaceAll frm to hay :=
  replaceSeq_eq_replaceAll frm to hay

/-- split, then join with the separator: the original -/
theorem split_join (sep hay : List α) : Seq.intercalate sep (splitOn sep hay) = hay := intercalate_splitOn sep hay

theorem length_splitOn (sep hay : List α) : (splitOn sep hay).length = countOcc sep hay + 1 :=
  Seq.length_splitOn sep hay

/-- for a non-empty separator `splitOn` is the unique list of pieces that joins back to the input, whose
    delimiters are leftmost, and whose last piece has no separator -/
theorem splitOn_spec (sep hay : List α) (h : sep ≠ []) :
    IsSplit sep hay (splitOn sep hay) ∧ ∀ ps, IsSplit sep hay ps → ps = splitOn sep hay :=
  ⟨splitOn_isSplit sep hay h, fun ps hps => isSplit_unique sep h hay ps hps⟩

theorem splitOn_empty_spec (hay : List α) : splitOn [] hay = [] :: hay.map (fun c => [c]) ++ [[]] :=
  splitOn_empty hay

-- non-vacuity (multi-byte characters are single positions); the empty needle as in Rust
example : findSeq ['𝄞', 'c'] ['ä', '𝄞', 'c', 'ä', '𝄞', 'c'] = some 1 := by decide
example : FirstOcc ['𝄞', 'c'] ['ä', '𝄞', 'c', 'ä', '𝄞', 'c'] 1 := (findSeq_some_iff _ _ _).1 (by decide)
example : ['𝄞', 'c'] <:+: ['ä', '𝄞', 'c'] := (containsSeq_iff_infix _ _).1 (by decide)
example : ¬ ['c', '𝄞'] <:+: ['ä', '𝄞', 'c'] := (findSeq_none_iff _ _).1 (by decide)
example : occCount ['a', 'a'] ['a', 'a', 'a', 'ä', 'a', 'a'] = 2 := by rw [← countOcc_spec]; decide
example : occCount ([] : Str) ['a', 'b', 'c'] = 4 := by rw [← countOcc_spec]; decide
example : occCount ([] : Str) ['a', 'b', 'c'] = 4 := by simp [occCount]
example : splitOn ([] : Str) ['a', 'b', 'c'] = [[], ['a'], ['b'], ['c'], []] := by decide
example : replaceAll ([] : Str) ['-'] ['a', 'b', 'c'] = ['-', 'a', '-', 'b', '-', 'c', '-'] := by
  rw [← replaceSeq_spec]; decide
example : replaceAll ['a', 'a'] ['𝄞'] ['a', 'a', 'a', 'ä'] = ['𝄞', 'a', 'ä'] := by simp [replaceAll]
example : IsSplit [';'] ['ä', ';', ';', 'b'] [['ä'], [], ['b']] := by
  have : splitOn [';'] ['ä', ';', ';', 'b'] = [['ä'], [], ['b']] := by decide
  rw [← this]; exact (splitOn_spec _ _ (by decide)).1

end search

section positions
variable {N : Type} [NumX N] [LawfulIdx N] (off : Nat)

/-- Rust `a >= b` on numbers -/
def geN (a b : N) : Bool := match NumOps.pcmp a b with | some .gt | some .eq => true | _ => false

theorem geN_ofNat (n m : Nat) (hn : n < 2^53) (hm : m < 2^53) : geN (ofNat n : N) (ofNat m) = decide (m ≤ n) := by
  unfold geN
  rw [LawfulIdx.pcmp_ofNat n m hn hm]
  rcases Nat.lt_trichotomy n m with h | h | h
  · rw [Nat.compare_eq_lt.2 h, decide_eq_false (by omega)]
  · rw [Nat.compare_eq_eq.2 h, decide_eq_true (by omega)]
  · rw [Nat.compare_eq_gt.2 h, decide_eq_true (by omega)]

theorem length_str (s : Str) : length [.str s] = .ok (.num (ofNat s.length : N)) := rfl
theorem length_arr (vs : List (Value N)) : length [.arr vs] = .ok (.num (ofNat vs.length : N)) := rfl

/-- `at(s, first + i)` for `i = 0 .. length(s)-1` is the `i`-th character of `s` -/
theorem at_enumerates (s : Str) (hs : off + s.length < 2^53) (i : Nat) (hi : i < s.length) :
    at_ off [.str s, .num (ofNat (off + i) : N)] = .ok (.str [s[i]]) := by
  simp only [at_]
  rw [LawfulIdx.getStringIndex_add off i (by omega)]
  simp [List.getElem?_eq_getElem hi]

/-- the same, as one list: `at` over `first .. first+length(s)-1` enumerates `s` -/
theorem at_enumerates_list (s : Str) (hs : off + s.length < 2^53) :
    (List.range s.length).map (fun i => at_ off [.str s, .num (ofNat (off + i) : N)])
      = s.map (fun c => .ok (.str [c])) :=
  map_range_eq_map s _ _ (at_enumerates off s hs)

theorem at_below_first (s : Str) (p : Nat) (hp : p < off) (h : p < 2^53) :
    at_ off [.str s, .num (ofNat p : N)] = .error (.indexOutOfBounds p) := by
  simp only [at_, LawfulIdx.getStringIndex_ofNat off p h, if_neg (Nat.not_le.2 hp)]

theorem at_beyond_last (s : Str) (p : Nat) (hp : off + s.length ≤ p) (h : p < 2^53) :
    at_ off [.str s, .num (ofNat p : N)] = .error (.indexOutOfBounds (p - off)) := by
  simp only [at_]
  rw [LawfulIdx.getStringIndex_ofNat off p h, if_pos (by omega)]
  have : s[p - off]? = none := List.getElem?_eq_none (by omega)
  simp [this]

/-- a natural-number position outside `first .. first+length(s)-1` is an error -/
theorem at_out_of_range (s : Str) (p : Nat) (h : p < 2^53) (hp : p < off ∨ off + s.length ≤ p) :
    ∃ k, at_ off [.str s, .num (ofNat p : N)] = .error (.indexOutOfBounds k) := by
  rcases hp with hp | hp
  · exact ⟨_, at_below_first off s p hp h⟩
  · exact ⟨_, at_beyond_last off s p hp h⟩

theorem at_negative (s : Str) : at_ off [.str s, .num (ofInt (-1) : N)] = .error .indexNegative := by
  simp only [at_, LawfulIdx.getStringIndex_neg_one]

/-- `copy(s, first + i, n)`: the `n` characters from the `i`-th on -/
theorem copy_str (s : Str) (i n : Nat) (hi : off + i < 2^53) (hn : n < 2^53) :
    copy off [.str s, .num (ofNat (off + i) : N), .num (ofNat n)] = .ok (.str ((s.drop i).take n)) := by
  simp only [copy, LawfulIdx.getStringIndex_add off i hi, LawfulIdx.floorUsize_ofNat n hn]

theorem copy_below_first (s : Str) (p n : Nat) (hp : p < off) (h : p < 2^53) :
    copy off [.str s, .num (ofNat p : N), .num (ofNat n)] = .error (.indexOutOfBounds p) := by
  simp only [copy, LawfulIdx.getStringIndex_ofNat off p h, if_neg (Nat.not_le.2 hp)]

theorem find_str_some (s x : Str) (i : Nat) (h : findSeq x s = some i) :
    find off [.str s, .str x] = .ok (.num (NumOps.add (ofNat i : N) (ofNat off))) := by
  simp only [find, h]

theorem find_str_none (s x : Str) (h : findSeq x s = none) :
    find off [.str s, .str x] = .ok (.num (NumOps.add (ofInt (-1) : N) (ofNat off))) := by
  simp only [find, h]

/-- a successful `find` returns `first + i` for the first occurrence `i` -/
theorem find_present (s x : Str) (hs : off + s.length < 2^53) (i : Nat) (h : FirstOcc x s i) :
    find off [.str s, .str x] = .ok (.num (ofNat (off + i) : N)) := by
  have hi : i ≤ s.length := h.2.1
  rw [find_str_some off s x i ((findSeq_some_iff x s i).2 h), LawfulIdx.add_ofNat i off (by omega), Nat.add_comm]

/-- a failed `find` returns `first - 1`, computed as `-1.0 + STRING_OFFSET` -/
theorem find_absent (s x : Str) (h : ¬ x <:+: s) :
    find off [.str s, .str x] = .ok (.num (NumOps.add (ofInt (-1) : N) (ofNat off))) :=
  find_str_none off s x ((findSeq_none_iff x s).2 h)

/-- … which is `0` for one-based strings and `-1` for zero-based strings -/
theorem find_absent_value (hoff : off ≤ 1) (s x : Str) (h : ¬ x <:+: s) :
    find off [.str s, .str x] = .ok (.num (if off = 0 then ofInt (-1) else ofNat 0 : N)) := by
  rw [find_absent off s x h, LawfulIdx.neg_one_add off hoff]

/-- `first - 1` is not a position: `at(s, find(s, x))` fails when `x` does not occur -/
theorem at_find_absent (hoff : off ≤ 1) (s x : Str) (h : ¬ x <:+: s) :
    ∃ p : N, find off [.str s, .str x] = .ok (.num p) ∧ ∃ e, at_ off [.str s, .num p] = .error e := by
  refine ⟨_, find_absent_value off hoff s x h, ?_⟩
  have : off = 0 ∨ off = 1 := by omega
  rcases this with rfl | rfl
  · exact ⟨_, at_negative 0 s⟩
  · exact ⟨_, at_below_first 1 s 0 (by decide) (by decide)⟩

/-- `copy(s, find(s, x), length(x)) = x` for every substring `x` of `s` -/
theorem copy_find (s x : Str) (hs : off + s.length < 2^53) (h : x <:+: s) :
    ∃ p l : N, find off [.str s, .str x] = .ok (.num p) ∧ length [.str x] = .ok (.num l) ∧
      copy off [.str s, .num p, .num l] = .ok (.str x) := by
  obtain ⟨i, hfo⟩ := exists_firstOcc h
  have hil : i ≤ s.length := hfo.2.1
  have hxl : x.length ≤ s.length := h.length_le
  refine ⟨ofNat (off + i), ofNat x.length, find_present off s x hs i hfo, rfl, ?_⟩
  rw [copy_str off s i x.length (by omega) (by omega), ← List.prefix_iff_eq_take.1 hfo.1]

theorem insert_str (s x : Str) (i : Nat) (h : off + i < 2^53) :
    Stdlib.insert off [.str s, .str x, .num (ofNat (off + i) : N)] =
      if s.length < i then .error (.indexOutOfBounds i) else .ok (.str (s.take i ++ x ++ s.drop i)) := by
  simp only [Stdlib.insert, LawfulIdx.getStringIndex_add off i h]

/-- `insert(s, x, first + i)` puts `x` in front of the `i`-th character; `copy` at the same position reads it
    back; lengths add up -/
theorem insert_copy (s x : Str) (i : Nat) (hi : i ≤ s.length) (hs : off + s.length + x.length < 2^53) :
    ∃ t, Stdlib.insert off [.str s, .str x, .num (ofNat (off + i) : N)] = .ok (.str t) ∧
      t = s.take i ++ x ++ s.drop i ∧
      copy off [.str t, .num (ofNat (off + i) : N), .num (ofNat x.length)] = .ok (.str x) ∧
      length [.str t] = .ok (.num (ofNat (s.length + x.length) : N)) ∧
      (ofNat (s.length + x.length) : N) = NumOps.add (ofNat s.length) (ofNat x.length) := by
  have hlen : (s.take i).length = i := List.length_take_of_le hi
  refine ⟨s.take i ++ x ++ s.drop i, ?_, rfl, ?_, ?_, (LawfulIdx.add_ofNat _ _ (by omega)).symm⟩
  · rw [insert_str off s x i (by omega), if_neg (by omega)]
  · rw [copy_str off _ i x.length (by omega) (by omega), List.append_assoc, List.drop_left' hlen, List.take_left' rfl]
  · simp only [length, valueLen, List.length_append, hlen, List.length_drop]
    rw [show i + x.length + (s.length - i) = s.length + x.length by omega]

theorem insert_beyond_last (s x : Str) (i : Nat) (hi : s.length < i) (h : off + i < 2^53) :
    Stdlib.insert off [.str s, .str x, .num (ofNat (off + i) : N)] = .error (.indexOutOfBounds i) := by
  rw [insert_str off s x i h, if_pos hi]

theorem count_str (s x : Str) : count [.str s, .str x] = .ok (.num (ofNat (occCount x s) : N)) := by
  simp only [count, countOcc_spec]

theorem contains_str (s x : Str) : contains [.str s, .str x] = .ok (.bool (decide (x <:+: s)) : Value N) := by
  simp only [contains]
  congr 2
  rw [Bool.eq_iff_iff, containsSeq_iff_infix]; simp

/-- `count(s,x) > 0  ⇔  contains(s,x)  ⇔  find(s,x) >= first`, on the builtins' results -/
theorem count_contains_find (hoff : off ≤ 1) (s x : Str) (hs : s.length + 1 < 2^53) :
    ∃ (c p : N) (b : Bool),
      count [.str s, .str x] = .ok (.num c) ∧ contains [.str s, .str x] = .ok (.bool b : Value N) ∧
      find off [.str s, .str x] = .ok (.num p) ∧
      gt0 c = b ∧ geN p (ofNat off) = b := by
  have hc : countOcc x s < 2^53 := Nat.lt_of_le_of_lt (countOcc_le x s) hs
  have hfind : ∃ p : N, find off [.str s, .str x] = .ok (.num p) ∧ geN p (ofNat off) = (findSeq x s).isSome := by
    cases hf : findSeq x s with
    | none =>
      refine ⟨_, find_str_none off s x hf, ?_⟩
      unfold geN; rw [LawfulIdx.pcmp_neg_one_add off hoff]; rfl
    | some i =>
      have hi : i ≤ s.length := ((findSeq_some_iff x s i).1 hf).2.1
      refine ⟨_, find_str_some off s x i hf, ?_⟩
      rw [LawfulIdx.add_ofNat i off (by omega), geN_ofNat _ _ (by omega) (by omega)]; exact decide_eq_true (by omega)
  obtain ⟨p, hp, hg⟩ := hfind
  -- `count > 0` is `contains` by definition: the two `rfl`
  exact ⟨_, p, containsSeq x s, rfl, rfl, hp, LawfulIdx.gt0_ofNat _ hc, by rw [containsSeq_eq_isSome]; exact hg⟩

theorem at_arr (vs : List (Value N)) (hs : vs.length < 2^53) (i : Nat) (hi : i < vs.length) :
    at_ off [.arr vs, .num (ofNat i : N)] = .ok vs[i] := by
  simp only [at_]
  rw [LawfulIdx.getIndex_ofNat i (by omega)]
  simp [List.getElem?_eq_getElem hi]

theorem at_arr_beyond_last (vs : List (Value N)) (p : Nat) (hp : vs.length ≤ p) (h : p < 2^53) :
    at_ off [.arr vs, .num (ofNat p : N)] = .error (.indexOutOfBounds p) := by
  simp only [at_]
  rw [LawfulIdx.getIndex_ofNat p h]
  have : vs[p]? = none := List.getElem?_eq_none hp
  simp [this]

theorem at_arr_negative (vs : List (Value N)) :
    at_ off [.arr vs, .num (ofInt (-1) : N)] = .error .indexNegative := by
  simp only [at_, LawfulIdx.getIndex_neg_one]

theorem copy_arr (vs : List (Value N)) (i n : Nat) (hi : i < 2^53) (hn : n < 2^53) :
    copy off [.arr vs, .num (ofNat i : N), .num (ofNat n)] = .ok (.arr ((vs.drop i).take n)) := by
  simp only [copy, LawfulIdx.getIndex_ofNat i hi, LawfulIdx.floorUsize_ofNat n hn]

theorem find_arr_none (vs : List (Value N)) (v : Value N)
    (h : Stdlib.findIdx? (fun w => Value.eq w v) vs = none) : find off [.arr vs, v] = .ok (.num (ofInt (-1) : N)) := by
  cases v <;> simp only [find, h]

theorem find_arr_some (vs : List (Value N)) (v : Value N) (i : Nat)
    (h : Stdlib.findIdx? (fun w => Value.eq w v) vs = some i) : find off [.arr vs, v] = .ok (.num (ofNat i : N)) := by
  cases v <;> simp only [find, h]

/-- array `find`: `-1` when no element equals (`==`) the needle -/
theorem find_arr_absent (vs : List (Value N)) (v : Value N) (h : ∀ w, w ∈ vs → Value.eq w v = false) :
    find off [.arr vs, v] = .ok (.num (ofInt (-1) : N)) :=
  find_arr_none off vs v ((findIdx?_eq_none_iff _ _).2 h)

/-- array `find`: the index of the first element that equals (`==`) the needle -/
theorem find_arr_present (vs : List (Value N)) (v : Value N) (i : Nat) (hi : i < vs.length)
    (h1 : Value.eq vs[i] v = true) (h2 : ∀ j (hj : j < i), Value.eq (vs[j]'(Nat.lt_trans hj hi)) v = false) :
    find off [.arr vs, v] = .ok (.num (ofNat i : N)) :=
  find_arr_some off vs v i ((findIdx?_eq_some_iff _ _ _).2 ⟨hi, h1, h2⟩)

/-- `at(vs, find(vs, v)) == v` when some element equals `v` -/
theorem at_find_arr (vs : List (Value N)) (hs : vs.length < 2^53) (v : Value N)
    (h : ∃ w, w ∈ vs ∧ Value.eq w v = true) :
    ∃ (p : N) (w : Value N), find off [.arr vs, v] = .ok (.num p) ∧ at_ off [.arr vs, .num p] = .ok w ∧
      Value.eq w v = true := by
  obtain ⟨i, hi, hf, h1⟩ := findIdx?_of_mem h
  exact ⟨ofNat i, vs[i], find_arr_some off vs v i hf, at_arr off vs hs i hi, h1⟩

/-- `copy(vs, find(vs, v), 1) = [w]` with `w == v` -/
theorem copy_find_arr (vs : List (Value N)) (hs : vs.length < 2^53) (v : Value N)
    (h : ∃ w, w ∈ vs ∧ Value.eq w v = true) :
    ∃ (p : N) (w : Value N), find off [.arr vs, v] = .ok (.num p) ∧
      copy off [.arr vs, .num p, .num (ofNat 1)] = .ok (.arr [w]) ∧ Value.eq w v = true := by
  obtain ⟨i, hi, hf, h1⟩ := findIdx?_of_mem h
  refine ⟨ofNat i, vs[i], find_arr_some off vs v i hf, ?_, h1⟩
  rw [copy_arr off vs i 1 (by omega) (by decide), List.drop_eq_getElem_cons hi]; rfl

theorem at_arr_enumerates_list (vs : List (Value N)) (hs : vs.length < 2^53) :
    (List.range vs.length).map (fun i => at_ off [.arr vs, .num (ofNat i : N)]) = vs.map .ok :=
  map_range_eq_map vs _ _ (at_arr off vs hs)

theorem insert_arr_eq (vs : List (Value N)) (v : Value N) (i : Nat) (h : i < 2^53) :
    Stdlib.insert off [.arr vs, v, .num (ofNat i : N)] =
      if vs.length < i then .error (.indexOutOfBounds i) else .ok (.arr (vs.take i ++ v :: vs.drop i)) := by
  have : Stdlib.insert off [.arr vs, v, .num (ofNat i : N)] =
      match getIndex (ofNat i : N) with
      | .ok idx => if idx > vs.length then .error (.indexOutOfBounds idx) else .ok (.arr (insertAt vs idx v))
      | .error e => .error e := by
    cases v <;> rfl
  rw [this, LawfulIdx.getIndex_ofNat i h]; rfl

theorem insert_arr (vs : List (Value N)) (v : Value N) (i : Nat) (hi : i ≤ vs.length) (hs : vs.length + 1 < 2^53) :
    ∃ t, Stdlib.insert off [.arr vs, v, .num (ofNat i : N)] = .ok (.arr t) ∧
      t = vs.take i ++ v :: vs.drop i ∧
      at_ off [.arr t, .num (ofNat i : N)] = .ok v ∧
      length [.arr t] = .ok (.num (ofNat (vs.length + 1) : N)) := by
  have htake : (vs.take i).length = i := List.length_take_of_le hi
  have hlen : (vs.take i ++ v :: vs.drop i).length = vs.length + 1 := by
    rw [List.length_append, List.length_cons, htake, List.length_drop]; omega
  refine ⟨vs.take i ++ v :: vs.drop i, ?_, rfl, ?_, ?_⟩
  · rw [insert_arr_eq off vs v i (by omega), if_neg (by omega)]
  · rw [at_arr off _ (by omega) i (by omega), List.getElem_append_right (by omega)]
    simp only [htake, Nat.sub_self, List.getElem_cons_zero]
  · simp only [length, valueLen, hlen]

theorem insert_arr_beyond_last (vs : List (Value N)) (v : Value N) (i : Nat) (hi : vs.length < i) (h : i < 2^53) :
    Stdlib.insert off [.arr vs, v, .num (ofNat i : N)] = .error (.indexOutOfBounds i) := by
  rw [insert_arr_eq off vs v i h, if_pos hi]

theorem count_arr (vs : List (Value N)) (v : Value N) :
    count [.arr vs, v] = .ok (.num (ofNat (vs.countP fun w => Value.eq w v) : N)) := by
  have : count [.arr vs, v] = .ok (.num (ofNat (vs.filter fun w => Value.eq w v).length : N)) := by
    cases v <;> rfl
  rw [this, List.countP_eq_length_filter]

theorem contains_arr (vs : List (Value N)) (v : Value N) :
    contains [.arr vs, v] = .ok (.bool (vs.any fun w => Value.eq w v)) := by
  cases v <;> rfl

/-- arrays: `count > 0 ⇔ contains ⇔ find >= 0` -/
theorem count_contains_find_arr (vs : List (Value N)) (v : Value N) (hs : vs.length < 2^53) :
    ∃ (c p : N) (b : Bool),
      count [.arr vs, v] = .ok (.num c) ∧ contains [.arr vs, v] = .ok (.bool b : Value N) ∧
      find off [.arr vs, v] = .ok (.num p) ∧
      gt0 c = b ∧ geN p (ofNat 0) = b := by
  have hcl : (vs.countP fun w => Value.eq w v) < 2^53 := Nat.lt_of_le_of_lt List.countP_le_length hs
  cases hf : Stdlib.findIdx? (fun w => Value.eq w v) vs with
  | none =>
    have hall := (findIdx?_eq_none_iff _ _).1 hf
    have hany : (vs.any fun w => Value.eq w v) = false := List.any_eq_false.2 fun w hw => by simp [hall w hw]
    refine ⟨_, _, false, count_arr vs v, by rw [contains_arr, hany], find_arr_none off vs v hf, ?_, ?_⟩
    · rw [LawfulIdx.gt0_ofNat _ hcl, List.countP_eq_zero.2 fun w hw => by simp [hall w hw]]; rfl
    · unfold geN; rw [LawfulIdx.pcmp_neg_one]
  | some i =>
    obtain ⟨hi, h1, _⟩ := (findIdx?_eq_some_iff _ _ _).1 hf
    have hmem : ∃ w, w ∈ vs ∧ Value.eq w v = true := ⟨vs[i], List.getElem_mem hi, h1⟩
    refine ⟨_, _, true, count_arr vs v, by rw [contains_arr, List.any_eq_true.2 hmem], find_arr_some off vs v i hf, ?_, ?_⟩
    · rw [LawfulIdx.gt0_ofNat _ hcl]; exact decide_eq_true (List.countP_pos_iff.2 hmem)
    · rw [geN_ofNat _ _ (by omega) (by decide)]; rfl

end positions

section misc
variable {N : Type} [NumX N]

theorem reverse_str (s : Str) : reverse [.str s] = .ok (.str s.reverse : Value N) := rfl
theorem reverse_arr (vs : List (Value N)) : reverse [.arr vs] = .ok (.arr vs.reverse) := rfl

theorem reverse_involutive (v w : Value N) (h : reverse [v] = .ok w) : reverse [w] = .ok v := by
  cases v <;> simp only [reverse] at h <;> cases h <;> simp [reverse]

theorem length_reverse (v w : Value N) (h : reverse [v] = .ok w) : length [w] = length [v] := by
  cases v <;> simp only [reverse] at h <;> cases h <;> simp [length, valueLen]

/-- position-wise: the `i`-th character of the reverse is the `i`-th from the end -/
theorem at_reverse [LawfulIdx N] (off : Nat) (s : Str) (hs : off + s.length < 2^53) (i : Nat) (hi : i < s.length) :
    at_ off [.str s.reverse, .num (ofNat (off + i) : N)]
      = at_ off [.str s, .num (ofNat (off + (s.length - 1 - i)) : N)] := by
  rw [at_enumerates off s.reverse (by simpa using hs) i (by simpa using hi),
    at_enumerates off s hs (s.length - 1 - i) (by omega)]
  simp [List.getElem_reverse]

/-- `length(a + b) = length(a) + length(b)` for strings and arrays (`+` is `Value.add`) -/
theorem length_append (a b c : Value N) (h : Value.add a b = .ok c) :
    length [c] = .ok (.num (ofNat (valueLen a + valueLen b) : N)) := by
  cases a <;> cases b <;> simp only [Value.add] at h <;> cases h <;> simp [length, valueLen]

theorem length_append_add [LawfulIdx N] (a b c : Value N) (h : Value.add a b = .ok c)
    (hl : valueLen a + valueLen b < 2^53) :
    ∃ la lb lc : N, length [a] = .ok (.num la) ∧ length [b] = .ok (.num lb) ∧ length [c] = .ok (.num lc) ∧
      lc = NumOps.add la lb :=
  ⟨_, _, _, rfl, rfl, length_append a b c h, (LawfulIdx.add_ofNat _ _ hl).symm⟩

/-- `unique` keeps the first occurrence of every value w.r.t. `==` (`Value.eq`) -/
theorem unique_spec (vs : List (Value N)) : unique [.arr vs] = .ok (.arr (dedupBy Value.eq vs)) := by
  simp only [unique, dedup]
  rw [foldl_dedup Value.eq [] vs]
  have : (vs.filter fun w => !([] : List (Value N)).any fun x => Value.eq x w) = vs :=
    List.filter_eq_self.2 (fun _ _ => rfl)
  rw [this]; rfl

/-- What is true of `unique` without assuming `==` reflexive (it is not: NaN), symmetric or transitive:
    the result is a subsequence of the input; no kept element `==` a later kept element; every input
    element is kept or `==`-equalled by a kept element. -/
theorem unique_props (vs : List (Value N)) :
    ∃ us, unique [.arr vs] = .ok (.arr us) ∧ List.Sublist us vs ∧
      List.Pairwise (fun a b => Value.eq a b = false) us ∧
      ∀ w, w ∈ vs → w ∈ us ∨ ∃ u, u ∈ us ∧ Value.eq u w = true :=
  ⟨_, unique_spec vs, dedupBy_sublist _ vs, dedupBy_pairwise _ vs, dedupBy_covers _ vs⟩

/-- if `==` is reflexive on the input (no NaN inside), every input element `==` some kept element -/
theorem unique_covers_of_refl (vs : List (Value N)) (hr : ∀ w, w ∈ vs → Value.eq w w = true) :
    ∃ us, unique [.arr vs] = .ok (.arr us) ∧ ∀ w, w ∈ vs → ∃ u, u ∈ us ∧ Value.eq u w = true := by
  obtain ⟨us, h1, _, _, h4⟩ := unique_props vs
  refine ⟨us, h1, fun w hw => ?_⟩
  rcases h4 w hw with h | h
  · exact ⟨w, h, hr w hw⟩
  · exact h

/-- … and a value that does not `==` itself (NaN) is *not* de-duplicated -/
theorem unique_irreflexive (v : Value N) (h : Value.eq v v = false) : unique [.arr [v, v]] = .ok (.arr [v, v]) := by
  simp [unique, dedup, h]

theorem all_spec (ps : List (Value N)) :
    all ps = .ok (.bool ((smartVec ps).all fun v => Value.eq v (.bool true))) := rfl
theorem any_spec (ps : List (Value N)) :
    any ps = .ok (.bool ((smartVec ps).any fun v => Value.eq v (.bool true))) := rfl

theorem eq_bool_true (b : Bool) : Value.eq (.bool b : Value N) (.bool true) = b := by
  cases b <;> simp [Value.eq]

/-- on an array of Booleans: conjunction / disjunction -/
theorem all_bools (bs : List Bool) : all [.arr (bs.map .bool)] = .ok (.bool (bs.all id) : Value N) := by
  simp only [all, smartVec, List.all_map, Function.comp_def, eq_bool_true]; rfl
theorem any_bools (bs : List Bool) : any [.arr (bs.map .bool)] = .ok (.bool (bs.any id) : Value N) := by
  simp only [any, smartVec, List.any_map, Function.comp_def, eq_bool_true]; rfl

/-- string `replace(s, x, y)` and `remove(s, x)` (= `replace` with two arguments) -/
theorem replace_str (s x y : Str) : replace [.str s, .str x, .str y] = .ok (.str (replaceAll x y s) : Value N) := by
  simp [replace, defaultString, replaceSeq_spec]
theorem remove_str (s x : Str) : replace [.str s, .str x] = .ok (.str (replaceAll x [] s) : Value N) := by
  simp [replace, defaultString, replaceSeq_spec]

/-- array `replace`: every element `==` to `frm` becomes `to`; `remove`: they are dropped -/
theorem replace_arr (vs : List (Value N)) (frm to : Value N) :
    replace [.arr vs, frm, to] = .ok (.arr (vs.map fun v => if Value.eq v frm then to else v)) := by
  have : replace [.arr vs, frm, to] = .ok (.arr (replaceArr vs frm (some to))) := by
    cases frm <;> rfl
  rw [this, replaceArr_some]
theorem remove_arr (vs : List (Value N)) (frm : Value N) :
    replace [.arr vs, frm] = .ok (.arr (vs.filter fun v => !Value.eq v frm)) := by
  have : replace [.arr vs, frm] = .ok (.arr (replaceArr vs frm none)) := by
    cases frm <;> rfl
  rw [this, replaceArr_none]

end misc

section text
variable {N : Type} [NumX N]

/-- `split(line, sep)`: the pieces, which joined with `sep` give `line` back; one more piece than there are
    occurrences; for a non-empty separator *the* split of SeqSpec, for the empty one Rust's `split("")` -/
theorem split_spec (line sep : Str) :
    ∃ ps : List Str, split [.str line, .str sep] = .ok (.arr (ps.map .str) : Value N) ∧
      SeqSpec.join sep ps = line ∧ ps.length = occCount sep line + 1 ∧
      (sep ≠ [] → IsSplit sep line ps ∧ ∀ qs, IsSplit sep line qs → qs = ps) ∧
      (sep = [] → ps = [] :: line.map (fun c => [c]) ++ [[]]) := by
  refine ⟨splitOn sep line, rfl, join_splitOn sep line, ?_, fun h => splitOn_spec sep line h, ?_⟩
  · rw [length_splitOn, countOcc_spec]
  · intro h; subst h; exact splitOn_empty line

/-- `parse_csv`: nothing but quotes and unquoted separators is lost, and there is one field per unquoted
    separator plus one -/
theorem parseCsv_spec (line : Str) (sep : Char) :
    (parseCsv line sep).flatten = csvKeep sep false line ∧
    (parseCsv line sep).length = csvSeps sep false line + 1 := by
  unfold parseCsv
  exact ⟨by simpa using parseCsvAux_flatten sep [] false line, parseCsvAux_length sep [] false line⟩

/-- index-wise: the concatenated fields are the characters of `line` that are not `"` and not a separator
    preceded by an even number of `"` -/
theorem parseCsv_content (line : Str) (sep : Char) : (parseCsv line sep).flatten = csvContent sep line := by
  rw [(parseCsv_spec line sep).1, csvKeep_eq_content]

theorem splitCsv_spec (line : Str) (rest : List (Value N)) :
    splitCsv (.str line :: rest)
      = .ok (.arr ((parseCsv line (((rest[0]?).bind charFromValue).getD ';')).map .str)) := by
  cases rest <;> rfl

/-- `trim`: the result has no leading or trailing White_Space, and only White_Space was cut off -/
theorem trim_spec (s : Str) :
    (∀ c, (trimBoth s).head? = some c → isWhiteSpace c = false) ∧
    (∀ c, (trimBoth s).getLast? = some c → isWhiteSpace c = false) ∧
    ∃ l r : Str, s = l ++ trimBoth s ++ r ∧ l.all isWhiteSpace = true ∧ r.all isWhiteSpace = true := by
  refine ⟨?_, trimRight_last _, ?_⟩
  · intro c hc
    exact trimLeft_head s c (head?_of_prefix (trimRight_prefix (trimLeft s)) c hc)
  · refine ⟨s.takeWhile isWhiteSpace, ((trimLeft s).reverse.takeWhile isWhiteSpace).reverse, ?_,
      List.all_takeWhile, ?_⟩
    · unfold trimBoth
      rw [List.append_assoc, ← trimRight_decomp, ← trimLeft_decomp]
    · rw [List.all_reverse]; exact List.all_takeWhile

theorem trimLeft_spec (s : Str) :
    (∀ c, (trimLeft s).head? = some c → isWhiteSpace c = false) ∧
    ∃ l : Str, s = l ++ trimLeft s ∧ l.all isWhiteSpace = true :=
  ⟨trimLeft_head s, _, trimLeft_decomp s, List.all_takeWhile⟩

theorem trimRight_spec (s : Str) :
    (∀ c, (trimRight s).getLast? = some c → isWhiteSpace c = false) ∧
    ∃ r : Str, s = trimRight s ++ r ∧ r.all isWhiteSpace = true :=
  ⟨trimRight_last s, _, trimRight_decomp s, by rw [List.all_reverse]; exact List.all_takeWhile⟩

theorem trim_builtins (s : Str) :
    trim [.str s] = .ok (.str (trimBoth s) : Value N) ∧ trimLeftF [.str s] = .ok (.str (trimLeft s) : Value N) ∧
    trimRightF [.str s] = .ok (.str (trimRight s) : Value N) := ⟨rfl, rfl, rfl⟩

/-- the case functions are Rust's `to_lowercase` / `to_uppercase` (parameters `cm` of the model) -/
theorem lowercase_spec (cm : CaseMap) (a : Str) : lowercase cm [.str a] = .ok (.str (cm.lower a) : Value N) := rfl
theorem uppercase_spec (cm : CaseMap) (a : Str) : uppercase cm [.str a] = .ok (.str (cm.upper a) : Value N) := rfl
/-- `same_text`: equality of the lowercase forms -/
theorem sameText_spec (cm : CaseMap) (a b : Str) :
    sameText cm [.str a, .str b] = .ok (.bool (cm.lower a == cm.lower b) : Value N) := rfl

/-- Deviation from the declaration `split_csv(line, separator: String = ';')`: a separator that is not one
    single ASCII character (`char_from_value` tests the *byte* length) is silently ignored — also a
    one-character non-ASCII string such as "ä" — and `;` is used instead. -/
theorem splitCsv_sep_fallback (line : Str) (c : Char) (h : 128 ≤ c.toNat) :
    splitCsv [.str line, .str [c]] = (splitCsv [.str line] : Res N) := by
  have : charFromValue (.str [c] : Value N) = none := by
    simp only [charFromValue]; rw [if_neg (by omega)]
  simp [splitCsv, this]

end text

-- non-vacuity and error discipline on the toy instance N = Int (closed terms, by evaluation)
section examples
open Slac.SeqToy

/-- "äß𝄞c": three non-ASCII characters (2, 2 and 4 bytes in UTF-8) and an ASCII one -/
def sample : Str := ['ä', 'ß', '𝄞', 'c']

-- one-based (default) and zero-based positions count characters
example : at_ 1 [.str sample, .num (3 : Int)] = .ok (.str ['𝄞']) := rfl
example : at_ 0 [.str sample, .num (2 : Int)] = .ok (.str ['𝄞']) := rfl
example : at_ 1 [.str sample, .num (3 : Int)] = .ok (.str ['𝄞']) :=
  at_enumerates 1 sample (by decide) 2 (by decide)
example : at_ 1 [.str sample, .num (0 : Int)] = .error (.indexOutOfBounds 0) := rfl
example : at_ 1 [.str sample, .num (5 : Int)] = .error (.indexOutOfBounds 4) := rfl
example : at_ 0 [.str sample, .num (4 : Int)] = .error (.indexOutOfBounds 4) := rfl
example : at_ 1 [.str sample, .num (-1 : Int)] = .error .indexNegative := rfl
example : find 1 [.str sample, .str ['𝄞', 'c']] = .ok (.num (3 : Int)) := rfl
example : find 0 [.str sample, .str ['𝄞', 'c']] = .ok (.num (2 : Int)) := rfl
example : copy 1 [.str sample, .num (3 : Int), .num (2 : Int)] = .ok (.str ['𝄞', 'c']) := rfl
example : find 1 [.str sample, .str ['x']] = .ok (.num (0 : Int)) := rfl
example : find 0 [.str sample, .str ['x']] = .ok (.num (-1 : Int)) := rfl
example : ['𝄞', 'c'] <:+: sample := (containsSeq_iff_infix _ _).1 (by decide)
example : ¬ ['x'] <:+: sample := (findSeq_none_iff _ _).1 (by decide)
example : Stdlib.insert 1 [.str sample, .str ['é'], .num (2 : Int)] = .ok (.str ['ä', 'é', 'ß', '𝄞', 'c']) := rfl
example : Stdlib.insert 1 [.str sample, .str ['é'], .num (5 : Int)] = .ok (.str ['ä', 'ß', '𝄞', 'c', 'é']) := rfl
example : Stdlib.insert 1 [.str sample, .str ['é'], .num (6 : Int)] = .error (.indexOutOfBounds 5) := rfl
example : length [.str sample] = .ok (.num (4 : Int)) := rfl
example : count [.str ['ä', 'ä', 'ä'], .str ['ä', 'ä']] = .ok (.num (1 : Int)) := rfl
example : count [.str ['a', 'b', 'c'], .str []] = .ok (.num (4 : Int)) := rfl
example : contains [.str sample, .str ['ß', '𝄞']] = .ok (.bool true : Value Int) := rfl
example : reverse [.str sample] = .ok (.str ['c', '𝄞', 'ß', 'ä'] : Value Int) := rfl
example : replace [.str sample, .str ['ß'], .str ['s', 's']] = .ok (.str ['ä', 's', 's', '𝄞', 'c'] : Value Int) := rfl
example : replace [.str sample, .str ['ß']] = .ok (.str ['ä', '𝄞', 'c'] : Value Int) := rfl
example : split [.str ['ä', ';', ';', '𝄞'], .str [';']] = .ok (.arr [.str ['ä'], .str [], .str ['𝄞']] : Value Int) := rfl
example : splitCsv [.str ['ä', ';', '"', 'b', ';', 'c', '"', ';', '𝄞']]
    = .ok (.arr [.str ['ä'], .str ['b', ';', 'c'], .str ['𝄞']] : Value Int) := rfl
example : csvContent ';' ['ä', ';', '"', 'b', ';', 'c', '"', ';', '𝄞'] = ['ä', 'b', ';', 'c', '𝄞'] := by decide
example : trim [.str [' ', ' ', 'ä', ' ', 'b', '　', '\n']] = .ok (.str ['ä', ' ', 'b'] : Value Int) := rfl
-- arrays: base 0, `==` across kinds
example : at_ 1 [.arr [.num 7, .str sample], .num (1 : Int)] = .ok (.str sample) := rfl
example : find 1 [.arr [.num 7, .bool true, .num 1], .num (1 : Int)] = .ok (.num 1) := rfl
example : find 1 [.arr [.num 7, .bool true], .str ['x']] = .ok (.num (-1 : Int)) := rfl
example : copy 1 [.arr [.num 7, .num 8, .num 9], .num (1 : Int), .num 5] = .ok (.arr [.num 8, .num 9]) := rfl
example : Stdlib.insert 1 [.arr [.num 7, .num 9], .num 8, .num (1 : Int)] = .ok (.arr [.num 7, .num 8, .num 9]) := rfl
example : unique [.arr [.num (1 : Int), .bool true, .str ['a'], .num 1, .str ['a']]]
    = .ok (.arr [.num 1, .str ['a']]) := rfl
example : dedupBy Value.eq [Value.num (1 : Int), .bool true, .str ['a'], .num 1] = [.num 1, .str ['a']] :=
  Value.arr.inj (Except.ok.inj ((unique_spec _).symm.trans rfl))
example : all [.arr [.bool true, .num (1 : Int)]] = .ok (.bool true) := rfl
example : any [.bool false, .str ['x'], .num (0 : Int)] = .ok (.bool false) := rfl
-- error discipline: the `NativeError` of the Rust arms
example : at_ 1 [.str sample] = (.error (.wrongParameterCount 2) : Res Int) := rfl
example : at_ 1 [.num 1, .num (1 : Int)] = .error .wrongParameterType := rfl
example : at_ 1 [.str sample, .str sample] = (.error .wrongParameterType : Res Int) := rfl
example : copy 1 [.str sample, .num (1 : Int)] = .error (.wrongParameterCount 3) := rfl
example : copy 1 [.str sample, .num (1 : Int), .bool true] = .error .wrongParameterType := rfl
example : Stdlib.insert 1 [.str sample, .num (1 : Int), .num 1] = .error .wrongParameterType := rfl
example : Stdlib.insert 1 ([] : List (Value Int)) = .error (.wrongParameterCount 3) := rfl
example : find 1 [.str sample, .num (1 : Int)] = .error .wrongParameterType := rfl
example : find 1 [.str sample] = (.error (.wrongParameterCount 2) : Res Int) := rfl
example : count [.str sample, .num (1 : Int)] = .error .wrongParameterType := rfl
example : contains [.bool true, .bool false] = (.error .wrongParameterType : Res Int) := rfl
example : length ([] : List (Value Int)) = .error (.wrongParameterCount 1) := rfl
example : length [.bool true] = .ok (.num (0 : Int)) := rfl
example : replace [.str sample, .str ['a'], .num (1 : Int)] = .error .wrongParameterType := rfl
example : replace [.num (1 : Int), .num 1] = .error .wrongParameterType := rfl
example : replace [.str sample] = (.error (.wrongParameterCount 3) : Res Int) := rfl
example : reverse [.num (1 : Int)] = .error .wrongParameterType := rfl
example : reverse [.str sample, .str sample] = (.error (.wrongParameterCount 1) : Res Int) := rfl
example : unique [.str sample] = (.error .wrongParameterType : Res Int) := rfl
example : split [.str sample] = (.error (.wrongParameterCount 1) : Res Int) := rfl
example : split [.str sample, .num (1 : Int)] = .error .wrongParameterType := rfl
example : splitCsv [.num (1 : Int)] = .error .wrongParameterType := rfl
example : splitCsv ([] : List (Value Int)) = .error (.wrongParameterCount 1) := rfl
example : trim [.num (1 : Int)] = .error .wrongParameterType := rfl
example : sameText ⟨id, id⟩ [.str sample] = (.error (.wrongParameterCount 2) : Res Int) := rfl
example : sameText ⟨id, id⟩ [.str sample, .num (1 : Int)] = .error .wrongParameterType := rfl

-- the general theorems instantiate (hypotheses are satisfiable)
example : ∃ p l : Int, find 1 [.str sample, .str ['ß', '𝄞']] = .ok (.num p) ∧ length [.str ['ß', '𝄞']] = .ok (.num l) ∧
    copy 1 [.str sample, .num p, .num l] = .ok (.str ['ß', '𝄞']) :=
  copy_find 1 sample ['ß', '𝄞'] (by decide) ((containsSeq_iff_infix _ _).1 (by decide))
example : find 1 [.str sample, .str ['x']] = .ok (.num (0 : Int)) :=
  find_absent_value 1 (by decide) sample ['x'] ((findSeq_none_iff _ _).1 (by decide))

example : ∃ k, at_ 1 [.str sample, .num (7 : Int)] = .error (.indexOutOfBounds k) :=
  at_out_of_range 1 sample 7 (by decide) (Or.inr (by decide))
example : find 0 [.str sample, .str ['c']] = .ok (.num (3 : Int)) :=
  find_present 0 sample ['c'] (by decide) 3 ((findSeq_some_iff _ _ _).1 (by decide))
example : ∃ t, Stdlib.insert 0 [.str sample, .str ['é', 'è'], .num (2 : Int)] = .ok (.str t) ∧
    t = sample.take 2 ++ ['é', 'è'] ++ sample.drop 2 ∧
    copy 0 [.str t, .num (2 : Int), .num (2 : Int)] = .ok (.str ['é', 'è']) ∧
    length [.str t] = .ok (.num (6 : Int)) ∧ (6 : Int) = NumOps.add (4 : Int) (2 : Int) :=
  insert_copy 0 sample ['é', 'è'] 2 (by decide) (by decide)
example : ∃ (c p : Int) (b : Bool), count [.str sample, .str ['𝄞']] = .ok (.num c) ∧
    contains [.str sample, .str ['𝄞']] = .ok (.bool b : Value Int) ∧ find 1 [.str sample, .str ['𝄞']] = .ok (.num p) ∧
    gt0 c = b ∧ geN p (ofNat 1) = b :=
  count_contains_find 1 (by decide) sample ['𝄞'] (by decide)
example : ∃ (p : Int) (w : Value Int), find 1 [.arr [.num 7, .bool true, .num 1], .num 1] = .ok (.num p) ∧
    at_ 1 [.arr [.num 7, .bool true, .num 1], .num p] = .ok w ∧ Value.eq w (.num 1) = true :=
  at_find_arr 1 _ (by decide) _ ⟨.bool true, by simp, rfl⟩
example : reverse [.str ['c', '𝄞', 'ß', 'ä']] = .ok (.str sample : Value Int) := reverse_involutive _ _ rfl
example : length [.str ['ä', 'ß', '𝄞']] = .ok (.num (3 : Int)) :=
  length_append (.str ['ä']) (.str ['ß', '𝄞']) _ rfl
-- split_csv with a non-ASCII separator: the separator is ignored, `;` is used
example : splitCsv [.str ['a', 'ä', 'b', ';', 'c'], .str ['ä']]
    = .ok (.arr [.str ['a', 'ä', 'b'], .str ['c']] : Value Int) := rfl

end examples

end Slac.C15
