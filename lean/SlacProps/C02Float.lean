/-
  C02 (number level) — "a decimal number literal (digits, digits., .digits, digits.digits) denotes the nearest
  double", for the project's actual number type: core `Float` with `NumOps.parse = F64.parse` (SlacModel/Num.lean).

  SlacProps/C02.lean (`scan_number`) shows, for every number type, that such a literal scans to whatever
  `NumOps.parse` returns.  This file shows WHAT the driver's parser returns:
  * `parse_decimal_value`     the parser reads all digits m and the number k of fraction digits and returns
                              `Float.ofScientific m (k ≠ 0) k`; its exponent clamps are never reached, whatever the length;
  * `parse_decimal_nearest`   that double is `F64.NearestDouble m 10^k`: the double nearest to m / 10^k, ties to the
                              even mantissa, +inf from the rounding threshold 2^1024 - 2^970 on
                              (`NearestDouble`, SlacProofs/F64SemNearest.lean — distances compared exactly, in integers);
  * `parse_decimal_nearest_rat`  the same in ℚ: |x - m/10^k| ≤ |y - m/10^k| for every finite double y;
  * `parse_decimal_overflow`  a literal ≥ 2^1024 - 2^970 is +inf (never an error);
  * `scan_number_nearest`     combined with `C02.scan_number`: scanning the literal yields exactly the token
                              `literal (num x)` with that nearest double x.
  Proof chain (all from core's logical float model): `F64.sci_false` / `F64.sci_true` (every code path of
  `Float.ofScientific` is core's `roundWithAccuracy` of the exact value) → `F64.rwa_shape_units` (closed form of that rounding)
  → `F64.grid_nearest` (nothing on the double grid is closer) → `F64.nearest_of_rnd`.
-/
import SlacProofs.F64SemParse
import SlacProofs.F64SemRat
import SlacProps.C02
set_option autoImplicit false
namespace Slac.C02
open Slac.Scanner F64

/-- What the parser computes on a decimal literal.  With ip = the digits before the dot (`F64.intDigits`), fp = the
    digits after it (`F64.fracDigits`; empty if there is no dot), m = the number written by ip ++ fp:
    the text is ip or ip.fp, all of ip ++ fp are ASCII digits, not both are empty, and
    `parse text = Float.ofScientific m false 0` (no fraction digits) or `Float.ofScientific m true |fp|`.
    No length restriction: the clamps of `F64.parse` concern explicit exponents only. -/
theorem parse_decimal_value {text : Str} (ht : DecimalText text) :
    (∀ c ∈ intDigits text ++ fracDigits text, isAsciiDigit c = true) ∧
    (text = intDigits text ∨ text = intDigits text ++ '.' :: fracDigits text) ∧
    (intDigits text ≠ [] ∨ fracDigits text ≠ []) ∧
    NumOps.parse (N := Float) text = some (if (fracDigits text).length = 0
      then Float.ofScientific (digitsVal (intDigits text ++ fracDigits text)) false 0
      else Float.ofScientific (digitsVal (intDigits text ++ fracDigits text)) true (fracDigits text).length) :=
  parse_decimal ht

/-- the four spellings, decomposed -/
theorem decimal_parts (a b : Str) (ha : ∀ c ∈ a, isAsciiDigit c = true) :
    (intDigits a = a ∧ fracDigits a = []) ∧
    (intDigits (a ++ ['.']) = a ∧ fracDigits (a ++ ['.']) = []) ∧
    (intDigits ('.' :: b) = [] ∧ fracDigits ('.' :: b) = b) ∧
    (intDigits (a ++ '.' :: b) = a ∧ fracDigits (a ++ '.' :: b) = b) :=
  have hD : ∀ c ∈ a, isDig c = true := fun c hc => isDig_of_asciiDigit (ha c hc)
  ⟨parts_nodot a hD, parts_dot a [] hD, parts_dot [] b (by simp), parts_dot a b hD⟩

/-- **A decimal number literal denotes the nearest double.**  For ip, fp, m as above (value m / 10^|fp|):
    `parse text = some x` where x is `NearestDouble m 10^|fp|`, that is
    * if m / 10^|fp| ≥ 2^1024 - 2^970 (the midpoint between the largest double and 2^1024) then x = +inf;
    * otherwise x is finite with sign bit 0, no finite double y (of either sign) is closer to m / 10^|fp| than x —
      `|units x · 10^|fp| - m·2^1074| ≤ |units y · 10^|fp| - m·2^1074|`, distances scaled by 10^|fp|·2^1074 — and if some
      other value is equally close then the mantissa of x is even (IEEE round-to-nearest, ties-to-even). -/
theorem parse_decimal_nearest {text : Str} (ht : DecimalText text) :
    ∃ x : Float, NumOps.parse (N := Float) text = some x ∧
      NearestDouble (digitsVal (intDigits text ++ fracDigits text)) (10^(fracDigits text).length) x :=
  F64.parse_decimal_nearest ht

/-- the same with rational numbers: x is at least as close to the literal's value as every finite double -/
theorem parse_decimal_nearest_rat {text : Str} (ht : DecimalText text) :
    ∃ x : Float, NumOps.parse (N := Float) text = some x ∧
      (isFinite x = true → ∀ y : Float, isFinite y = true →
        |toRat x - (digitsVal (intDigits text ++ fracDigits text) : ℚ) / ((10^(fracDigits text).length : Nat) : ℚ)| ≤
        |toRat y - (digitsVal (intDigits text ++ fracDigits text) : ℚ) / ((10^(fracDigits text).length : Nat) : ℚ)|) := by
  obtain ⟨x, hp, hn⟩ := F64.parse_decimal_nearest ht
  exact ⟨x, hp, fun hx y hy => nearest_rat _ _ (Nat.pow_pos (by decide)) x hn hx y hy⟩

/-- overflow: a literal whose value reaches the rounding threshold 2^1024 - 2^970 parses to +inf (not an error),
    and every smaller literal parses to a finite, non-negative double -/
theorem parse_decimal_overflow {text : Str} (ht : DecimalText text) :
    ((2^1024 - 2^970) * 10^(fracDigits text).length ≤ digitsVal (intDigits text ++ fracDigits text) →
      NumOps.parse (N := Float) text = some F64.inf) ∧
    (digitsVal (intDigits text ++ fracDigits text) < (2^1024 - 2^970) * 10^(fracDigits text).length →
      ∃ x : Float, NumOps.parse (N := Float) text = some x ∧ isFinite x = true ∧ signBit x = false) := by
  obtain ⟨x, hp, hn⟩ := F64.parse_decimal_nearest ht
  exact ⟨fun h => by rw [← hn.overflow h]; exact hp, fun h => ⟨x, hp, hn.finite h⟩⟩

/-- **Scanning a decimal literal yields the literal token carrying the nearest double** — and no other token list. -/
theorem scan_number_nearest {cc : CharClass} (hcc : cc.AsciiOk) {text : Str} (ht : DecimalText text) :
    ∃ x : Float, scan (N := Float) cc text = .ok [.literal (.num x)] ∧
      NearestDouble (digitsVal (intDigits text ++ fracDigits text)) (10^(fracDigits text).length) x ∧
      ∀ x' : Float, scan (N := Float) cc text = .ok [.literal (.num x')] → x' = x := by
  obtain ⟨x, hp, hn⟩ := parse_decimal_nearest ht
  refine ⟨x, (scan_number hcc ht x).2 hp, hn, fun x' h' => ?_⟩
  have := (scan_number hcc ht x').1 h'
  rw [hp] at this
  exact (Option.some.inj this).symm

/-- 0.1, .5, 5., 0.30000000000000004 (17 digits), 123456789012345678 (rounds to …680), 2^53 + 1 (a tie: to the even
    neighbour 2^53), a 310-digit literal (+inf), 1.7976931348623158e308 written out would be +inf too -/
example : F64.parse ['0','.','1'] = some 0.1 := by decide +kernel
example : F64.parse ['.','5'] = some 0.5 := by decide +kernel
example : F64.parse ['5','.'] = some 5 := by decide +kernel
example : F64.parse ['0','.','3','0','0','0','0','0','0','0','0','0','0','0','0','0','0','0','4'] =
    some ((0.1 : Float) + 0.2) := by decide +kernel
example : F64.parse ['1','2','3','4','5','6','7','8','9','0','1','2','3','4','5','6','7','8'] =
    some 123456789012345680 := by decide +kernel
example : F64.parse ['9','0','0','7','1','9','9','2','5','4','7','4','0','9','9','3'] =
    some 9007199254740992 := by decide +kernel
example : F64.parse ('1' :: List.replicate 309 '0') = some F64.inf := by decide +kernel

example : scan (N := Float) CharClass.ascii ['0','.','1'] = .ok [.literal (.num 0.1)] :=
  (scan_number CharClass.ascii_ok (.intFrac (a := ['0']) (b := ['1']) (by simp) (by simp) (by decide) (by decide)) _).2
    (by show F64.parse _ = _; decide +kernel)
example : scan (N := Float) CharClass.ascii ['.','5'] = .ok [.literal (.num 0.5)] :=
  (scan_number CharClass.ascii_ok (.dotFrac (by simp) (by decide)) _).2 (by show F64.parse _ = _; decide +kernel)
example : scan (N := Float) CharClass.ascii ['5','.'] = .ok [.literal (.num 5)] :=
  (scan_number CharClass.ascii_ok (.intDot (a := ['5']) (by simp) (by decide)) _).2 (by show F64.parse _ = _; decide +kernel)
example : scan (N := Float) CharClass.ascii ('1' :: List.replicate 309 '0') = .ok [.literal (.num F64.inf)] :=
  (scan_number CharClass.ascii_ok (.int (List.cons_ne_nil _ _) (by decide +kernel)) _).2 (by show F64.parse _ = _; decide +kernel)

/-- the theorem instantiated: 0.1 (the double 0x3FB999999999999A) is the double nearest to 1/10 -/
example : NearestDouble 1 10 (0.1 : Float) := by
  obtain ⟨x, hp, hn⟩ := parse_decimal_nearest (text := ['0','.','1'])
    (.intFrac (a := ['0']) (b := ['1']) (by simp) (by simp) (by decide) (by decide))
  have hx : NumOps.parse (N := Float) ['0','.','1'] = some 0.1 := by show F64.parse _ = _; decide +kernel
  rw [hx] at hp
  have hx' : x = 0.1 := (Option.some.inj hp).symm
  subst hx'
  have e1 : digitsVal (intDigits ['0','.','1'] ++ fracDigits ['0','.','1']) = 1 := by decide
  have e2 : 10^(fracDigits ['0','.','1']).length = 10 := by decide
  rw [e1, e2] at hn
  exact hn

/-- and the overflow clause instantiated: 10^309 ≥ 2^1024 - 2^970 -/
example : NumOps.parse (N := Float) ('1' :: List.replicate 309 '0') = some F64.inf :=
  (parse_decimal_overflow (text := '1' :: List.replicate 309 '0') (.int (List.cons_ne_nil _ _) (by decide +kernel))).1
    (by decide +kernel)

end Slac.C02
