/-
  C03 — execute computes the value the language definition prescribes.
  Model: SlacModel.Interp (`evalT`, tied to src/interpreter.rs + src/value.rs by the `eval`, `cmp`, `num` streams).
  Spec:  SlacModel.Spec  (`spec`, DESIGN Appendix A).
  All theorems hold for every number implementation `N`, every environment and every tree — including
  trees with any operator in any position.
-/
import SlacProofs.Refine
set_option autoImplicit false
namespace Slac.C03
variable {N : Type} [NumOps N]

/-- Main theorem: the value — or the winning error — that `execute` returns is the one the language
    definition prescribes. -/
theorem execute_eq_spec (env : Env N) (e : Expr N) : evalR env e = (spec env e).1.toExcept :=
  ((Slac.execute_eq_spec env e).1).symm

/-- `and`, `or`, `xor`, `=`, `<>` and the four comparisons yield a Boolean whenever they succeed —
    with defined, undefined or failing operands on either side. -/
theorem boolean_results (env : Env N) (l r : Expr N) (op : Op) (hop : op ∈ boolOps) (v : Value N)
    (h : evalR env (.binary l r op) = .ok v) : v.isBoolean = true := by
  simp only [evalR, evalT] at h
  exact binModel_bool hop h

/-- `not` yields a Boolean whenever it succeeds. -/
theorem not_boolean (env : Env N) (r : Expr N) (v : Value N)
    (h : evalR env (.unary r .not) = .ok v) : v.isBoolean = true := by
  simp only [evalR, evalT] at h
  generalize evalT env r = m at h
  obtain ⟨m1, m2⟩ := m
  cases m1 <;> cases h
  rfl

/-- Arithmetic never coerces: `- * / div mod` succeed only when both operands evaluated to Numbers, and the
    result is a Number. -/
theorem arithmetic_never_coerces (env : Env N) (l r : Expr N) (op : Op) (hop : op ∈ arithOps) (v : Value N)
    (h : evalR env (.binary l r op) = .ok v) :
    ∃ a b c : N, evalR env l = .ok (.num a) ∧ evalR env r = .ok (.num b) ∧ v = .num c := by
  simp only [evalR, evalT] at h ⊢
  have hcls : op.cls = .strict := by
    simp only [arithOps, List.mem_cons, List.mem_nil_iff, or_false] at hop
    rcases hop with rfl | rfl | rfl | rfl | rfl <;> rfl
  obtain ⟨a, b, ha, hb, hv⟩ := binModel_strict_ok hcls h
  obtain ⟨x, y, z, rfl, rfl, rfl⟩ := binVal_arith hop hv
  exact ⟨x, y, z, ha, hb, rfl⟩

/-- `+` succeeds only on two Strings, two Numbers or two Arrays (concatenation / IEEE addition). -/
theorem plus_same_kind (env : Env N) (l r : Expr N) (v : Value N)
    (h : evalR env (.binary l r .plus) = .ok v) :
    (∃ a b, evalR env l = .ok (.str a) ∧ evalR env r = .ok (.str b) ∧ v = .str (a ++ b)) ∨
    (∃ a b, evalR env l = .ok (.num a) ∧ evalR env r = .ok (.num b) ∧ v = .num (NumOps.add a b)) ∨
    (∃ a b, evalR env l = .ok (.arr a) ∧ evalR env r = .ok (.arr b) ∧ v = .arr (a ++ b)) := by
  simp only [evalR, evalT] at h ⊢
  obtain ⟨a, b, ha, hb, hv⟩ := binModel_strict_ok rfl h
  rw [ha, hb]
  simp only [binVal] at hv
  cases a <;> cases b <;> simp only [Value.add] at hv <;> cases hv
  · exact .inl ⟨_, _, rfl, rfl, rfl⟩
  · exact .inr (.inl ⟨_, _, rfl, rfl, rfl⟩)
  · exact .inr (.inr ⟨_, _, rfl, rfl, rfl⟩)

/-- An operator in ternary position other than the conditional fails without evaluating anything. -/
theorem misplaced_ternary (env : Env N) (l m r : Expr N) (op : Op) (hop : op ≠ .ternaryCondition) :
    evalT env (.ternary l m r op) = (.error (.invalidTernary op), []) := by
  simp only [evalT, ternModel_other hop]

/-- An undefined variable behaves as the empty value under `=`: `u = e` is `isEmpty (value of e)`. -/
theorem undefined_eq_empty (env : Env N) (u : Str) (r : Expr N) (v : Value N) (hu : env.var u = none)
    (hr : evalR env r = .ok v) : evalR env (.binary (.var u) r .equal) = .ok (.bool v.isEmpty) := by
  simp only [evalR, evalT, hu]
  rw [evalT_of_evalR hr]; rfl

/-- An undefined variable behaves as the empty value under `or`: `u or e` is `asBool (value of e)` — a Boolean. -/
theorem undefined_or (env : Env N) (u : Str) (r : Expr N) (v : Value N) (hu : env.var u = none)
    (hr : evalR env r = .ok v) : evalR env (.binary (.var u) r .or) = .ok (.bool v.asBool) := by
  simp only [evalR, evalT, hu]
  rw [evalT_of_evalR hr]; rfl

/-- The first failing operand wins: a failing (not merely undefined) left operand is the result of every
    binary node, whatever the operator and the right operand. -/
theorem left_failure_wins (env : Env N) (l r : Expr N) (op : Op) (e : Err) (hne : ∀ n, e ≠ .undefinedVariable n)
    (hl : evalR env l = .error e) : evalR env (.binary l r op) = .error e := by
  simp only [evalR, evalT]
  rw [evalT_of_evalR hl, binModel_left_error op hne]

end Slac.C03
