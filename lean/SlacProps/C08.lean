/-
  C08 — execute, optimize, validators and (de)serialization are total on any tree.
  PARTIAL by nature.  `Expr N` has no well-formedness side condition: every theorem of this development that
  quantifies over trees already covers trees with any operator in any position, empty/odd names, non-finite and array
  literals and wrong argument counts.  The tree functions of the model (evalT, checkVF, checkBool, Json.ofExpr,
  Json.toExpr) are structurally recursive total functions WITHOUT a panic or fuel outcome, so "returns normally" is a
  statement about the code that rests on the tie: all tree streams on the ill-formed generator, in worker processes,
  nesting to depth 64.  What Lean adds: the one fuelled function (optimize) never runs out of fuel, and the work of
  every function is bounded by the size of the tree (no hidden re-evaluation).  Real stack depth and wall-clock are
  observed, not proved.
-/
import SlacProps.C04
import SlacProps.C06
import SlacModel.Validate
set_option autoImplicit false
set_option linter.unusedSectionVars false
namespace Slac.C08
open Slac.Opt
variable {N : Type} [NumOps N]

/-- `optimize` never runs out of fuel on ANY tree: the loop makes at most `mu e + 1` rounds. -/
theorem optimize_total (env : Env N) (e : Expr N) : optimize env (mu e + 1) e ≠ .outOfFuel :=
  C06.optimize_terminates env (mu e + 1) e (Nat.lt_succ_self _)

/-- … and the number of rounds is at most twice the number of nodes, plus one. -/
theorem mu_le_nodes (e : Expr N) : mu e ≤ 2 * nodes e := by
  refine Expr.rec (motive_1 := fun e => mu e ≤ 2 * nodes e) (motive_2 := fun es => muL es ≤ 2 * nodesL es)
    ?_ ?_ ?_ ?_ ?_ ?_ ?_ ?_ ?_ e
  · intro r _ ih; simp only [mu, nodes]; omega
  · intro l r _ ihl ihr; simp only [mu, nodes]; omega
  · intro l m r _ ihl ihm ihr; simp only [mu, nodes]; omega
  · intro es ih; simp only [mu, nodes]; omega
  · intro _; simp only [mu, nodes]; omega
  · intro _; simp only [mu, nodes]; omega
  · intro n ps ih
    simp only [mu, nodes]
    split
    · split <;> omega
    · omega
  · simp only [muL, nodesL]; omega
  · intro e es ih1 ih2; simp only [muL, nodesL]; omega

/-- Execution touches each node at most once: the number of environment events is bounded by the number of nodes
    (no operand is ever evaluated twice, whatever the operators and their positions). -/
theorem trace_le_nodes (env : Env N) (e : Expr N) : (evalT env e).2.length ≤ nodes e := by
  refine Expr.rec (motive_1 := fun e => (evalT env e).2.length ≤ nodes e)
    (motive_2 := fun es => (evalList env es).2.length ≤ nodesL es) ?_ ?_ ?_ ?_ ?_ ?_ ?_ ?_ ?_ e
  · intro r op ih
    simp only [evalT, nodes, unModel_trace]; omega
  · intro l r op ihl ihr
    simp only [evalT, nodes]
    rcases binModel_trace op (evalT env l) (evalT env r) with h | h <;> rw [h] <;>
      (try simp only [List.length_append]) <;> omega
  · intro l m r op ihl ihm ihr
    simp only [evalT, nodes]
    rcases ternModel_trace op (evalT env l) (evalT env m) (evalT env r) with h | h | h | h <;> rw [h] <;>
      (try simp only [List.length_append, List.length_nil]) <;> omega
  · intro es ih
    simp only [evalT, nodes]
    generalize evalList env es = m at ih ⊢
    obtain ⟨m1, m2⟩ := m
    cases m1 <;> (simp only at ih ⊢; omega)
  · intro v; simp [evalT]
  · intro n; simp [evalT, nodes]
  · intro f ps ih
    simp only [evalT, nodes]
    generalize evalList env ps = m at ih ⊢
    obtain ⟨m1, m2⟩ := m
    cases m1 <;> simp only [List.length_append, List.length_cons, List.length_nil] <;> (simp only at ih; omega)
  · simp [evalList]
  · intro e es ih1 ih2
    simp only [evalList, nodesL]
    generalize evalT env e = m at ih1 ⊢
    generalize evalList env es = ms at ih2 ⊢
    obtain ⟨m1, m2⟩ := m; obtain ⟨s1, s2⟩ := ms
    cases m1 <;> simp only []
    · simp only at ih1; omega
    · cases s1 <;> simp only [List.length_append] <;> (simp only at ih1 ih2; omega)

/-- The validators are decided by one structural pass: they return `ok` or a first error for every tree. -/
theorem validators_total (env : Env N) (e : Expr N) :
    (checkVF env e = .ok () ∨ ∃ x, checkVF env e = .error x) ∧ (checkBool e = .ok () ∨ ∃ x, checkBool e = .error x) := by
  constructor
  · cases h : checkVF env e with
    | ok u => exact .inl rfl
    | error x => exact .inr ⟨x, rfl⟩
  · cases h : checkBool e with
    | ok u => exact .inl rfl
    | error x => exact .inr ⟨x, rfl⟩

/-- Misplaced operators are ordinary error VALUES of `execute`, for every operator in every position. -/
theorem misplaced_operators_are_errors (env : Env N) (l m r : Expr N) (v w : Value N) :
    (∀ op, op ≠ .minus → op ≠ .not → evalR env (.unary (.lit v) op) = .error (.invalidUnary op)) ∧
    (∀ op, op ≠ .ternaryCondition → evalR env (.ternary l m r op) = .error (.invalidTernary op)) ∧
    evalR env (.binary (.lit v) (.lit w) .not) = .error (.invalidBinary .not) ∧
    evalR env (.binary (.lit v) (.lit w) .ternaryCondition) = .error (.invalidBinary .ternaryCondition) := by
  refine ⟨?_, ?_, rfl, rfl⟩
  · intro op h1 h2; cases op <;> first | rfl | exact absurd rfl h1 | exact absurd rfl h2
  · intro op h; simp only [evalR, evalT, ternModel_other h]

end Slac.C08
