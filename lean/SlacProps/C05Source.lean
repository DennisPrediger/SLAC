/-
  C05 / C06 — the translator leg of the tie for the optimizer.  `SlacModel/Generated/SrcOptimizer.lean` is REGENERATED
  on every check run by /verif/tools/rs2lean.py from the current text of /repo/src/optimizer.rs (and the constant
  `TERNARY_IF_THEN` of src/stdlib/common.rs).  The translation threads the `&mut bool found_const` flag through
  every call (`fc` below) and returns the tree the `&mut Expression` is left with, the flag, and the error of `?`.
  The theorems say that the hand-written model of SlacModel/Optimizer.lean is exactly the translated source:
    * `ifThenName = TERNARY_IF_THEN`, `allLit es = expressions_are_const es`;
    * `transform_ternary e fc = (transform e, fc || transformFound e)` and, for `transform_ternary_each`,
      `(transformL es, fc || decide (if3L es > 0))`: the flag is only ever set, and it is set iff the tree contains
      a three-argument `if_then` call (`transformFound e = decide (if3 e > 0)`);
    * `fold_constants env e fc = ((fold env e).tree, fc || (fold env e).found, (fold env e).err)` and the same for
      `fold_constants_each` / `foldL`: the tree left behind, the flag and the error of the model are the source's,
      for every incoming value of the flag;
    * `optimize env fuel e = Opt.optimize env fuel e` (the `loop { … }` of the source with the model's fuel).
  A changed arm in optimizer.rs changes the generated file and breaks one of these proofs.
-/
import SlacModel.Generated.SrcOptimizer
import SlacProofs.OptMu
set_option autoImplicit false
set_option linter.unusedSectionVars false
namespace Slac.C05Source
open Slac.Generated
variable {N : Type} [NumOps N]

/-- `TERNARY_IF_THEN` of src/stdlib/common.rs -/
theorem ifThenName_is_source : Opt.ifThenName = SrcOptimizer.TERNARY_IF_THEN := rfl

/-- `expressions_are_const` -/
theorem allLit_is_source (es : List (Expr N)) : Opt.allLit es = SrcOptimizer.expressions_are_const es := by
  induction es with
  | nil => rfl
  | cons e es ih =>
    cases e <;> simp_all [Opt.allLit, Opt.isLit, SrcOptimizer.expressions_are_const]

/-- `found_const` bookkeeping: a sum is positive iff one of the summands is -/
theorem pos_add (a b : Nat) : decide (a + b > 0) = (decide (a > 0) || decide (b > 0)) := by
  by_cases ha : a > 0 <;> by_cases hb : b > 0 <;> simp [ha, hb] <;> omega

theorem transform_both :
    (∀ (e : Expr N) (fc : Bool), SrcOptimizer.transform_ternary e fc = (Opt.transform e, fc || Opt.transformFound e)) ∧
    (∀ (es : List (Expr N)) (fc : Bool),
      SrcOptimizer.transform_ternary_each es fc = (Opt.transformL es, fc || decide (Opt.if3L es > 0))) := by
  refine Expr.rec_both ?_ ?_ ?_ ?_ ?_ ?_ ?_ ?_ ?_
  · intro r op ih fc
    simp [SrcOptimizer.transform_ternary, Opt.transform, Opt.transformFound, Opt.if3, ih]
  · intro l r op ihl ihr fc
    simp [SrcOptimizer.transform_ternary, Opt.transform, Opt.transformFound, Opt.if3, ihl, ihr, pos_add, Bool.or_assoc]
  · intro l m r op ihl ihm ihr fc
    simp [SrcOptimizer.transform_ternary, Opt.transform, Opt.transformFound, Opt.if3, ihl, ihm, ihr, pos_add, Bool.or_assoc]
  · intro es ih fc
    simp [SrcOptimizer.transform_ternary, Opt.transform, Opt.transformFound, Opt.if3, ih]
  · intro v fc
    simp [SrcOptimizer.transform_ternary, Opt.transform, Opt.transformFound, Opt.if3]
  · intro n fc
    simp [SrcOptimizer.transform_ternary, Opt.transform, Opt.transformFound, Opt.if3]
  · intro n ps ih fc
    by_cases hn : n = Opt.ifThenName
    · rcases ps with _ | ⟨a, _ | ⟨b, _ | ⟨c, _ | ⟨d, ps⟩⟩⟩⟩ <;>
        simp [SrcOptimizer.transform_ternary, Opt.transform, Opt.transformFound, Opt.if3, ih, hn,
          ← ifThenName_is_source, pos_add]
    · simp [SrcOptimizer.transform_ternary, Opt.transform, Opt.transformFound, Opt.if3, ih, hn,
          ← ifThenName_is_source]
  · intro fc
    simp [SrcOptimizer.transform_ternary_each, Opt.transformL, Opt.if3L]
  · intro e es ihe ihes fc
    simp [SrcOptimizer.transform_ternary_each, Opt.transformL, Opt.if3L, ihe, ihes, Opt.transformFound, pos_add, Bool.or_assoc]

/-- src/optimizer.rs `transform_ternary` -/
theorem transform_is_source (e : Expr N) (fc : Bool) :
    SrcOptimizer.transform_ternary e fc = (Opt.transform e, fc || Opt.transformFound e) := transform_both.1 e fc

/-- the loop of `transform_ternary` over `values` / `params` -/
theorem transformL_is_source (es : List (Expr N)) (fc : Bool) :
    SrcOptimizer.transform_ternary_each es fc = (Opt.transformL es, fc || decide (Opt.if3L es > 0)) :=
  transform_both.2 es fc

theorem fold_both (env : Env N) :
    (∀ (e : Expr N) (fc : Bool), SrcOptimizer.fold_constants env e fc =
      ((Opt.fold env e).tree, fc || (Opt.fold env e).found, (Opt.fold env e).err)) ∧
    (∀ (es : List (Expr N)) (fc : Bool), SrcOptimizer.fold_constants_each env es fc =
      ((Opt.foldL env es).1, fc || (Opt.foldL env es).2.1, (Opt.foldL env es).2.2)) := by
  refine Expr.rec_both ?_ ?_ ?_ ?_ ?_ ?_ ?_ ?_ ?_
  · intro r op ih fc
    rw [SrcOptimizer.fold_constants.eq_def, Opt.fold.eq_def]
    by_cases hb : Opt.isLit r = true
    · obtain ⟨v, rfl⟩ := Opt.isLit_iff.1 hb
      cases h : evalR env (.unary (.lit v) op) <;> simp [Opt.isLit, Opt.exec, h]
    · -- `simp` discharges the side condition of the source's catch-all arm with `hc` (likewise in the next two cases)
      have hc : ∀ v, r = .lit v → False := by rintro v rfl; exact hb rfl
      simp only [ih]
      generalize Opt.fold env r = fr
      obtain ⟨t, f, er⟩ := fr
      cases er <;> simp [hb]
  · intro l r op ihl ihr fc
    rw [SrcOptimizer.fold_constants.eq_def, Opt.fold.eq_def]
    simp only [ihl, ihr]
    generalize Opt.fold env l = fl
    generalize Opt.fold env r = fr
    obtain ⟨tl, fl, el⟩ := fl
    obtain ⟨tr, fr, er⟩ := fr
    by_cases hb : (Opt.isLit l && Opt.isLit r) = true
    · simp only [Bool.and_eq_true, Opt.isLit_iff] at hb
      obtain ⟨⟨v, rfl⟩, ⟨w, rfl⟩⟩ := hb
      cases h : evalR env (.binary (.lit v) (.lit w) op) <;> simp [Opt.isLit, Opt.exec, h]
    · have hc : ∀ v w, l = .lit v → r = .lit w → False := by rintro v w rfl rfl; exact hb rfl
      cases el <;> cases er <;> simp [hb, Bool.or_assoc]
  · intro l m r op ihl ihm ihr fc
    rw [SrcOptimizer.fold_constants.eq_def, Opt.fold.eq_def]
    simp only [ihl, ihm, ihr]
    generalize Opt.fold env l = fl
    generalize Opt.fold env m = fm
    generalize Opt.fold env r = fr
    obtain ⟨tl, fl, el⟩ := fl
    obtain ⟨tm, fm, em⟩ := fm
    obtain ⟨tr, fr, er⟩ := fr
    by_cases hc : ∃ v, l = .lit v ∧ op = .ternaryCondition
    · obtain ⟨v, rfl, rfl⟩ := hc
      cases h : Value.asBool v <;> simp [h]
    · have hc' : ∀ v, l = .lit v → op = .ternaryCondition → False := fun v h1 h2 => hc ⟨v, h1, h2⟩
      cases el <;> cases em <;> cases er <;> simp [Bool.or_assoc]
  · intro es ih fc
    rw [SrcOptimizer.fold_constants.eq_def, Opt.fold.eq_def]
    simp only [ih, ← allLit_is_source]
    generalize Opt.foldL env es = p
    obtain ⟨es', f, er⟩ := p
    by_cases h : Opt.allLit es
    · cases hv : evalR env (.array es) <;> simp [h, Opt.exec, hv]
    · cases er <;> simp [h]
  · intro v fc
    rw [SrcOptimizer.fold_constants.eq_def, Opt.fold.eq_def]; simp
  · intro n fc
    rw [SrcOptimizer.fold_constants.eq_def, Opt.fold.eq_def]; simp
  · intro n ps ih fc
    rw [SrcOptimizer.fold_constants.eq_def, Opt.fold.eq_def]
    simp only [ih, ← allLit_is_source]
    generalize Opt.foldL env ps = p
    generalize hfe : env.fnExists n ps.length = fe
    obtain ⟨ps', f, er⟩ := p
    by_cases h : Opt.allLit ps
    · cases fe with
      | exist pure =>
        cases pure
        · simp [h]
        · cases hv : evalR env (.call n ps) <;> simp [h, Opt.exec, hv]
      | _ => simp [h]
    · cases er <;> simp [h]
  · intro fc
    rw [SrcOptimizer.fold_constants_each.eq_def, Opt.foldL.eq_def]; simp
  · intro e es ihe ihes fc
    rw [SrcOptimizer.fold_constants_each.eq_def, Opt.foldL.eq_def]
    simp only [ihe, ihes]
    generalize Opt.fold env e = fe
    generalize Opt.foldL env es = p
    obtain ⟨te, fe, ee⟩ := fe
    obtain ⟨es', f, er⟩ := p
    cases ee <;> simp [Bool.or_assoc]

/-- src/optimizer.rs `fold_constants` -/
theorem fold_is_source (env : Env N) (e : Expr N) (fc : Bool) :
    SrcOptimizer.fold_constants env e fc =
      ((Opt.fold env e).tree, fc || (Opt.fold env e).found, (Opt.fold env e).err) := (fold_both env).1 e fc

/-- the loop of `fold_constants` over `values` / `params` (stops at the first error) -/
theorem foldL_is_source (env : Env N) (es : List (Expr N)) (fc : Bool) :
    SrcOptimizer.fold_constants_each env es fc =
      ((Opt.foldL env es).1, fc || (Opt.foldL env es).2.1, (Opt.foldL env es).2.2) := (fold_both env).2 es fc

/-- the `loop` of `optimize`, entered with `found_const = false` -/
theorem optimize_loop_is_source (env : Env N) (fuel : Nat) (e : Expr N) :
    SrcOptimizer.optimize_loop env fuel e false = Opt.optimize env fuel e := by
  induction fuel generalizing e with
  | zero => simp [SrcOptimizer.optimize_loop, Opt.optimize]
  | succ n ih =>
    rw [SrcOptimizer.optimize_loop.eq_def, Opt.optimize.eq_def]
    simp only [transform_is_source, fold_is_source, Bool.false_or]
    generalize Opt.fold env (Opt.transform e) = fr
    obtain ⟨t, f, er⟩ := fr
    cases er <;> simp [ih]

/-- src/optimizer.rs `optimize` -/
theorem optimize_is_source (env : Env N) (fuel : Nat) (e : Expr N) :
    SrcOptimizer.optimize env fuel e = Opt.optimize env fuel e := by
  simp only [SrcOptimizer.optimize, optimize_loop_is_source]

end Slac.C05Source
