/-
  C13 — the comparison operators, compare(), min/max, between and sort are views of ONE ordering of values
  (`Value.cmp`, src/value.rs `Ord::cmp`).

  What the code really satisfies (and what it does not):
  (A) for ALL values (NaN, signed zeros, infinities, numeric / non-numeric strings, booleans, nested arrays):
      the ordering is oriented and total (`a<b ⇔ b>a`, `a<=b ⇔ ¬ a>b`, `a>=b ⇔ b<=a`, `a<>b ⇔ ¬ a=b`, `=` symmetric),
      `compare` returns -1/0/1 consistently with the operators, `between(v,lo,hi) ⇔ lo<=v ∧ v<=hi`,
      `min`/`max` return members of their input, `sort` returns a permutation of its input.
  (B) the ordering is NOT transitive on all values (part C); it is a total preorder on every `Safe` collection:
      no NaN leaf, and not both a numeric-string leaf and a Number leaf.  There: `sort` output is sorted
      (pairwise), sorting is idempotent and it is THE stable sorted permutation (so the model is tied to Rust's
      stable `slice::sort`), `max`/`min` bound all members.
  (C) kernel-checked counterexamples to transitivity outside Safe:  '9' <= 9.5 <= '10' but not '9' <= '10';
      1 <= NaN <= 0 but not 1 <= 0.
  Number facts are the hypotheses `LawfulNum N`, proved for the driver's bit-level `Float` instance
  (SlacProofs.OrderNum).
-/
import SlacModel.Interp
import SlacProofs.OrderStable
set_option autoImplicit false
namespace Slac.C13
variable {N : Type} [NumOps N]
open Value StdOrder Order

/-! ## the operators and built-ins are views of `Value.cmp` / `Value.eq` (by definition of the model) -/

/-- `<`, `<=`, `>`, `>=`, `=`, `<>` of the interpreter are `lt`, `le`, `gt`, `ge`, `eq`, `!eq`. -/
theorem operators_are_views (a b : Value N) :
    binVal .less a b = .ok (.bool (Value.lt a b)) ∧ binVal .lessEqual a b = .ok (.bool (Value.le a b)) ∧
    binVal .greater a b = .ok (.bool (Value.gt a b)) ∧ binVal .greaterEqual a b = .ok (.bool (Value.ge a b)) ∧
    binVal .equal a b = .ok (.bool (Value.eq a b)) ∧ binVal .notEqual a b = .ok (.bool (!Value.eq a b)) :=
  ⟨rfl, rfl, rfl, rfl, rfl, rfl⟩

example : binVal (N := Float) .less (.str ['a']) (.num 1) = .ok (.bool true) := by rfl

/-- `a <> b` iff not `a = b` -/
theorem ne_iff_not_eq (a b : Value N) :
    binVal .notEqual a b = .ok (.bool (!Value.eq a b)) ∧ binVal .equal a b = .ok (.bool (Value.eq a b)) :=
  ⟨rfl, rfl⟩

example : binVal (N := Float) .notEqual (.bool true) (.num 1) = .ok (.bool false) := by rfl

/-! ## (A) laws for ALL values -/
section A

/-- the ordering is oriented: swapping the operands swaps the result -/
theorem cmp_swap [LawfulNum N] (a b : Value N) : cmp b a = (cmp a b).swap := Order.cmp_swap a b

example : cmp (N := Float) (.num F64.nan) (.arr [.str ['1']]) = .lt ∧
    cmp (N := Float) (.arr [.str ['1']]) (.num F64.nan) = .gt := by decide +kernel

instance cmp_oriented [LawfulNum N] : Std.OrientedCmp (Value.cmp (N := N)) := inferInstance

/-- `a < b` iff `b > a` -/
theorem lt_iff_gt [LawfulNum N] (a b : Value N) : Value.lt a b = Value.gt b a := by
  simp only [Value.lt, Value.gt]; rw [cmp_swap a b]; cases cmp a b <;> rfl

/-- `a <= b` iff not `a > b` -/
theorem le_iff_not_gt (a b : Value N) : Value.le a b = !Value.gt a b := by
  simp only [Value.le, Value.gt]; cases cmp a b <;> rfl

/-- `a >= b` iff `b <= a` -/
theorem ge_iff_le [LawfulNum N] (a b : Value N) : Value.ge a b = Value.le b a := by
  simp only [Value.le, Value.ge]; rw [cmp_swap a b]; cases cmp a b <;> rfl

/-- `a >= b` iff not `a < b` -/
theorem ge_iff_not_lt (a b : Value N) : Value.ge a b = !Value.lt a b := by
  simp only [Value.ge, Value.lt]; cases cmp a b <;> rfl

example : Value.lt (N := Float) (.num (-0.0)) (.num 0) = false ∧ Value.gt (N := Float) (.num 0) (.num (-0.0)) = false ∧
    Value.le (N := Float) (.str ['1', '0']) (.num 9) = false ∧ Value.gt (N := Float) (.str ['1', '0']) (.num 9) = true := by
  decide +kernel

/-- `=` is symmetric (also across kinds: `true = 1`, `'1.0' = 1`, NaN ≠ NaN) -/
theorem eq_symm [LawfulNum N] (a b : Value N) : Value.eq a b = Value.eq b a := Order.eq_symm a b

example : Value.eq (N := Float) (.bool true) (.num 1) = true ∧ Value.eq (N := Float) (.num 1) (.bool true) = true ∧
    Value.eq (N := Float) (.num F64.nan) (.num F64.nan) = false := by decide +kernel

/-- the ordering is reflexive and total on all values -/
theorem le_refl [LawfulNum N] (a : Value N) : Value.le a a = true := Order.le_refl a
theorem le_total [LawfulNum N] (a b : Value N) : Value.le a b = true ∨ Value.le b a = true := Order.le_total a b

/-- `compare` returns the code of `cmp`, one of -1 / 0 / 1, consistently with the operators
    (`ordCode .lt = -(1)`, `ordCode .eq = 0`, `ordCode .gt = 1`). -/
theorem compare_consistent (a b : Value N) :
    ∃ o : Ordering, StdOrder.compare [a, b] = .ok (.num (ordCode o)) ∧
      (o = .lt ↔ Value.lt a b = true) ∧ (o = .gt ↔ Value.gt a b = true) ∧
      (o = .eq ↔ (Value.le a b = true ∧ Value.ge a b = true)) := by
  refine ⟨cmp a b, rfl, ?_, ?_, ?_⟩ <;> simp only [Value.lt, Value.gt, Value.le, Value.ge] <;>
    cases cmp a b <;> simp

/-- `compare(a, b) = -compare(b, a)` at the level of orderings -/
theorem compare_swap [LawfulNum N] (a b : Value N) :
    StdOrder.compare [b, a] = .ok (.num (ordCode (cmp a b).swap)) := by
  simp only [StdOrder.compare]; rw [cmp_swap a b]

/-- any other number of parameters is an arity error -/
theorem compare_arity (ps : List (Value N)) (h : ps.length ≠ 2) :
    StdOrder.compare ps = .error (.wrongParameterCount 2) := by
  match ps with
  | [] | [_] | _ :: _ :: _ :: _ => rfl
  | [_, _] => simp at h

/-- `between(v, lo, hi)` holds iff `lo <= v` and `v <= hi` -/
theorem between_iff [LawfulNum N] (v lo hi : Value N) :
    StdOrder.between [v, lo, hi] = .ok (.bool (Value.le lo v && Value.le v hi)) := by
  simp only [StdOrder.between]; rw [ge_iff_le]

theorem between_arity (ps : List (Value N)) (h : ps.length ≠ 3) :
    StdOrder.between ps = .error (.wrongParameterCount 3) := by
  match ps with
  | [] | [_] | [_, _] | _ :: _ :: _ :: _ :: _ => rfl
  | [_, _, _] => simp at h

example : StdOrder.between (N := Float) [.num 5, .str ['1'], .num F64.inf] = .ok (.bool true) := by rfl

theorem max_eq_ok (ps : List (Value N)) (m : Value N) : StdOrder.max ps = .ok m ↔ maxV (smartVec ps) = some m := by
  unfold StdOrder.max; cases maxV (smartVec ps) <;> simp

theorem min_eq_ok (ps : List (Value N)) (m : Value N) : StdOrder.min ps = .ok m ↔ minV (smartVec ps) = some m := by
  unfold StdOrder.min; cases minV (smartVec ps) <;> simp

/-- `max` returns a member of its (non-empty) input, and fails exactly on empty input -/
theorem max_mem (ps : List (Value N)) (m : Value N) (h : StdOrder.max ps = .ok m) : m ∈ smartVec ps :=
  maxV_mem ((max_eq_ok ps m).1 h)
theorem max_ok_iff (ps : List (Value N)) : (∃ m, StdOrder.max ps = .ok m) ↔ smartVec ps ≠ [] := by
  simp only [max_eq_ok]; cases smartVec ps <;> simp [maxV]
theorem max_empty (ps : List (Value N)) (h : smartVec ps = []) :
    ∃ e, StdOrder.max ps = .error e := by
  unfold StdOrder.max; rw [h]; exact ⟨_, rfl⟩
/-- without parameters the error is the parameter-count error; `max([])` is *not* a parameter-count error -/
theorem max_no_params : StdOrder.max ([] : List (Value N)) = .error (.wrongParameterCount 1) := rfl
theorem max_empty_array_not_count (k : Nat) : StdOrder.max [(.arr [] : Value N)] ≠ .error (.wrongParameterCount k) := by
  intro h; simp [StdOrder.max, smartVec, maxV, emptyError] at h

/-- `min` returns a member of its (non-empty) input, and fails exactly on empty input -/
theorem min_mem (ps : List (Value N)) (m : Value N) (h : StdOrder.min ps = .ok m) : m ∈ smartVec ps :=
  minV_mem ((min_eq_ok ps m).1 h)
theorem min_ok_iff (ps : List (Value N)) : (∃ m, StdOrder.min ps = .ok m) ↔ smartVec ps ≠ [] := by
  simp only [min_eq_ok]; cases smartVec ps <;> simp [minV]
theorem min_empty (ps : List (Value N)) (h : smartVec ps = []) :
    ∃ e, StdOrder.min ps = .error e := by
  unfold StdOrder.min; rw [h]; exact ⟨_, rfl⟩
theorem min_no_params : StdOrder.min ([] : List (Value N)) = .error (.wrongParameterCount 1) := rfl
theorem min_empty_array_not_count (k : Nat) : StdOrder.min [(.arr [] : Value N)] ≠ .error (.wrongParameterCount k) := by
  intro h; simp [StdOrder.min, smartVec, minV, emptyError] at h

/-- `sort` returns a permutation of its input — for ALL inputs -/
theorem sort_perm (xs : List (Value N)) : (sortBy xs).Perm xs := Order.sortBy_perm xs

/-- the built-in: one Array ⇒ the sorted Array; one non-Array ⇒ type error; otherwise arity error -/
theorem sort_builtin (xs : List (Value N)) :
    ∃ ys, StdOrder.sort [.arr xs] = .ok (.arr ys) ∧ ys.Perm xs ∧ ys.length = xs.length :=
  ⟨sortBy xs, rfl, sort_perm xs, (sort_perm xs).length_eq⟩
theorem sort_wrong_type (v : Value N) (h : ∀ xs, v ≠ .arr xs) : StdOrder.sort [v] = .error .wrongParameterType := by
  cases v with
  | arr xs => exact absurd rfl (h xs)
  | _ => rfl
theorem sort_arity (ps : List (Value N)) (h : ps.length ≠ 1) :
    StdOrder.sort ps = .error (.wrongParameterCount 1) := by
  match ps with
  | [] => rfl
  | a :: _ :: _ => cases a <;> rfl
  | [_] => simp at h

/-- In the insertion-sort model adjacent sortedness and idempotence hold for all inputs (orientation suffices).
    Only on Safe inputs is the model tied to Rust's `slice::sort` (see `sort_unique`). -/
theorem sort_adjacent_model [LawfulNum N] (xs : List (Value N)) : AdjSorted (sortBy xs) := Order.sortBy_adj xs
theorem sort_idempotent_model [LawfulNum N] (xs : List (Value N)) : sortBy (sortBy xs) = sortBy xs := Order.sortBy_idem xs

end A

theorem ordCode_float_inj (o o' : Ordering) (h : (ordCode o : Float) = ordCode o') : o = o' := by
  have ⟨h1, h2, h3⟩ : (ordCode .lt : Float) ≠ ordCode .eq ∧ (ordCode .lt : Float) ≠ ordCode .gt ∧
      (ordCode .eq : Float) ≠ ordCode .gt := by decide +kernel
  cases o <;> cases o'
  · rfl
  · exact absurd h h1
  · exact absurd h h2
  · exact absurd h.symm h1
  · rfl
  · exact absurd h h3
  · exact absurd h.symm h2
  · exact absurd h.symm h3
  · rfl

/-- with the driver's numbers the three codes are the distinct numbers -1, 0, 1 -/
theorem compare_float (a b : Value Float) :
    (StdOrder.compare [a, b] = .ok (.num (-1)) ∨ StdOrder.compare [a, b] = .ok (.num 0) ∨
      StdOrder.compare [a, b] = .ok (.num 1)) ∧
    (StdOrder.compare [a, b] = .ok (.num (-1)) ↔ Value.lt a b = true) ∧
    (StdOrder.compare [a, b] = .ok (.num 1) ↔ Value.gt a b = true) ∧
    (StdOrder.compare [a, b] = .ok (.num 0) ↔ (Value.le a b = true ∧ Value.ge a b = true)) := by
  have key : ∀ o, StdOrder.compare [a, b] = .ok (.num (ordCode o)) ↔ cmp a b = o := fun o =>
    ⟨fun h => ordCode_float_inj _ _ (by injection h with h; injection h), fun h => by rw [← h]; rfl⟩
  refine ⟨?_, (key .lt).trans beq_iff_eq.symm, (key .gt).trans beq_iff_eq.symm, (key .eq).trans ?_⟩
  · cases h : cmp a b
    · exact .inl ((key .lt).2 h)
    · exact .inr (.inl ((key .eq).2 h))
    · exact .inr (.inr ((key .gt).2 h))
  · simp only [Value.le, Value.ge]; cases cmp a b <;> decide

example : StdOrder.compare (N := Float) [.str ['2'], .num 10] = .ok (.num (-1)) :=
  (compare_float _ _).2.1.2 (by decide +kernel)
example : StdOrder.compare (N := Float) [.num 1, .num F64.nan] = .ok (.num 0) :=
  (compare_float _ _).2.2.2.2 (by decide +kernel)

/-! ## (B) total preorder on the Safe domain -/
section B
variable [LawfulNum N]

/-- The domain: over all leaves of all members, no NaN, and not both a numeric String and a Number.
    (`Order.Safe`, decidable: `Order.safeB`.) -/
abbrev Safe (xs : List (Value N)) : Prop := Order.Safe xs

example : Safe (N := Float)
    [.bool true, .str ['a'], .num 1.5, .arr [.num (-0.0), .str [], .arr [.bool false]], .num F64.inf, .str ['n','a','n']] := by
  decide +kernel
/-- numeric strings are fine as long as no Number is around -/
example : Safe (N := Float) [.str ['9'], .str ['1','0'], .arr [.str ['1','e','3']], .bool false] := by decide +kernel
example : ¬ Safe (N := Float) [.str ['9'], .arr [.arr [.num 1]]] := by decide +kernel
example : ¬ Safe (N := Float) [.arr [.num F64.nan]] := by decide +kernel

/-- transitivity of `<=` for any three members of a Safe collection -/
theorem cmp_trans {xs : List (Value N)} (h : Safe xs) {a b c : Value N} (ha : a ∈ xs) (hb : b ∈ xs) (hc : c ∈ xs)
    (h1 : Value.le a b = true) (h2 : Value.le b c = true) : Value.le a c = true :=
  (Order.Safe.transOn h) a b c ha hb hc h1 h2

/-- the same for a Safe triple -/
theorem cmp_trans3 {a b c : Value N} (h : Safe [a, b, c])
    (h1 : Value.le a b = true) (h2 : Value.le b c = true) : Value.le a c = true :=
  cmp_trans h (by simp) (by simp) (by simp) h1 h2

example : Value.le (N := Float) (.bool true) (.num 3) = true :=
  cmp_trans3 (b := .str ['x']) (by decide +kernel) (by decide +kernel) (by decide +kernel)

/-- `<` is transitive, and equivalent values compare alike against any third (TransCmp-strength facts) -/
theorem lt_trans {xs : List (Value N)} (h : Safe xs) {a b c : Value N} (ha : a ∈ xs) (hb : b ∈ xs) (hc : c ∈ xs)
    (h1 : Value.lt a b = true) (h2 : Value.lt b c = true) : Value.lt a c = true := by
  simp only [Value.lt, beq_iff_eq] at *
  exact (cmp_tri_of_safe h ha hb hc).2.2.1 h1 h2
theorem cmp_congr_left {xs : List (Value N)} (h : Safe xs) {a b c : Value N} (ha : a ∈ xs) (hb : b ∈ xs)
    (hc : c ∈ xs) (h1 : cmp a b = .eq) : cmp a c = cmp b c :=
  (cmp_tri_of_safe h ha hb hc).1 h1

/-- on a Safe collection `<=` is a total preorder -/
theorem total_preorder {xs : List (Value N)} (h : Safe xs) :
    (∀ a ∈ xs, Value.le a a = true) ∧
    (∀ a ∈ xs, ∀ b ∈ xs, Value.le a b = true ∨ Value.le b a = true) ∧
    (∀ a ∈ xs, ∀ b ∈ xs, ∀ c ∈ xs, Value.le a b = true → Value.le b c = true → Value.le a c = true) :=
  ⟨fun a _ => le_refl a, fun a _ b _ => le_total a b, fun _ ha _ hb _ hc => cmp_trans h ha hb hc⟩

/-- sorting a Safe array: no element is greater than its successor … -/
theorem sort_sorted {xs : List (Value N)} (_h : Safe xs) : AdjSorted (sortBy xs) := Order.sortBy_adj xs
/-- … in fact no element is greater than any later one -/
theorem sort_pairwise {xs : List (Value N)} (h : Safe xs) :
    (sortBy xs).Pairwise (fun a b => Value.le a b = true) := Order.sortBy_pairwise h
/-- sorting again changes nothing -/
theorem sort_idempotent {xs : List (Value N)} (_h : Safe xs) : sortBy (sortBy xs) = sortBy xs :=
  Order.sortBy_idem xs
/-- `sortBy` keeps equivalent elements in input order, and it is the ONLY sorted permutation that does:
    whatever stable sort the library uses returns this list. -/
theorem sort_stable {xs : List (Value N)} (h : Safe xs) : StableOf xs (sortBy xs) := Order.sortBy_stable h
theorem sort_unique {xs ys : List (Value N)} (h : Safe xs) (hp : ys.Perm xs)
    (hs : ys.Pairwise (fun a b => Value.le a b = true)) (hst : StableOf xs ys) : ys = sortBy xs :=
  Order.stable_sort_unique h hp hs hst

example : sortBy (N := Float) [.num 2, .str ['b'], .num (-0.0), .arr [.num 1], .bool true, .arr [], .num 0, .str ['a']]
    = [.bool true, .str ['a'], .str ['b'], .num (-0.0), .num 0, .num 2, .arr [], .arr [.num 1]] := by rfl
example : Safe (N := Float) [.num 2, .str ['b'], .num (-0.0), .arr [.num 1], .bool true, .arr [], .num 0, .str ['a']] := by
  decide +kernel

/-- `max` of a Safe collection bounds every member from above (it is the LAST such member) -/
theorem max_bounds {xs : List (Value N)} (h : Safe xs) {m : Value N} (hm : maxV xs = some m) :
    ∀ x ∈ xs, Value.le x m = true := by
  cases xs with
  | nil => cases hm
  | cons y ys =>
    cases hm
    exact foldl_maxStep_bound (Order.Safe.transOn h) ys y (List.mem_cons_self ..)
      (fun z hz => List.mem_cons_of_mem _ hz)

/-- `min` of a Safe collection bounds every member from below (it is the FIRST such member) -/
theorem min_bounds {xs : List (Value N)} (h : Safe xs) {m : Value N} (hm : minV xs = some m) :
    ∀ x ∈ xs, Value.le m x = true := by
  cases xs with
  | nil => cases hm
  | cons y ys =>
    cases hm
    exact foldl_minStep_bound (Order.Safe.transOn h) ys y (List.mem_cons_self ..)
      (fun z hz => List.mem_cons_of_mem _ hz)

/-- the built-ins -/
theorem max_builtin_bounds (ps : List (Value N)) (h : Safe (smartVec ps)) (m : Value N)
    (hm : StdOrder.max ps = .ok m) : m ∈ smartVec ps ∧ ∀ x ∈ smartVec ps, Value.le x m = true :=
  ⟨max_mem ps m hm, max_bounds h ((max_eq_ok ps m).1 hm)⟩
theorem min_builtin_bounds (ps : List (Value N)) (h : Safe (smartVec ps)) (m : Value N)
    (hm : StdOrder.min ps = .ok m) : m ∈ smartVec ps ∧ ∀ x ∈ smartVec ps, Value.le m x = true :=
  ⟨min_mem ps m hm, min_bounds h ((min_eq_ok ps m).1 hm)⟩

example : StdOrder.max (N := Float) [.arr [.num 1, .str ['z'], .num 7, .bool true]] = .ok (.num 7) := by rfl
example : StdOrder.min (N := Float) [.num 1, .str ['z'], .num 7, .bool true] = .ok (.bool true) := by rfl
example : Safe (N := Float) (smartVec [.arr [.num 1, .str ['z'], .num 7, .bool true]]) := by decide +kernel

end B

/-! ## (C) outside Safe the ordering is not transitive (kernel-checked on the driver's `Float` instance) -/

/-- `'9' <= 9.5` (numeric), `9.5 <= '10'` (numeric), but `'9' <= '10'` is false (lexicographic) -/
theorem le_not_transitive_strings :
    Value.le (N := Float) (.str ['9']) (.num 9.5) = true ∧
    Value.le (N := Float) (.num 9.5) (.str ['1', '0']) = true ∧
    ¬ Value.le (N := Float) (.str ['9']) (.str ['1', '0']) = true := by decide +kernel

/-- NaN is "equal" to every number: `1 <= NaN`, `NaN <= 0`, but `1 <= 0` is false -/
theorem le_not_transitive_nan :
    Value.le (N := Float) (.num 1) (.num F64.nan) = true ∧
    Value.le (N := Float) (.num F64.nan) (.num 0) = true ∧
    ¬ Value.le (N := Float) (.num 1) (.num 0) = true := by decide +kernel

/-- both witnesses are (of course) outside the Safe domain -/
example : ¬ Safe (N := Float) [.str ['9'], .num 9.5, .str ['1', '0']] := by decide +kernel
example : ¬ Safe (N := Float) [.num 1, .num F64.nan, .num 0] := by decide +kernel

/-- consequently `max` need not bound its input outside Safe: `max(1, NaN, 0) = 0` -/
theorem max_not_bound_nan :
    ∃ m, maxV (N := Float) [.num 1, .num F64.nan, .num 0] = some m ∧ Value.le (N := Float) (.num 1) m = false :=
  ⟨.num 0, rfl, by decide +kernel⟩

/-- `compare(a, b) = 0` does NOT characterise `a = b`: `true = 1` holds but `compare(true, 1) = -1` -/
theorem compare_zero_is_not_eq :
    Value.eq (N := Float) (.bool true) (.num 1) = true ∧ cmp (N := Float) (.bool true) (.num 1) = .lt := by decide +kernel

end Slac.C13
