/-
  SlacProps.C16Source — the core of the date-time model (SlacModel/TimeCore.lean: `decode`, `encode` and the component builtins, about which the C16
  theorems — decode ∘ encode = id for every date × millisecond, the component extractors — are stated) IS what tools/rs2lean_stdlib.py translates
  from the current text of src/stdlib/time.rs (SlacModel/Generated/SrcTime.lean): the rounding `(value * MS_PER_DAY).round() as i64`, the division
  `timestamp_millis as f64 / MS_PER_DAY`, the range test of `from_timestamp_millis`, each accessor, and `encode_date`, `encode_time`, `inc_month`.
-/
import SlacModel.Generated.SrcTime
import SlacModel.Generated.SrcStdlib
import SlacProps.C16
import SlacProps.C09Source
set_option autoImplicit false
namespace Slac.C16Source
open Slac Slac.Time Slac.Generated
variable {N : Type} [NumX N]

theorem decode_is_source (v : Value N) : Time.decode v = SrcTime.try_from v := by
  cases v <;> rfl

theorem encode_is_source (t : DT) : Time.encode (N := N) t = SrcTime.from_datetime t := rfl

/-- the pattern shared by the component builtins -/
theorem component_eq (f : DT → N) (ps : List (Value N)) :
    Time.component f ps = (match ps with
      | [v] => Except.bind (SrcTime.try_from v) fun t => (Except.ok (Value.num (f t)) : Except NativeError (Value N))
      | _ => Except.error (.wrongParameterCount 1)) := by
  rcases ps with _ | ⟨a, _ | ⟨b, r⟩⟩
  · rfl
  · simp only [Time.component, decode_is_source, Except.bind]; cases SrcTime.try_from a <;> rfl
  · rfl

theorem year_is_source (ps : List (Value N)) : Time.year ps = SrcTime.year ps := component_eq _ ps
theorem month_is_source (ps : List (Value N)) : Time.month ps = SrcTime.month ps := component_eq _ ps
theorem day_is_source (ps : List (Value N)) : Time.day ps = SrcTime.day ps := component_eq _ ps
theorem hour_is_source (ps : List (Value N)) : Time.hour ps = SrcTime.hour ps := component_eq _ ps
theorem minute_is_source (ps : List (Value N)) : Time.minute ps = SrcTime.minute ps := component_eq _ ps
theorem second_is_source (ps : List (Value N)) : Time.second ps = SrcTime.second ps := component_eq _ ps
theorem millisecond_is_source (ps : List (Value N)) : Time.millisecond ps = SrcTime.millisecond ps := by
  refine (component_eq _ ps).trans ?_
  unfold SrcTime.millisecond
  simp only [bind, Nat.mul_div_cancel _ (show 0 < 1000000 by decide)]
  rfl
theorem dayOfWeek_is_source (ps : List (Value N)) : Time.dayOfWeek ps = SrcTime.day_of_week ps := component_eq _ ps
theorem isLeapYear_is_source (ps : List (Value N)) : Time.isLeapYear ps = SrcTime.is_leap_year ps := by
  rcases ps with _ | ⟨a, _ | ⟨b, r⟩⟩
  · rfl
  · simp only [Time.isLeapYear, SrcTime.is_leap_year, decode_is_source, bind, Except.bind, Except.map]
    cases SrcTime.try_from a <;> rfl
  · rfl

theorem encodeDate_is_source (ps : List (Value N)) : Time.encodeDate ps = SrcTime.encode_date ps := by
  rcases ps with _ | ⟨a, _ | ⟨b, _ | ⟨c, _ | ⟨d, r⟩⟩⟩⟩
  · rfl
  · cases a <;> rfl
  · cases a <;> cases b <;> rfl
  · cases a <;> try rfl
    cases b <;> try rfl
    cases c <;> try rfl
    simp only [Time.encodeDate, SrcTime.encode_date]
    split <;> [rfl; exact congrArg _ (C09Source.custom_ofList _)]
  · cases a <;> try rfl
    cases b <;> try rfl
    cases c <;> rfl

theorem encodeTime_is_source (ps : List (Value N)) : Time.encodeTime ps = SrcTime.encode_time ps := by
  unfold Time.encodeTime SrcTime.encode_time
  rw [C09Source.defaultNumber_is_source]
  cases SrcStdlib.default_number ps 3 (NumOps.zero : N) with
  | error e => rfl
  | ok milli =>
    simp only [bind, Except.bind]
    rcases ps with _ | ⟨a, _ | ⟨b, _ | ⟨c, r⟩⟩⟩
    · rfl
    · cases a <;> rfl
    · cases a <;> cases b <;> rfl
    · cases a <;> try rfl
      cases b <;> try rfl
      cases c <;> try rfl
      simp only [List.all_cons, List.all_nil, Bool.and_true, Bool.and_assoc]
      split
      · split
        · simp only [Option.map_some, SrcTime.from_datetime, DT.totalMs, Int.zero_mul, Int.zero_add]
        · exact congrArg _ (C09Source.custom_ofList _)
      · exact congrArg _ (C09Source.custom_ofList _)

theorem incMonth_is_source (ps : List (Value N)) : Time.incMonth ps = SrcTime.inc_month ps := by
  unfold Time.incMonth SrcTime.inc_month
  rw [C09Source.defaultNumber_is_source]
  cases SrcStdlib.default_number ps 1 (NumOps.ofBool true : N) with
  | error e => rfl
  | ok inc =>
    simp only [bind, Except.bind]
    rcases ps with _ | ⟨v, r⟩
    · rfl
    · simp only [decode_is_source]
      cases SrcTime.try_from v with
      | error e => rfl
      | ok t =>
        simp only []
        split
        · cases addMonths t ((Int.natAbs (NumX.toI32 inc) : Nat) : Int) <;>
            [exact congrArg _ (C09Source.custom_ofList _); rfl]
        · split
          · cases addMonths t (-((Int.natAbs (NumX.toI32 inc) : Nat) : Int)) <;>
              [exact congrArg _ (C09Source.custom_ofList _); rfl]
          · rfl

/-- C16's central theorem restated about the functions translated from the source: for every valid date of years 1–9999 and every millisecond of the
    day, converting the date-time to a number (`impl From<NaiveDateTime> for Value`) and back (`impl TryFrom<&Value> for NaiveDateTime`) is the identity -/
theorem decode_encode_source [LawfulTimeNum N] (y : Int) (m d ms : Nat) (hv : validDate y m d = true) (hy1 : 1 ≤ y) (hy2 : y ≤ 9999)
    (hms : ms < 86400000) :
    SrcTime.try_from (SrcTime.from_datetime ⟨daysFromCivil y m d, ms⟩ : Value N) = .ok ⟨daysFromCivil y m d, ms⟩ := by
  rw [← encode_is_source, ← decode_is_source]; exact C16.decode_encode y m d ms hv hy1 hy2 hms

end Slac.C16Source
