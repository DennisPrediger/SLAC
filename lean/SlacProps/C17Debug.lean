/-
  C17, `str` of arrays: `Display for Value` prints an array with Rust's `Debug` (`{v:?}`).
  Model: SlacModel.DebugFmt (`strOfValue`, `debugValue`, `debugList`, `debugF64`, `debugStr`); helper lemmas
  SlacProofs.DebugFmt; kernel-evaluated tests SlacProofs.DebugFmtTests.

  What is proved here is structural and cheap; that the model prints what rustc prints is established by the
  correspondence stream (and by the tests), not by these theorems:
  1. on non-arrays `strOfValue` is `Stdlib.valueToString` (which leaves arrays open), and the total `DebugFmt.strF`
     agrees with the partial `Registry.strF` wherever the latter answers; arity arm.
  2. shape of the `Debug` text: variant names, `String("…")` is quoted, `[]` for the empty array, an array is the
     elements' texts joined with `, ` between brackets (for every number printer).
  3. numbers: `Debug for f64` prints the same digits as `Display for f64`; outside the exponent range it is the
     `Display` text with `.0` appended when there is no fraction; NaN/inf coincide.
  4. control characters (C0, DEL, C1, NBSP) never reach the output unescaped.
-/
import SlacModel.Registry
import SlacProofs.DebugFmt
import SlacProofs.DebugFmtTests
set_option autoImplicit false
namespace Slac.C17
open Stdlib DebugFmt

/-- on Booleans, Strings and Numbers `strOfValue` is `valueToString` -/
theorem str_array_conservative (v : Value Float) (h : ∀ xs, v ≠ .arr xs) :
    valueToString v = some (strOfValue v) := by
  cases v with
  | bool b => rw [valueToString, String.toList_ofList, String.toList_ofList]; rfl
  | str s => rfl
  | num x => rfl
  | arr xs => exact absurd rfl (h xs)

/-- wherever `valueToString` answers, `strOfValue` gives the same text -/
theorem str_array_agrees (v : Value Float) (s : Str) (h : valueToString v = some s) : strOfValue v = s := by
  cases v with
  | arr xs => cases h
  | _ => exact Option.some.inj ((str_array_conservative _ (fun _ e => by cases e)).symm.trans h)

/-- the one case `valueToString` leaves open is the array, and there the answer is the `Debug` text of the vector -/
theorem str_array_def (xs : List (Value Float)) :
    valueToString (.arr xs : Value Float) = none ∧ strOfValue (.arr xs) = debugList xs := ⟨rfl, rfl⟩

/-- the total builtin agrees with the registry's partial `str` wherever that one answers -/
theorem strF_extends (ps : List (Value Float)) (r : Res Float) (h : Registry.strF ps = some r) :
    DebugFmt.strF ps = r := by
  match ps, h with
  | [], h => injection h
  | [v], h =>
    simp only [Registry.strF, Option.map_eq_some_iff] at h
    obtain ⟨s, hs, rfl⟩ := h
    simp only [DebugFmt.strF, strFWith, ← str_array_agrees v s hs]; rfl
  | _ :: _ :: _, h => injection h

theorem strF_one (v : Value Float) : DebugFmt.strF [v] = .ok (.str (strOfValue v)) := rfl
theorem strF_wrong_count (ps : List (Value Float)) (h : ps.length ≠ 1) :
    DebugFmt.strF ps = .error (.wrongParameterCount 1) := by
  match ps, h with
  | [], _ => rfl
  | [_], h => exact absurd rfl h
  | _ :: _ :: _, _ => rfl

/-- non-vacuity: a number (both `valueToString` and `strOfValue` answer), an array (only `strOfValue` does) -/
example : valueToString (.num 1.5 : Value Float) = some (strOfValue (.num 1.5)) :=
  str_array_conservative _ (fun _ h => by cases h)
example : strOfValue (.arr [.num 1.5, .str ['a']]) = "[Number(1.5), String(\"a\")]".toList := eq_lit (by decide +kernel)
example : DebugFmt.strF [.bool true, .bool true] = .error (.wrongParameterCount 1) :=
  strF_wrong_count _ (by decide)

section Shape
variable {N : Type} (dn : N → Str)

theorem debug_bool (b : Bool) :
    debugValueWith dn (.bool b) = "Boolean(".toList ++ (if b then "true".toList else "false".toList) ++ [')'] := by
  rw [String.toList_ofList, String.toList_ofList, String.toList_ofList, debugValueWith]
theorem debug_str (s : Str) : debugValueWith dn (.str s) = "String(".toList ++ debugStr s ++ [')'] := by
  rw [String.toList_ofList, debugValueWith]
theorem debug_num (x : N) : debugValueWith dn (.num x) = "Number(".toList ++ dn x ++ [')'] := by
  rw [String.toList_ofList, debugValueWith]
theorem debug_arr (xs : List (Value N)) :
    debugValueWith dn (.arr xs) = "Array(".toList ++ debugListWith dn xs ++ [')'] := by
  rw [String.toList_ofList, debugValueWith]

/-- a string literal is always delimited by double quotes -/
theorem debug_str_quoted (s : Str) : ∃ mid, debugStr s = '"' :: (mid ++ ['"']) := ⟨_, rfl⟩
theorem debug_str_head (s : Str) : (debugStr s).head? = some '"' := rfl
theorem debug_str_last (s : Str) : (debugStr s).getLast? = some '"' := by
  unfold debugStr
  rw [← List.cons_append]; exact List.getLast?_concat ..

/-- characters that need no escape are copied: the text of a plain ASCII word is the word in quotes -/
theorem debug_str_plain (s : Str) (h : ∀ c ∈ s, escapeChar c = [c]) : debugStr s = '"' :: (s ++ ['"']) := by
  unfold debugStr
  congr 2
  induction s with
  | nil => rfl
  | cons c r ih =>
    simp only [List.flatMap_cons, h c (List.mem_cons_self ..)]
    rw [ih (fun d hd => h d (List.mem_cons_of_mem _ hd))]; rfl

theorem debug_list_nil : debugListWith dn ([] : List (Value N)) = ['[', ']'] := by
  simp only [debugListWith]
theorem debugList_nil : debugList [] = "[]".toList := eq_lit (debug_list_nil _)

/-- `Debug for Vec<Value>`: the elements' texts, joined with `, `, between `[` and `]` -/
theorem debug_list_joined (xs : List (Value N)) :
    debugListWith dn xs = '[' :: (List.intercalate [',', ' '] (xs.map (debugValueWith dn)) ++ [']']) :=
  debugListWith_eq dn xs

theorem debug_list_head (xs : List (Value N)) : (debugListWith dn xs).head? = some '[' := by
  rw [debug_list_joined]; rfl
theorem debug_list_last (xs : List (Value N)) : (debugListWith dn xs).getLast? = some ']' := by
  rw [debug_list_joined]
  rw [← List.cons_append]; exact List.getLast?_concat ..

/-- one element: no separator -/
theorem debug_list_singleton (v : Value N) : debugListWith dn [v] = '[' :: (debugValueWith dn v ++ [']']) := by
  simp [debugListWith, debugTailWith]

end Shape

/-- non-vacuity for the shape theorems -/
example : debugStr "it's".toList = '"' :: ("it's".toList ++ ['"']) :=
  debug_str_plain _ (by decide +kernel)
example : debugList [.num 1, .arr [], .bool false] = "[Number(1.0), Array([]), Boolean(false)]".toList :=
  eq_lit (by decide +kernel)
example : List.intercalate [',', ' '] ([.num 1, .bool false].map debugValue) = "Number(1.0), Boolean(false)".toList :=
  eq_lit (by decide +kernel)

/-- `Display for f64` is the digit search `shortestDigits` printed plainly: `Debug` (which prints `shortestDigits`
    with a forced fraction or an exponent) therefore shows the same significant digits -/
theorem debug_same_digits (x : Float) : F64.display x = displayViaDigits x := display_eq x

/-- outside the exponent range (`1e-4 ≤ |x| < 1e16` or `x = ±0`) the `Debug` text is the `Display` text, with `.0`
    appended exactly when `Display` printed an integer -/
theorem debug_number_plain (x : Float) (hn : F64.isNaN x = false) (hi : F64.isInf x = false) (he : useExp x = false) :
    debugF64 x = if '.' ∈ F64.display x then F64.display x else F64.display x ++ ['.', '0'] :=
  debugF64_plain x hn hi he

/-- NaN and the infinities print the same in both -/
theorem debug_number_nonfinite (x : Float) (h : F64.isNaN x = true ∨ F64.isInf x = true) : debugF64 x = F64.display x := by
  by_cases hn : F64.isNaN x = true
  · rw [debugF64, F64.display, if_pos hn, if_pos hn]
  · have hi := h.resolve_left hn
    rw [debugF64, F64.display, if_neg hn, if_pos hi, if_neg hn, if_pos hi]

/-- instances of `debug_number_plain`: an integer gets `.0`, a fraction is printed as by `Display` -/
example : debugF64 1 = F64.display 1 ++ ['.', '0'] := by
  have := debug_number_plain 1 (by decide +kernel) (by decide +kernel) (by decide +kernel)
  rw [this]; decide +kernel
example : debugF64 1.5 = F64.display 1.5 := by
  have := debug_number_plain 1.5 (by decide +kernel) (by decide +kernel) (by decide +kernel)
  rw [this]; decide +kernel
/-- the hypothesis `useExp x = false` is needed: 1e16 prints differently -/
example : useExp 1e16 = true ∧ debugF64 1e16 = "1e16".toList ∧ F64.display 1e16 = "10000000000000000".toList := by
  decide +kernel
example : debugF64 (0.0 / 0.0) = F64.display (0.0 / 0.0) := debug_number_nonfinite _ (Or.inl (by decide +kernel))

/-- every character with code point 0–31 or 127–160 is written using printable ASCII only, so the `Debug` text of a
    string has no raw control character from those blocks (kernel-evaluated over the 66 code points) -/
theorem debug_str_control (c : Char) (h : c.toNat < 32 ∨ (127 ≤ c.toNat ∧ c.toNat ≤ 160)) :
    (escapeChar c).all printableAscii = true := by
  have hc : Char.ofNat c.toNat = c := by simp
  have hlt : c.toNat < 161 := by omega
  have := escapeChar_control ⟨c.toNat, hlt⟩ (by simp only; omega)
  simpa only [hc] using this

example : escapeChar '\n' = ['\\', 'n'] ∧ (escapeChar '\n').all printableAscii = true :=
  ⟨by decide, debug_str_control _ (Or.inl (by decide))⟩

end Slac.C17
