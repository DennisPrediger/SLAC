/-
  C07 (scanner half) — `Scanner::tokenize` is total: for every input it returns tokens or an error value.

  Model: `Slac.Scanner.scan`.  Its loops are structural on the text (`skipWs`, `strRaw`, `takeWhile`/`dropWhile`)
  or on a fuel counter initialised with `length + 1` (`scanLoop`); the model has explicit outcomes `outOfFuel` and
  `panic`, and the theorem says they never occur: every token consumes at least one character
  (`nextToken_length`), `skipWs` never lengthens the text (`skipWs_length`), so the fuel suffices.
  The Rust side (no index arithmetic underflow, `chars().nth` returning `None` past the end instead of
  panicking) is covered by the behavioural tie of the `scan` stream and, for the scanner as translated from the source text,
  by `C02Scanner.scan_is_source` / `C02Scanner.tokenize_total`.
-/
import SlacProofs.ScannerLoop
set_option autoImplicit false
namespace Slac.C07
open Slac.Scanner
variable {N : Type} [NumOps N]

/-- for every character classification and every source text the scanner returns tokens or an error value -/
theorem scan_total (cc : CharClass) (src : Str) :
    (∃ ts, scan (N := N) cc src = .ok ts) ∨ (∃ e, scan (N := N) cc src = .err e) :=
  Scanner.scan_total cc src

/-- the error values are those of the scanner only -/
theorem scan_never_crashes (cc : CharClass) (src : Str) :
    scan (N := N) cc src ≠ .outOfFuel ∧ scan (N := N) cc src ≠ .panic := by
  rcases scan_total (N := N) cc src with ⟨ts, h⟩ | ⟨e, h⟩ <;> rw [h] <;> exact ⟨nofun, nofun⟩

/-- the fuel is irrelevant: any amount above the length of the text gives the same result -/
theorem fuel_irrelevant (cc : CharClass) (n m : Nat) (src : Str) (hn : src.length < n) (hm : src.length < m) :
    scanLoop (N := N) cc n src = scanLoop cc m src :=
  scanLoop_fuel cc n m src hn hm

/-- a successful scan is never empty (`Error::Eof` instead) -/
theorem scan_ok_nonempty (cc : CharClass) (src : Str) (ts : List (Token N)) (h : scan cc src = .ok ts) :
    ts ≠ [] := by
  unfold scan at h
  split at h
  · cases h
  · rename_i hne
    intro he; subst he
    exact hne h

/-- inputs on which every error arm is taken -/
example : scan (N := N) CharClass.ascii [] = .err .eof := rfl
example : scan (N := N) CharClass.ascii [' ', '{', '{', '}'] = .err .eof := rfl
example : scan (N := N) CharClass.ascii ['a', ' ', '$', 'b'] = .err (.invalidCharacter '$') := rfl
example : scan (N := N) CharClass.ascii ['\'', 'a', '\'', '\''] = .err .unterminatedStringLiteral := rfl
example : scan (N := N) CharClass.ascii ['(', '<', '>', ')', '/', '/'] = .ok [.leftParen, .notEqual, .rightParen] := rfl
example (h : NumOps.parse (N := N) ['.'] = none) : scan (N := N) CharClass.ascii ['.'] = .err .invalidNumber := by
  simp [scan, scanAll, scanLoop, skipWs, isWs, nextToken, isIdentStart, number, numberLex, CharClass.ascii,
    isAsciiLetter, isAsciiDigit, Unicode.inRange, h]

end Slac.C07
