/-
  C03 / C04 — the translator leg of the tie for the interpreter.  `SlacModel/Generated/Semantics.lean` is REGENERATED
  on every check run by /verif/tools/translate.py from the current text of src/value.rs (the `impl Neg/Not/Add/Sub/
  Mul/Div/Rem/BitXor for Value` arms, `div_int`, `ordinal`, `empty`) and src/interpreter.rs (the operator dispatch of
  `unary`, the outer and the inner match of `binary`, the body of `boolean::<FULL_EVAL>`, the operator of `ternary`).
  The theorems say that the hand-written compositional model (`unModel`, `binModel`, `binVal`, `ternModel`,
  `Value.add` …) is exactly those source arms, in source order.  A changed arm changes the generated file and breaks
  one of these proofs.
-/
import SlacModel.Generated.Semantics
import SlacProofs.InterpLemmas
set_option autoImplicit false
namespace Slac.C03Source
open Slac.Generated
variable {N : Type} [NumOps N]

/-- the operator impls of value.rs -/
theorem value_ops_are_source (a b : Value N) :
    Value.neg a = Semantics.valueNeg a ∧ Value.not a = Semantics.valueNot a ∧
    Value.add a b = Semantics.valueAdd a b ∧
    Value.arith NumOps.sub .minus a b = Semantics.valueSub a b ∧
    Value.arith NumOps.mul .multiply a b = Semantics.valueMul a b ∧
    Value.arith NumOps.div .divide a b = Semantics.valueDiv a b ∧
    Value.arith NumOps.rem .mod a b = Semantics.valueRem a b ∧
    Value.arith (fun x y => NumOps.trunc (NumOps.div x y)) .div a b = Semantics.valueDivInt a b ∧
    Value.xor a b = Semantics.valueXor a b ∧
    Value.ordinal a = Semantics.valueOrdinal a ∧ Value.empty a = Semantics.valueEmpty a := by
  cases a <;> cases b <;> exact ⟨rfl, rfl, rfl, rfl, rfl, rfl, rfl, rfl, rfl, rfl, rfl⟩

/-- both operands are values: the inner `match (operator, right)` -/
theorem strict_is_source (op : Op) (l r : Value N) : binVal op l r = Semantics.strictDispatch op l r := by
  obtain ⟨_, _, hadd, hsub, hmul, hdiv, hrem, hdivInt, hxor, _, _⟩ := value_ops_are_source l r
  cases op
  case plus => exact hadd
  case minus => exact hsub
  case multiply => exact hmul
  case divide => exact hdiv
  case mod => exact hrem
  case div => exact hdivInt
  case xor => exact hxor
  all_goals rfl

/-- `unary`: the operand is evaluated first, its error wins; then the operator dispatch of the source -/
theorem unary_is_source (op : Op) (x : R N) :
    unModel op x = match x with
      | (.ok v, t) => (Semantics.unaryDispatch op v, t)
      | (.error e, t) => (.error e, t) := by
  obtain ⟨r, t⟩ := x
  cases r with
  | error e => rfl
  | ok v =>
    obtain ⟨hneg, hnot, _⟩ := value_ops_are_source v v
    cases op
    case minus => exact congrArg (·, t) hneg
    case not => exact congrArg (·, t) hnot
    all_goals rfl

/-- 0 = a value, 1 = undefined variable, 2 = another error -/
def leftKind : Except Err (Value N) → Nat
  | .ok _ => 0
  | .error (.undefinedVariable _) => 1
  | .error _ => 2

/-- `boolean::<FULL_EVAL>(left, right)` as recognised by the translator (`booleanBodyRecognised`) -/
def booleanFn (full : Bool) (lv : Value N) (tl : List (Event N)) (right : R N) : R N :=
  if Value.asBool lv == full then rightBool tl right else (.ok (.bool (Value.asBool lv)), tl)

/-- what each kind of outer arm does with the evaluated left operand `(left, tl)` and the (lazily used) right operand -/
def runOuter (op : Op) (left : Except Err (Value N)) (tl : List (Event N)) (right : R N) : Semantics.Outer N → R N
  | .boolean full => (match left with | .ok lv => booleanFn full lv tl right | .error e => (.error e, tl))
  | .booleanOn full v => booleanFn full v tl right
  | .const b => (.ok (.bool b), tl)
  | .strict =>
    (match left with
     | .ok lv =>
       (match right with
        | (.ok rv, tr) => (Semantics.strictDispatch op lv rv, tl ++ tr)
        | (.error (.undefinedVariable n), tr) =>
          (match Semantics.undefinedRight op lv with
           | some res => (res, tl ++ tr)
           | none => (.error (.undefinedVariable n), tl ++ tr))
        | (.error e, tr) => (.error e, tl ++ tr))
     | .error e => (.error e, tl))
  | .undefLeft negate both =>
    (match right with
     | (.ok rv, tr) => (.ok (.bool (if negate then !Value.isEmpty rv else Value.isEmpty rv)), tl ++ tr)
     | (.error (.undefinedVariable _), tr) => (.ok (.bool both), tl ++ tr)
     | (.error e, tr) => (.error e, tl ++ tr))
  | .propagate => (match left with | .error e => (.error e, tl) | .ok v => (.ok v, tl))

/-- `binary`: the model is the source's outer match (in source order) run on the evaluated operands -/
theorem binary_is_source (op : Op) (left right : R N) :
    binModel op left right = runOuter op left.1 left.2 right (Semantics.outerDispatch op (leftKind left.1)) := by
  obtain ⟨l, tl⟩ := left
  obtain ⟨r, tr⟩ := right
  cases l with
  | ok lv =>
    by_cases hs : op.cls = .strict
    · -- a strict operator: one arm of the outer match, and the inner match does not absorb an undefined right operand
      have hd : Semantics.outerDispatch (N := N) op 0 = .strict := by cases op <;> first | rfl | cases hs
      have hu : Semantics.undefinedRight op lv = none := by cases op <;> first | rfl | cases hs
      rw [binModel_eq, hs]
      simp only [leftKind, hd, runOuter, hu, ← strict_is_source]
      cases r with
      | ok rv => rfl
      | error e => cases e <;> rfl
    · cases op <;> try exact absurd rfl hs
      case and | or =>
        cases hb : Value.asBool lv <;> simp only [binModel, Semantics.outerDispatch, leftKind, runOuter, booleanFn, hb] <;> rfl
      all_goals
        cases r with
        | ok rv => exact congrArg (·, tl ++ tr) (strict_is_source _ lv rv)
        | error e => cases e <;> rfl
  | error e =>
    cases e with
    | undefinedVariable n =>
      cases op <;> first | rfl | (cases r with | ok rv => rfl | error e' => cases e' <;> rfl)
    | _ =>
      -- every other error of the left operand is the result: the last arm of the outer match
      have hd : Semantics.outerDispatch (N := N) op 2 = .propagate := by cases op <;> rfl
      rw [binModel_left_error op (by intro n h; cases h)]
      simp only [leftKind, hd, runOuter]

/-- `ternary` refuses every operator but the source's -/
theorem ternary_is_source (op : Op) (c m r : R N) (h : op ≠ Semantics.ternaryOperator) :
    ternModel op c m r = (.error (.invalidTernary op), []) :=
  ternModel_other h c m r

theorem boolean_recognised : Semantics.booleanBodyRecognised = true := rfl

end Slac.C03Source
