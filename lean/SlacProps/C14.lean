/-
  C14 — functions registered as pure are deterministic functions of their arguments.
  PARTIAL by nature: "in a fresh process, with a differently seeded hasher" is an observation, not a theorem.
  What Lean contributes: (1) every pure builtin's model (SlacModel/Stdlib, StdOrder, Time, Regex) is a Lean
  function of its argument list — there is no state, clock or seed parameter to depend on — so determinism holds of
  the model by construction and the content is the model/code tie (`call` stream, each argument list evaluated
  repeatedly in-process and in separate processes); (2) exactly `random` and `choice` are registered impure
  (regenerated table); (3) folding a call at optimize time IS calling it; (4) `unique`, the one builtin for which
  a hasher would matter (common.rs says why it has none), is first-occurrence deduplication by `==` and nothing else.
-/
import SlacProofs.Tables
import SlacModel.Optimizer
import SlacModel.Stdlib
set_option autoImplicit false
set_option linter.unusedSectionVars false
namespace Slac.C14
variable {N : Type} [NumOps N]

/-- Exactly the functions whose results legitimately vary (random, choice) are registered impure —
    checked on the table regenerated from the running crate. -/
theorem impure_exactly :
    (Generated.builtins.filter (fun r => !r.pure)).map (·.name) = [['r','a','n','d','o','m'], ['c','h','o','i','c','e']] :=
  Tables.impure_exactly

def lits (vs : List (Value N)) : List (Expr N) := vs.map .lit

theorem evalList_lits (env : Env N) (vs : List (Value N)) : evalList env (lits vs) = (.ok vs, []) := by
  induction vs with
  | nil => rfl
  | cons v vs ih =>
    have : evalList env (List.map Expr.lit vs) = (.ok vs, []) := ih
    simp only [lits, List.map_cons, evalList, evalT, this]; rfl

theorem allLit_lits (vs : List (Value N)) : Opt.allLit (lits vs) = true := by
  induction vs with
  | nil => rfl
  | cons v vs ih => simp_all [lits, Opt.allLit, Opt.isLit]

/-- Folding is calling: when `optimize` folds a call of a pure function with literal arguments, the literal it
    writes into the tree is exactly the answer of `env.call` on those argument values. -/
theorem folding_is_calling (env : Env N) (f : Str) (vs : List (Value N)) (v : Value N)
    (hp : env.fnExists f vs.length = .exist true) (hc : env.call f vs = .ok v) :
    (Opt.fold env (.call f (lits vs))).tree = .lit v := by
  have hl : (lits vs).length = vs.length := by simp [lits]
  simp only [Opt.fold, allLit_lits, hl, hp, if_true, Opt.exec, evalR, evalT, evalList_lits, hc]

/-- … and a call that fails is left in the tree (the optimizer reports the error, nothing is cached). -/
theorem folding_failure_keeps_call (env : Env N) (f : Str) (vs : List (Value N)) (e : NativeError)
    (hp : env.fnExists f vs.length = .exist true) (hc : env.call f vs = .error e) :
    (Opt.fold env (.call f (lits vs))).tree = .call f (lits vs) ∧ (Opt.fold env (.call f (lits vs))).err = some (.native f e) := by
  have hl : (lits vs).length = vs.length := by simp [lits]
  simp only [Opt.fold, allLit_lits, hl, hp, if_true, Opt.exec, evalR, evalT, evalList_lits, hc, and_self]

/-- a call of an impure function is never folded -/
theorem impure_not_folded (env : Env N) (f : Str) (vs : List (Value N)) (hp : env.fnExists f vs.length ≠ .exist true) :
    (Opt.fold env (.call f (lits vs))).tree = .call f (lits vs) ∧ (Opt.fold env (.call f (lits vs))).found = false := by
  have hl : (lits vs).length = vs.length := by simp [lits]
  simp only [Opt.fold, allLit_lits, hl]
  split <;> simp_all

section Unique
variable {M : Type} [NumX M]
/-- `unique` depends on its argument only through `==`: it keeps an element iff no earlier kept element equals it. -/
theorem unique_is_dedup (vs : List (Value M)) : Stdlib.unique [.arr vs] = .ok (.arr (Stdlib.dedup vs)) := rfl

theorem dedup_snoc (acc : List (Value M)) (v : Value M) :
    (acc ++ [v]).foldl (fun a x => if a.any (fun r => Value.eq r x) then a else a ++ [x]) [] =
      (let d := acc.foldl (fun a x => if a.any (fun r => Value.eq r x) then a else a ++ [x]) []
       if d.any (fun r => Value.eq r v) then d else d ++ [v]) := by
  simp [List.foldl_append]
end Unique

/-- Non-vacuity for `folding_is_calling`: a toy number type, an environment with one pure function. -/
instance toyNum : NumOps Nat := ⟨fun a _ => a, fun a _ => a, fun a _ => a, fun a _ => a, fun a _ => a, id, id,
  fun _ _ => some .eq, fun _ _ => true, 0, fun _ => 0, fun _ => none⟩
def toyEnv : Env Nat := ⟨fun _ => none, fun _ vs => .ok (.arr vs), fun _ => false, fun _ _ => .exist true⟩
example : (Opt.fold toyEnv (.call ['f'] (lits [.bool true]))).tree = .lit (.arr [.bool true]) :=
  folding_is_calling toyEnv ['f'] [.bool true] _ rfl rfl

end Slac.C14
