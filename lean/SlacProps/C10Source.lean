/-
  C10 / C11 — the translator leg of the tie for the validator.  `SlacModel/Generated/SrcValidate.lean` is REGENERATED
  on every check run by /verif/tools/rs2lean.py from the current text of /repo/src/validate.rs.
  The theorems say that the hand-written model of SlacModel/Validate.lean is exactly the translated source:
    * `checkVF env e      = check_variables_and_functions env e`   (every arm, `and_then` chains in source order)
    * `checkVFList env es = check_expressions env es`              (`iter().try_for_each`)
    * `checkBool e        = check_boolean_result e`
  `VErr.andThen a b` of the model is `a >>= fun () => b` of the translation (`andThen_is_bind`).
  A changed arm in validate.rs changes the generated file and breaks one of these proofs.
-/
import SlacModel.Generated.SrcValidate
import SlacModel.Validate
import SlacProofs.InterpLemmas
set_option autoImplicit false
set_option linter.unusedSectionVars false
namespace Slac.C10Source
open Slac.Generated
variable {N : Type} [NumOps N]

/-- the model's `and_then(|()| …)` is the monadic bind of `Except VErr` the translator emits -/
theorem andThen_is_bind (a b : Except VErr Unit) : VErr.andThen a b = (a >>= fun () => b) := by
  cases a <;> rfl

theorem checkVF_both (env : Env N) :
    (∀ e : Expr N, checkVF env e = SrcValidate.check_variables_and_functions env e) ∧
    (∀ es : List (Expr N), checkVFList env es = SrcValidate.check_expressions_each env es) := by
  -- arm by arm the two definitions are the same text once `VErr.andThen` is read as `>>=` and the induction hypotheses
  -- are rewritten; in the `call` arm the answer of `fnExists` selects the same branch on both sides
  refine Expr.rec_both ?_ ?_ ?_ ?_ ?_ ?_ (fun n ps ih => ?_) ?_ ?_
  case refine_7 =>
    simp only [checkVF, SrcValidate.check_variables_and_functions, SrcValidate.check_expressions, ih]
    cases env.fnExists n ps.length <;> rfl
  all_goals
    intros
    simp only [checkVF, checkVFList, SrcValidate.check_variables_and_functions, SrcValidate.check_expressions,
      SrcValidate.check_expressions_each, andThen_is_bind, *]

/-- src/validate.rs `check_variables_and_functions` -/
theorem checkVF_is_source (env : Env N) (e : Expr N) :
    checkVF env e = SrcValidate.check_variables_and_functions env e := (checkVF_both env).1 e

/-- the `try_for_each` loop the translator unrolls into a list recursion -/
theorem checkVFList_is_source_each (env : Env N) (es : List (Expr N)) :
    checkVFList env es = SrcValidate.check_expressions_each env es := (checkVF_both env).2 es

/-- src/validate.rs `check_expressions` -/
theorem checkVFList_is_source (env : Env N) (es : List (Expr N)) :
    checkVFList env es = SrcValidate.check_expressions env es := by
  rw [SrcValidate.check_expressions.eq_def]; exact (checkVF_both env).2 es

/-- src/validate.rs `check_boolean_result` -/
theorem checkBool_is_source (e : Expr N) : checkBool e = SrcValidate.check_boolean_result e := by
  refine Expr.rec
    (motive_1 := fun e => checkBool e = SrcValidate.check_boolean_result e)
    (motive_2 := fun _ => True)
    ?_ ?_ ?_ ?_ ?_ ?_ ?_ ?_ ?_ e
  · intro r op _
    cases op <;> rfl
  · intro l r op _ _
    cases op <;> rfl
  · intro l m r op ihl ihm ihr
    cases op <;> simp [checkBool, SrcValidate.check_boolean_result, andThen_is_bind, ihl, ihm, ihr]
  · intro es _; simp [checkBool, SrcValidate.check_boolean_result]
  · intro v; cases v <;> simp [checkBool, SrcValidate.check_boolean_result]
  · intro n; simp [checkBool, SrcValidate.check_boolean_result]
  · intro n ps _; simp [checkBool, SrcValidate.check_boolean_result]
  · trivial
  · intros; trivial

end Slac.C10Source
