/-
  C16Rfc for the driver's number type — the through-numbers theorems of SlacProps.C16Rfc at `N = Float` (IEEE binary64)
  with NO hypothesis about numbers (`instance : LawfulTimeNum Float` is proved in SlacProofs.F64Time).
  Every theorem here is the generic theorem of the same name (without `_float`).
-/
import SlacProps.C16Rfc
import SlacProofs.F64Time
set_option autoImplicit false
namespace Slac.C16
open Slac.Time Slac.TimeRfc Slac.Stdlib

/-- ROUND TRIP on binary64: `date_from_rfc3339 (date_to_rfc3339 x) = x`, bit for bit, for every date-time number
    `x = total_ms / 86400000` exact to the millisecond in years 0–9999 -/
theorem rfc3339_roundtrip_float (t : DT) (h : Rfc t) (txt : Str)
    (hp : dateToRfc3339 [(encode t : Value Float)] = .ok (.str txt)) :
    dateFromRfc3339 [(.str txt : Value Float)] = some (.ok (encode t)) := rfc3339_roundtrip t h txt hp

theorem rfc2822_roundtrip_float (t : DT) (h : Rfc t) (hs : t.ms % 1000 = 0) (txt : Str)
    (hp : dateToRfc2822 [(encode t : Value Float)] = .ok (.str txt)) :
    dateFromRfc2822 [(.str txt : Value Float)] = some (.ok (encode t)) := rfc2822_roundtrip t h hs txt hp

theorem rfc2822_roundtrip_truncates_float (t : DT) (h : Rfc t) (txt : Str)
    (hp : dateToRfc2822 [(encode t : Value Float)] = .ok (.str txt)) :
    dateFromRfc2822 [(.str txt : Value Float)] = some (.ok (encode ⟨t.days, t.ms / 1000 * 1000⟩)) :=
  rfc2822_roundtrip_truncates t h txt hp

theorem dateToRfc3339_encode_float (t : DT) (h : t.Enc) :
    dateToRfc3339 [(encode t : Value Float)] = .ok (.str (rfc3339 t)) := dateToRfc3339_encode t h

theorem dateToRfc2822_encode_float (t : DT) (h : t.Enc) (hy : 0 ≤ t.year ∧ t.year ≤ 9999) :
    dateToRfc2822 [(encode t : Value Float)] = .ok (.str (rfc2822 t)) := dateToRfc2822_encode t h hy

section
variable {y : Int} {m d h mi s ml : Nat}

theorem spec_components_float (st : Stamp y m d h mi s ml) :
    let x : Value Float := encode (stampDT y m d h mi s ml)
    (dateToString [.str ['%', 'Y'], x] = some (.ok (.str (pad 4 y.toNat))) ∧ year [x] = .ok (.num (NumX.ofInt y))) ∧
    (dateToString [.str ['%', 'm'], x] = some (.ok (.str (pad 2 m))) ∧ month [x] = .ok (.num (NumX.ofNat m))) ∧
    (dateToString [.str ['%', 'd'], x] = some (.ok (.str (pad 2 d))) ∧ day [x] = .ok (.num (NumX.ofNat d))) ∧
    (dateToString [.str ['%', 'H'], x] = some (.ok (.str (pad 2 h))) ∧ hour [x] = .ok (.num (NumX.ofNat h))) ∧
    (dateToString [.str ['%', 'M'], x] = some (.ok (.str (pad 2 mi))) ∧ minute [x] = .ok (.num (NumX.ofNat mi))) ∧
    (dateToString [.str ['%', 'S'], x] = some (.ok (.str (pad 2 s))) ∧ second [x] = .ok (.num (NumX.ofNat s))) ∧
    (dateToString [.str ['%', '3', 'f'], x] = some (.ok (.str (pad 3 ml))) ∧
      millisecond [x] = .ok (.num (NumX.ofNat ml))) := spec_components st

theorem dateToString_invalid_format_float (st : Stamp y m d h mi s ml) (fmt : Str)
    (hf : (items fmt).any Item.failsNaive = true) :
    dateToString [.str fmt, (encode (stampDT y m d h mi s ml) : Value Float)] =
      some (.error (custom "invalid format string")) := dateToString_invalid_format st fmt hf
end

example : dateFromRfc3339 [(.str (rfc3339 ⟨daysFromCivil 2024 2 29, 86399999⟩) : Value Float)] =
    some (.ok (encode ⟨daysFromCivil 2024 2 29, 86399999⟩)) :=
  dateFromRfc3339_rfc3339 _ ⟨by decide, by decide, by decide⟩
example : dateToRfc3339 [(encode ⟨daysFromCivil 9999 12 31, 86399999⟩ : Value Float)] =
    .ok (.str (rfc3339 ⟨daysFromCivil 9999 12 31, 86399999⟩)) :=
  dateToRfc3339_encode_float _ (Rfc.enc ⟨by decide, by decide, by decide⟩)

end Slac.C16
