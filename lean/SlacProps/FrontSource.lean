/-
  SlacProps.FrontSource — capstone for the front end: the headline theorems of C01 / C02 restated about the functions translated from the SOURCE
  (Generated/SrcScanner.lean from src/scanner.rs, Generated/SrcParser.lean from src/compiler.rs), composed as `slac::compile` composes them
  (src/lib.rs: `let tokens = Scanner::tokenize(source)?; let ast = Compiler::compile_ast(tokens)?; Ok(ast)`).
  Apart from `compile_is_source`, which ties `compileSrc` to the model's `compile`, no statement here mentions the hand-written scanner or
  parser model.
-/
import SlacProps.C01Text
import SlacProps.C01Parser
import SlacProps.C02Scanner
set_option autoImplicit false
namespace Slac.FrontSource
open Slac Slac.Scanner Slac.Parser Slac.Render Slac.Unlex Slac.Generated
variable {N : Type} [NumOps N]

/-- `slac::compile` over the translated scanner and parser; the fuels are the ones the simulation theorems show to suffice -/
def compileSrc (cc : CharClass) (src : Str) : COut N (Expr N) :=
  match SrcScanner.tokenize (N := N) (src.length + 1) cc src with
  | .ok toks => SrcParser.compile_ast (parseFuel toks.length) toks
  | .err e => .err e
  | .outOfFuel => .outOfFuel
  | .panic => .panic

/-- the translated front end is the model's `compile` -/
theorem compile_is_source (cc : CharClass) (src : Str) : compileSrc (N := N) cc src = compile cc src := by
  unfold compileSrc compile
  rw [C02Scanner.scan_is_source]
  cases scan (N := N) cc src with
  | ok toks => exact C01Parser.parse_is_source toks
  | _ => rfl

/-- C01, first half, about the source: the text of EVERY rendering of a tree (any parenthesisation style) compiles to exactly that tree -/
theorem compile_rendering_source {cc : CharClass} (hcc : cc.AsciiOk) (pr : N → Str) {e : Expr N} {ts : List (Token N)}
    (hr : Rn 1 e ts) (ht : C01.SrcText cc pr e) : compileSrc cc (unlex pr ts) = .ok e := by
  rw [compile_is_source]; exact C01.compile_rendering_src hcc pr hr ht

theorem compile_renderMin_source {cc : CharClass} (hcc : cc.AsciiOk) (pr : N → Str) {e : Expr N} (hs : SrcExpr e)
    (ht : C01.SrcText cc pr e) : compileSrc cc (unlex pr (renderMin e)) = .ok e := by
  rw [compile_is_source]; exact C01.compile_renderMin hcc pr hs ht

theorem compile_renderFull_source {cc : CharClass} (hcc : cc.AsciiOk) (pr : N → Str) {e : Expr N} (hs : SrcExpr e)
    (ht : C01.SrcText cc pr e) : compileSrc cc (unlex pr (renderFull e)) = .ok e := by
  rw [compile_is_source]; exact C01.compile_renderFull hcc pr hs ht

/-- C02 about the source: `compile` — result or error value — does not depend on layout: two texts with the same tokens compile alike -/
theorem compile_layout_irrelevant_source {cc : CharClass} (hcc : cc.AsciiOk) (items items' : List (Item N))
    (s0 s0' trail trail' : Str) (hsame : items.map (·.tok) = items'.map (·.tok)) (hne : items ≠ [])
    (hs0 : IsSep s0) (hs0' : IsSep s0')
    (hitems : ∀ i ∈ items, Lexeme cc i.tok i.text ∧ IsSep i.sep)
    (hitems' : ∀ i ∈ items', Lexeme cc i.tok i.text ∧ IsSep i.sep)
    (hjoin : JoinableTok items trail) (hjoin' : JoinableTok items' trail')
    (htrail : IsTrail trail) (htrail' : IsTrail trail') :
    compileSrc (N := N) cc (s0 ++ Scanner.render items trail) = compileSrc cc (s0' ++ Scanner.render items' trail') := by
  rw [compile_is_source, compile_is_source]
  exact C01.compile_layout_irrelevant hcc items items' s0 s0' trail trail' hsame hne hs0 hs0' hitems hitems' hjoin hjoin' htrail htrail'

/-- C07 about the source: the translated front end returns a tree or an error value for EVERY text — it never reaches a `usize` underflow (panic
    outcome) and the stated fuels always suffice -/
theorem compile_total_source (cc : CharClass) (src : Str) :
    (∃ e, compileSrc (N := N) cc src = .ok e) ∨ (∃ err, compileSrc (N := N) cc src = .err err) := by
  unfold compileSrc
  obtain ⟨hp, hf⟩ := C02Scanner.tokenize_total (N := N) cc src
  cases ht : SrcScanner.tokenize (N := N) (src.length + 1) cc src with
  | ok toks =>
    obtain ⟨hp2, hf2⟩ := C01Parser.compile_ast_total toks (parseFuel toks.length) (by unfold parseFuel; omega)
    cases hc : SrcParser.compile_ast (parseFuel toks.length) toks with
    | ok e => exact .inl ⟨e, hc⟩
    | err er => exact .inr ⟨er, hc⟩
    | outOfFuel => exact absurd hc hf2
    | panic => exact absurd hc hp2
  | err er => exact .inr ⟨er, rfl⟩
  | outOfFuel => exact absurd ht hf
  | panic => exact absurd ht hp

end Slac.FrontSource
