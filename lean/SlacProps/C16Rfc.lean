/-
  C16 (continued) — the string side of src/stdlib/time.rs: RFC 3339 / RFC 2822 parsing, the full strftime language.
  Model: SlacModel.TimeFmt (chrono 0.4.45 `format::strftime` + formatter), SlacModel.TimeParse (chrono's scanners, item
  parser, `Parsed` resolution, `parse_rfc3339`, `parse_rfc2822`), SlacModel.Time / SlacModel.TimeRfc (the builtins, for a
  process whose local time zone is UTC).  Tie: `call` stream of the correspondence harness on
  date_from_rfc3339, date_from_rfc2822, date_to_rfc3339, date_to_rfc2822, date_to_string, time_to_string,
  string_to_date, string_to_time, string_to_datetime (harness pools + generator with odd-but-valid syntax).

  R. Round trips.  For every date-time exact to the millisecond in years 0–9999 (`Rfc t`), parsing the RFC 3339
     text gives the date-time back; parsing the RFC 2822 text gives it back truncated to the whole second (RFC 2822
     has no fraction).  Stated on `DT` (no number hypothesis), and through numbers for `[LawfulTimeNum N]`
     (at `Float` in SlacProps.C16RfcFloat).
  T. Totality.  Every string builtin answers `some (value or error value)` for every argument list — there is no
     panic outcome in the model — except `string_to_date` / `string_to_datetime` on the one input class where
     chrono's `i32` arithmetic overflows (ISO year `i32::MIN`/`i32::MAX` through `%G`), which is characterised.
  S. Specifiers.  What each strftime specifier prints, as the decimal rendering of the component the builtins
     `year` … `millisecond`, `day_of_week` return.
-/
import SlacProps.C16
import SlacProofs.TimeRfcFmt
import SlacProofs.TimeZoneRound
set_option autoImplicit false
set_option linter.unusedSimpArgs false
namespace Slac.C16
open Slac.Time Slac.TimeRfc Slac.Stdlib

/-! ## R. Round trips -/

/-- a date-time exact to the millisecond in years 0–9999: what RFC 3339 / RFC 2822 texts can denote -/
structure Rfc (t : DT) : Prop where
  ms : t.ms < 86400000
  y0 : 0 ≤ t.year
  y1 : t.year ≤ 9999

/-- such a date-time is in the range covered by the number theorems of C16 (|total milliseconds| ≤ 2^48) -/
theorem Rfc.enc {t : DT} (h : Rfc t) : t.Enc := by
  obtain ⟨d1, d2⟩ := dt_days_range t h.y0 h.y1
  have hms := h.ms
  refine ⟨hms, ?_, ?_⟩ <;> simp only [DT.totalMs, msPerDay] <;> omega

/-- the stamps of C16 (years 1–9999) are such date-times -/
theorem Rfc.of_stamp {y : Int} {m d h mi s ml : Nat} (st : Stamp y m d h mi s ml) : Rfc (stampDT y m d h mi s ml) := by
  obtain ⟨e1, _⟩ := stamp_components st
  have hms := (time_components h mi s ml st.hh st.hmi st.hs st.hml (daysFromCivil y m d)).2.2.2.2
  refine ⟨hms, ?_, ?_⟩
  · rw [e1]; have := st.y1; omega
  · rw [e1]; exact st.y2

section
variable {N : Type} [NumX N]

/-- `date_from_rfc3339 (to_rfc3339 t) = t`, no hypothesis about numbers: both sides are the same division
    `total_ms / 86400000` -/
theorem dateFromRfc3339_rfc3339 (t : DT) (h : Rfc t) :
    dateFromRfc3339 [(.str (rfc3339 t) : Value N)] = some (.ok (encode t)) := by
  simp only [dateFromRfc3339, rfc3339Utc_rfc3339 t h.ms h.y0 h.y1, Except.map, fixedToNaive, finish, toNDT_millis]; rfl

/-- `date_from_rfc2822 (to_rfc2822 t)` is `t` truncated to the whole second: RFC 2822 texts carry no fraction, the
    millisecond of the second is lost -/
theorem dateFromRfc2822_rfc2822 (t : DT) (h : Rfc t) :
    dateFromRfc2822 [(.str (rfc2822 t) : Value N)] = some (.ok (encode ⟨t.days, t.ms / 1000 * 1000⟩)) := by
  simp only [dateFromRfc2822, rfc2822Utc_rfc2822 t h.ms h.y0 h.y1, Except.map, fixedToNaive, finish, secondNDT_millis]; rfl

end

section
variable {N : Type} [NumX N] [LawfulTimeNum N]

/-- through numbers: `date_to_rfc3339` of the date-time number of `t` prints `rfc3339 t` -/
theorem dateToRfc3339_encode (t : DT) (h : t.Enc) :
    dateToRfc3339 [(encode t : Value N)] = .ok (.str (rfc3339 t)) := by
  simp only [dateToRfc3339, Time.decode_encode t h]

theorem dateToRfc2822_encode (t : DT) (h : t.Enc) (hy : 0 ≤ t.year ∧ t.year ≤ 9999) :
    dateToRfc2822 [(encode t : Value N)] = .ok (.str (rfc2822 t)) := by
  simp only [dateToRfc2822, Time.decode_encode t h, hy, and_self, if_true]

/-- ROUND TRIP, RFC 3339: for every date-time number `x = encode t` exact to the millisecond in years 0–9999,
    `date_from_rfc3339 (date_to_rfc3339 x) = x` -/
theorem rfc3339_roundtrip (t : DT) (h : Rfc t) (txt : Str)
    (hp : dateToRfc3339 [(encode t : Value N)] = .ok (.str txt)) :
    dateFromRfc3339 [(.str txt : Value N)] = some (.ok (encode t)) := by
  rw [dateToRfc3339_encode t h.enc] at hp
  cases hp
  exact dateFromRfc3339_rfc3339 t h

/-- ROUND TRIP, RFC 2822: the result is `x` with the millisecond of the second dropped (truncation, not rounding) … -/
theorem rfc2822_roundtrip_truncates (t : DT) (h : Rfc t) (txt : Str)
    (hp : dateToRfc2822 [(encode t : Value N)] = .ok (.str txt)) :
    dateFromRfc2822 [(.str txt : Value N)] = some (.ok (encode ⟨t.days, t.ms / 1000 * 1000⟩)) := by
  rw [dateToRfc2822_encode t h.enc ⟨h.y0, h.y1⟩] at hp
  cases hp
  exact dateFromRfc2822_rfc2822 t h

/-- … hence at whole seconds `date_from_rfc2822 (date_to_rfc2822 x) = x` -/
theorem rfc2822_roundtrip (t : DT) (h : Rfc t) (hs : t.ms % 1000 = 0) (txt : Str)
    (hp : dateToRfc2822 [(encode t : Value N)] = .ok (.str txt)) :
    dateFromRfc2822 [(.str txt : Value N)] = some (.ok (encode t)) := by
  rw [rfc2822_roundtrip_truncates t h txt hp, (by omega : t.ms / 1000 * 1000 = t.ms)]

/-- the same for the stamps of C16: a date of years 1–9999 with hour, minute, second, millisecond -/
theorem rfc3339_roundtrip_stamp {y : Int} {m d h mi s ml : Nat} (st : Stamp y m d h mi s ml) (txt : Str)
    (hp : dateToRfc3339 [(encode (stampDT y m d h mi s ml) : Value N)] = .ok (.str txt)) :
    dateFromRfc3339 [(.str txt : Value N)] = some (.ok (encode (stampDT y m d h mi s ml))) :=
  rfc3339_roundtrip _ (Rfc.of_stamp st) txt hp

theorem rfc2822_roundtrip_stamp {y : Int} {m d h mi s : Nat} (st : Stamp y m d h mi s 0) (txt : Str)
    (hp : dateToRfc2822 [(encode (stampDT y m d h mi s 0) : Value N)] = .ok (.str txt)) :
    dateFromRfc2822 [(.str txt : Value N)] = some (.ok (encode (stampDT y m d h mi s 0))) :=
  rfc2822_roundtrip _ (Rfc.of_stamp st) (by simp only [stampDT]; omega) txt hp

end

example : Rfc ⟨daysFromCivil 2024 2 29, 86399999⟩ := ⟨by decide, by decide, by decide⟩
example : Rfc ⟨daysFromCivil 0 1 1, 0⟩ := ⟨by decide, by decide, by decide⟩           -- year 0 is included
example : Rfc ⟨daysFromCivil 9999 12 31, 86399999⟩ := ⟨by decide, by decide, by decide⟩
example : rfc3339 ⟨daysFromCivil 2024 2 29, 86399999⟩ = "2024-02-29T23:59:59.999+00:00".toList := by decide +kernel
example : rfc2822 ⟨daysFromCivil 2024 2 29, 86399999⟩ = "Thu, 29 Feb 2024 23:59:59 +0000".toList := by decide +kernel
example : (rfc3339Utc "2024-02-29T23:59:59.999+00:00".toList).toOption =
    some ⟨daysFromCivil 2024 2 29, ⟨86399, 999000000⟩⟩ := by decide +kernel
/-- the leap-day instance of the round trip in the rational model of the number class -/
example : @dateFromRfc3339 ℚ Toy.numX [.str "2024-02-29T23:59:59.999+00:00".toList] =
    some (.ok (@encode ℚ Toy.numX ⟨daysFromCivil 2024 2 29, 86399999⟩)) :=
  @dateFromRfc3339_rfc3339 ℚ Toy.numX ⟨daysFromCivil 2024 2 29, 86399999⟩ ⟨by decide, by decide, by decide⟩

/-! ### R2. offsets and leap seconds in RFC 3339 -/
section
variable {N : Type} [NumX N]

/-- An RFC 3339 text `YYYY-MM-DDTHH:MM:SS±hh:mm` of an existing date of years 0–9999 with offset below 24 h denotes
    the local clock reading MINUS the offset (the UTC instant; with `TZ=UTC` that is also the local date-time the
    builtin returns).  A second of `60` (leap second) is accepted and counts as the following second. -/
theorem dateFromRfc3339_offset (y m d h mi s : Nat) (hy : y ≤ 9999) (hv : validDate y m d = true)
    (hh : h < 24) (hmi : mi < 60) (hs : s ≤ 60) (neg : Bool) (oh om : Nat) (hoh : oh < 24) (hom : om < 60) :
    dateFromRfc3339 [(.str (rfc3339Head y m d h mi s (offsetText neg oh om)) : Value N)] =
      some (.ok (encodeMs ((daysFromCivil y m d * 86400 + ((h * 3600 + mi * 60 + s : Nat) : Int)) * 1000 -
        (if neg then -1 else 1) * ((oh * 3600 + om * 60 : Nat) : Int) * 1000))) := by
  obtain ⟨_, hmd⟩ := (validDate_iff y m d).1 hv
  have hb := validDate_bounds hv
  obtain ⟨hd1, hd2⟩ := days_range0 y m d hmd (by omega) (by omega)
  rw [dateFromRfc3339, rfc3339Utc_head y m d h mi s (by omega) (by omega) (by omega) (by omega) (by omega) (by omega),
    if_pos hv, ← List.nil_append (offsetText neg oh om),
    rfc3339Tail_shift _ h mi s 0 hd1 hd2 hh hmi hs [] neg oh om hoh hom (fracPart_offsetText neg oh om)]
  simp only [Except.map, fixedToNaive, finish]
  rw [shiftNDT_millis]
  simp only [NDT.millis, NDT.timestamp]
  congr 3
  by_cases h60 : s = 60
  · subst h60; cases neg <;> simp <;> omega
  · have : min s 59 = s := by omega
    cases neg <;> simp [h60, this]

end

/-- 1996-12-19T16:39:57-08:00 (the example of RFC 3339) is 1996-12-20T00:39:57Z -/
example : rfc3339Head 1996 12 19 16 39 57 (offsetText true 8 0) = "1996-12-19T16:39:57-08:00".toList := by decide +kernel
example : ((daysFromCivil 1996 12 19 * 86400 + ((16 * 3600 + 39 * 60 + 57 : Nat) : Int)) * 1000 - (-1) * ((8 * 3600 + 0 * 60 : Nat) : Int) * 1000) =
    (daysFromCivil 1996 12 20 * 86400 + 39 * 60 + 57) * 1000 := by decide
/-- the leap second 2016-12-31T23:59:60Z is the instant 2017-01-01T00:00:00Z -/
example : (rfc3339Utc "2016-12-31T23:59:60Z".toList).toOption.map NDT.millis = some (daysFromCivil 2017 1 1 * 86400000) := by
  decide +kernel
/-- fractions of any length are truncated (not rounded) to the millisecond by `Value::from` -/
example : (rfc3339Utc "2024-02-29T00:00:00.9999999999999Z".toList).toOption.map NDT.millis =
    some (daysFromCivil 2024 2 29 * 86400000 + 999) := by decide +kernel
/-- rejected: no offset, month 13, 30 February, offset 24:00, hour 24, trailing text, lower-case separator is fine -/
example : (rfc3339Utc "2024-02-29T00:00:00".toList) = .error .tooShort := by decide +kernel
example : (rfc3339Utc "2024-13-01T00:00:00Z".toList) = .error .outOfRange := by decide +kernel
example : (rfc3339Utc "2024-02-30T00:00:00Z".toList) = .error .outOfRange := by decide +kernel
example : (rfc3339Utc "2024-02-29T00:00:00+24:00".toList) = .error .outOfRange := by decide +kernel
example : (rfc3339Utc "2024-02-29T24:00:00Z".toList) = .error .outOfRange := by decide +kernel
example : (rfc3339Utc "2024-02-29T00:00:00Z ".toList) = .error .tooLong := by decide +kernel
example : (rfc3339Utc "2024-02-29t00:00:00z".toList).toOption.map NDT.millis = some (daysFromCivil 2024 2 29 * 86400000) := by
  decide +kernel
/-- RFC 2822: obsolete zone names, two-digit years, comments, optional and checked day-of-week -/
example : (rfc2822Utc "Wed, 18 Feb 2015 23:16:09 GMT".toList).toOption.map NDT.millis =
    some ((daysFromCivil 2015 2 18 * 86400 + 23 * 3600 + 16 * 60 + 9) * 1000) := by decide +kernel
example : (rfc2822Utc "18 Feb 15 23:16 EST (a (nested) comment)".toList).toOption.map NDT.millis =
    some ((daysFromCivil 2015 2 19 * 86400 + 4 * 3600 + 16 * 60) * 1000) := by decide +kernel
example : (rfc2822Utc "Thu, 18 Feb 2015 23:16:09 GMT".toList) = .error .impossible := by decide +kernel   -- it was a Wednesday
example : (rfc2822Utc "18 Feb 2015 23:16:09".toList) = .error .tooShort := by decide +kernel              -- zone is mandatory

/-! ### R3. fractional seconds of any length -/

/-- `.d₁…dₖ` with 1 ≤ k ≤ 9 digits denotes `d₁…dₖ · 10^(9−k)` nanoseconds (`digitsVal`: the decimal value) -/
theorem fraction_up_to_nine_digits (ds : List Nat) (hds : ∀ d ∈ ds, d < 10) (h1 : 1 ≤ ds.length) (h9 : ds.length ≤ 9)
    (rest : Str) (hrest : NoDigitHead rest) :
    nanosecond (digitsText ds ++ rest) = .ok (rest, digitsVal ds 0 * 10 ^ (9 - ds.length)) :=
  nanosecond_short ds hds h1 h9 rest hrest

/-- with more than nine digits the tenth and later ones are skipped: the value is TRUNCATED to the nanosecond; the
    builtin then truncates to the millisecond (`NDT.millis`: `nano / 1000000`).  Nothing is ever rounded. -/
theorem fraction_beyond_nine_digits (ds more : List Nat) (hds : ∀ d ∈ ds, d < 10) (hm : ∀ d ∈ more, d < 10)
    (h9 : ds.length = 9) (rest : Str) (hrest : NoDigitHead rest) :
    nanosecond (digitsText (ds ++ more) ++ rest) = .ok (rest, digitsVal ds 0) :=
  nanosecond_long ds more hds hm h9 rest hrest

example : NoDigitHead ['Z'] := by intro c r h; cases h; decide
example : digitsText [9, 9, 9, 9] = ['9', '9', '9', '9'] ∧ digitsVal [9, 9, 9, 9] 0 * 10 ^ (9 - 4) = 999900000 := by decide

/-! ## T. Totality: no panic outcome, and exactly where the model is silent -/

section
variable {N : Type} [NumX N]

/-- `date_from_rfc3339` answers a value or an error value for EVERY argument list (any count, any kinds, any string) -/
theorem dateFromRfc3339_total (ps : List (Value N)) : ∃ r : Res N, dateFromRfc3339 ps = some r := by
  unfold dateFromRfc3339; split <;> exact ⟨_, rfl⟩
theorem dateFromRfc2822_total (ps : List (Value N)) : ∃ r : Res N, dateFromRfc2822 ps = some r := by
  unfold dateFromRfc2822; split <;> exact ⟨_, rfl⟩
/-- `date_to_string` / `time_to_string`: every format string, valid or not -/
theorem dateToString_total (ps : List (Value N)) : ∃ r : Res N, dateToString ps = some r := by
  unfold dateToString; split
  · split <;> exact ⟨_, rfl⟩
  · exact ⟨_, rfl⟩
  · exact ⟨_, rfl⟩
theorem stringToTime_total (ps : List (Value N)) : ∃ r : Res N, stringToTime ps = some r := by
  unfold stringToTime; split
  · exact ⟨_, rfl⟩
  · split <;> exact ⟨_, rfl⟩

/-- `string_to_date` is silent exactly when the parsed fields send `to_naive_date` into the overflowing branch of
    `NaiveDate::from_isoywd_opt` -/
theorem stringToDate_none_iff (ps : List (Value N)) :
    stringToDate ps = none ↔
      ∃ s rest fmt p, ps = .str s :: rest ∧ defaultString ps 1 fmtDate = .ok fmt ∧
        parseAll (items fmt) s = .ok p ∧ p.dateOverflow = true := by
  unfold stringToDate
  constructor
  · intro h
    repeat' split at h
    all_goals first | exact ⟨_, _, _, _, rfl, ‹_›, ‹_›, ‹_›⟩ | cases h
  · rintro ⟨s, rest, fmt, p, rfl, hfmt, hp, hov⟩
    simp [hfmt, hp, hov]

theorem stringToDatetime_none_iff (ps : List (Value N)) :
    stringToDatetime ps = none ↔
      ∃ s rest fmt p, ps = .str s :: rest ∧ defaultString ps 1 fmtDatetime = .ok fmt ∧
        parseAll (items fmt) s = .ok p ∧ p.datetimeOverflow 0 = true := by
  unfold stringToDatetime
  constructor
  · intro h
    repeat' split at h
    all_goals first | exact ⟨_, _, _, _, rfl, ‹_›, ‹_›, ‹_›⟩ | cases h
  · rintro ⟨s, rest, fmt, p, rfl, hfmt, hp, hov⟩
    simp [hfmt, hp, hov]

end

theorem route_iso {p : Parsed} {gy giy : Option Int} {iy : Int} {iw wd : Nat} (h : p.route gy giy = .iso iy iw wd) :
    giy = some iy ∧ p.isoWeek = some iw ∧ p.weekday = some wd := by
  unfold Parsed.route at h
  split at h <;> cases h
  exact ⟨rfl, ‹_›, ‹_›⟩

/-- the silent class: the resolved ISO year (from `%G`, or `%g` which cannot reach these values) is `i32::MIN` or
    `i32::MAX`, an ISO week and a weekday are given, and no other way to the date (year with month and day, ordinal,
    `%U`/`%W` week) applies -/
theorem dateOverflow_class (p : Parsed) (h : p.dateOverflow = true) :
    ∃ iy iw wd, resolveYear p.isoYear none p.isoYearMod100 = .ok (some iy) ∧ (iy = i32Min ∨ iy = i32Max) ∧
      p.isoWeek = some iw ∧ p.weekday = some wd := by
  unfold Parsed.dateOverflow at h
  split at h
  · rename_i gy giy hgy hgiy
    split at h
    · rename_i iy iw wd hr
      obtain ⟨e1, e2, e3⟩ := route_iso hr
      refine ⟨iy, iw, wd, by rw [hgiy, e1], ?_, e2, e3⟩
      unfold isoOverflow at h
      split at h
      · cases h
      · simp only [decide_eq_true_eq] at h
        rcases h with ⟨h1, _⟩ | ⟨h1, _⟩
        · exact Or.inl h1
        · exact Or.inr h1
    · cases h
  · cases h

/-- without an ISO week number (no `%V`) nothing overflows -/
theorem dateOverflow_needs_isoWeek (p : Parsed) (h : p.isoWeek = none) : p.dateOverflow = false :=
  dateOverflow_isoWeek_none p h

/-! ### non-vacuity: one input of the silent class, and its neighbours, which are answered -/
section
def sOf (s : String) : Value Float := .str s.toList
example : (stringToDate [sOf "-2147483648-W01-1", sOf "%G-W%V-%u"]).isNone = true := by decide +kernel
example : (stringToDate [sOf "-2147483648-W01-2", sOf "%G-W%V-%u"]).isSome = true := by decide +kernel
example : (stringToDate [sOf "-2147483647-W01-1", sOf "%G-W%V-%u"]).isSome = true := by decide +kernel
example : (stringToDate [sOf "2024-W09-4", sOf "%G-W%V-%u"]).isSome = true := by decide +kernel
example : (stringToDatetime [sOf "-2147483648-W01-1", sOf "%G-W%V-%u"]).isNone = true := by decide +kernel
end

/-! ## S. Specifiers -/

/-- the outcome of formatting depends on the value only through the text: whether it FAILS is a property of the
    format string alone — an unknown specifier, a dangling `%`, a padding modifier on a non-numeric specifier, or one
    of `%z %:z %::z %:::z %#z %Z %+` (a naive date-time has no offset) -/
theorem strftime_fails_iff (t : DT) (fmt : Str) :
    strftime t fmt = none ↔ (items fmt).any Item.failsNaive = true :=
  formatItems_none_iff t (items fmt)

theorem strftime_failure_independent_of_value (t1 t2 : DT) (fmt : Str) :
    strftime t1 fmt = none ↔ strftime t2 fmt = none := by
  rw [strftime_fails_iff, strftime_fails_iff]

theorem strftime_tz_fails (t : DT) :
    strftime t ['%', 'z'] = none ∧ strftime t ['%', ':', 'z'] = none ∧ strftime t ['%', ':', ':', 'z'] = none ∧
    strftime t ['%', ':', ':', ':', 'z'] = none ∧ strftime t ['%', '#', 'z'] = none ∧ strftime t ['%', 'Z'] = none ∧
    strftime t ['%', '+'] = none ∧ strftime t ['%', 'Q'] = none ∧ strftime t ['%'] = none ∧
    strftime t ['%', '-', 'F'] = none ∧ strftime t ['%', '.', '4', 'f'] = none := by
  refine ⟨?_, ?_, ?_, ?_, ?_, ?_, ?_, ?_, ?_, ?_, ?_⟩ <;> rw [strftime_fails_iff] <;> decide

section
variable (t : DT)
attribute [local simp] fmtItem fmtNumeric fmtFixed formatItems num0 nums numN writeTwo_zero writeTwo_none writeTwo_space writeYear_zero

theorem spec_Y : strftime t ['%', 'Y'] = some (fmtYear t.year) := by
  rw [strftime_one t rfl]; simp
theorem spec_m : strftime t ['%', 'm'] = some (pad 2 t.month) := by
  rw [strftime_one t rfl]; simp
theorem spec_d : strftime t ['%', 'd'] = some (pad 2 t.day) := by
  rw [strftime_one t rfl]; simp
theorem spec_H : strftime t ['%', 'H'] = some (pad 2 t.hour) := by
  rw [strftime_one t rfl]; simp
theorem spec_M : strftime t ['%', 'M'] = some (pad 2 t.minute) := by
  rw [strftime_one t rfl]; simp
theorem spec_S : strftime t ['%', 'S'] = some (pad 2 t.second) := by
  rw [strftime_one t rfl]; simp
/-- `%3f`: the millisecond, three digits; `%.3f` the same after a dot; `%.f` nothing at a whole second -/
theorem spec_3f : strftime t ['%', '3', 'f'] = some (pad 3 t.milli) := by
  rw [strftime_one t rfl]; simp
theorem spec_dot3f : strftime t ['%', '.', '3', 'f'] = some ('.' :: pad 3 t.milli) := by
  rw [strftime_one t rfl]; simp
theorem spec_dotf : strftime t ['%', '.', 'f'] = some (if t.milli = 0 then [] else '.' :: pad 3 t.milli) := by
  rw [strftime_one t rfl]; simp
/-- `%f`: nanoseconds, nine digits: the millisecond followed by six zeros' worth -/
theorem spec_f : strftime t ['%', 'f'] = some (pad 9 (t.milli * 1000000)) := by
  rw [strftime_one t rfl]
  simp only [fmtItem, num0, fmtNumeric, DT.nano, fmtInt_zero_nat]
/-- unpadded and space-padded day, hour -/
theorem spec_minus_d : strftime t ['%', '-', 'd'] = some (Nat.toDigits 10 t.day) := by
  rw [strftime_one t rfl]; simp
theorem spec_e : strftime t ['%', 'e'] =
    some (if t.day < 10 then ' ' :: Nat.toDigits 10 t.day else Nat.toDigits 10 t.day) := by
  rw [strftime_one t rfl]; simp
theorem spec_k : strftime t ['%', 'k'] =
    some (if t.hour < 10 then ' ' :: Nat.toDigits 10 t.hour else Nat.toDigits 10 t.hour) := by
  rw [strftime_one t rfl]; simp
/-- two-digit year and century (years 0–9999) -/
theorem spec_y : strftime t ['%', 'y'] = some (pad 2 (t.year % 100).toNat) := by
  rw [strftime_one t rfl]; simp
theorem spec_C (h0 : 0 ≤ t.year) (h1 : t.year ≤ 9999) : strftime t ['%', 'C'] = some (pad 2 (t.year / 100).toNat) := by
  rw [strftime_one t rfl]
  have e : (t.year / 100 % 256).toNat = (t.year / 100).toNat := by omega
  simp only [fmtItem, num0, fmtNumeric, e, writeTwoU8_zero _ (by omega : (t.year / 100).toNat < 100)]
/-- day of the year, three digits -/
theorem spec_j : strftime t ['%', 'j'] = some (pad 3 t.ordinal) := by
  rw [strftime_one t rfl]
  simp only [fmtItem, num0, fmtNumeric, fmtInt_zero_nat]
/-- weekday numbers: `%u` Monday = 1 … Sunday = 7, `%w` Sunday = 0 … Saturday = 6 (`day_of_week` is Monday = 0) -/
theorem spec_u : strftime t ['%', 'u'] = some (Nat.toDigits 10 (weekday t.days + 1)) := by
  rw [strftime_one t rfl]
  have := weekday_lt t.days
  simp [DT.weekday, ofNat48_dc _ (by omega : weekday t.days + 1 < 10), Nat.toDigits_of_lt_base (by omega : weekday t.days + 1 < 10)]
theorem spec_w : strftime t ['%', 'w'] = some (Nat.toDigits 10 ((weekday t.days + 1) % 7)) := by
  rw [strftime_one t rfl]
  simp [DT.weekday, ofNat48_dc _ (by omega : (weekday t.days + 1) % 7 < 10), Nat.toDigits_of_lt_base (by omega : (weekday t.days + 1) % 7 < 10)]
theorem spec_a : strftime t ['%', 'a'] = some (shortWeekdayName (weekday t.days)) := by
  rw [strftime_one t rfl]; rfl
theorem spec_A : strftime t ['%', 'A'] = some (longWeekdayName (weekday t.days)) := by
  rw [strftime_one t rfl]; rfl
theorem spec_b : strftime t ['%', 'b'] = some (shortMonthName t.month) := by
  rw [strftime_one t rfl]; rfl
theorem spec_B : strftime t ['%', 'B'] = some (longMonthName t.month) := by
  rw [strftime_one t rfl]; rfl
theorem spec_I : strftime t ['%', 'I'] = some (pad 2 (if t.hour % 12 = 0 then 12 else t.hour % 12)) := by
  rw [strftime_one t rfl]; simp [DT.hour12]
theorem spec_p : strftime t ['%', 'p'] = some (if 12 ≤ t.hour then ['P', 'M'] else ['A', 'M']) := by
  rw [strftime_one t rfl]; simp [DT.isPm]
/-- seconds since 1970-01-01T00:00:00 (the value is taken as UTC) -/
theorem spec_s : strftime t ['%', 's'] =
    some ((if t.timestamp < 0 then ['-'] else []) ++ Nat.toDigits 10 t.timestamp.natAbs) := by
  rw [strftime_one t rfl]; simp [fmtInt]
/-- ISO 8601 week date and the week-of-year numbers -/
theorem spec_G : strftime t ['%', 'G'] = some (fmtYear (isoWeekOf t.days).1) := by
  rw [strftime_one t rfl]; simp
theorem spec_V : strftime t ['%', 'V'] = some (pad 2 (isoWeekOf t.days).2) := by
  rw [strftime_one t rfl]; simp
theorem spec_U : strftime t ['%', 'U'] = some (pad 2 (weeksFrom t.days 6)) := by
  rw [strftime_one t rfl]; simp
theorem spec_W : strftime t ['%', 'W'] = some (pad 2 (weeksFrom t.days 0)) := by
  rw [strftime_one t rfl]; simp
theorem spec_F : strftime t ['%', 'F'] = some (dateText t.year t.month t.day) := by
  simp [strftime, (by decide : items ['%', 'F'] = [num0 .year, .literal ['-'], num0 .month, .literal ['-'], num0 .day]), dateText]
theorem spec_T : strftime t ['%', 'T'] = some (timeText t.hour t.minute t.second) := by
  simp [strftime, (by decide : items ['%', 'T'] = [num0 .hour, .literal [':'], num0 .minute, .literal [':'], num0 .second]), timeText]
theorem spec_R : strftime t ['%', 'R'] = some (pad 2 t.hour ++ ':' :: pad 2 t.minute) := by
  simp [strftime, (by decide : items ['%', 'R'] = [num0 .hour, .literal [':'], num0 .minute])]
theorem spec_D : strftime t ['%', 'D'] =
    some (pad 2 t.month ++ '/' :: (pad 2 t.day ++ '/' :: pad 2 (t.year % 100).toNat)) := by
  simp [strftime, (by decide : items ['%', 'D'] = [num0 .month, .literal ['/'], num0 .day, .literal ['/'], num0 .yearMod100])]
theorem spec_percent : strftime t ['%', '%'] = some ['%'] := by
  rw [strftime_one t rfl]; rfl
/-- text outside specifiers is copied -/
theorem spec_literal : strftime t ['a', 't', ' ', '%', 'H', 'h'] = some ('a' :: 't' :: ' ' :: (pad 2 t.hour ++ ['h'])) := by
  simp [strftime, (by decide : items ['a', 't', ' ', '%', 'H', 'h'] = [.literal ['a', 't'], .space [' '], num0 .hour, .literal ['h']])]
end

section
variable {N : Type} [NumX N] [LawfulTimeNum N]
variable {y : Int} {m d h mi s ml : Nat}

theorem dateToString_stamp (st : Stamp y m d h mi s ml) (fmt : Str) :
    dateToString [.str fmt, (encode (stampDT y m d h mi s ml) : Value N)] =
      some (fmtResult (strftime (stampDT y m d h mi s ml) fmt)) :=
  dateToString_encode fmt _ (stamp_enc st)

theorem dateToString_stamp_ok (st : Stamp y m d h mi s ml) {fmt txt : Str}
    (hf : strftime (stampDT y m d h mi s ml) fmt = some txt) :
    dateToString [.str fmt, (encode (stampDT y m d h mi s ml) : Value N)] = some (.ok (.str txt)) := by
  rw [dateToString_stamp st, hf]; rfl

/-- `%Y %m %d %H %M %S %3f` print the zero-padded decimal renderings of the numbers that `year`, `month`, `day`,
    `hour`, `minute`, `second`, `millisecond` return for the same date-time number -/
theorem spec_components (st : Stamp y m d h mi s ml) :
    let x : Value N := encode (stampDT y m d h mi s ml)
    (dateToString [.str ['%', 'Y'], x] = some (.ok (.str (pad 4 y.toNat))) ∧ year [x] = .ok (.num (NumX.ofInt y))) ∧
    (dateToString [.str ['%', 'm'], x] = some (.ok (.str (pad 2 m))) ∧ month [x] = .ok (.num (NumX.ofNat m))) ∧
    (dateToString [.str ['%', 'd'], x] = some (.ok (.str (pad 2 d))) ∧ day [x] = .ok (.num (NumX.ofNat d))) ∧
    (dateToString [.str ['%', 'H'], x] = some (.ok (.str (pad 2 h))) ∧ hour [x] = .ok (.num (NumX.ofNat h))) ∧
    (dateToString [.str ['%', 'M'], x] = some (.ok (.str (pad 2 mi))) ∧ minute [x] = .ok (.num (NumX.ofNat mi))) ∧
    (dateToString [.str ['%', 'S'], x] = some (.ok (.str (pad 2 s))) ∧ second [x] = .ok (.num (NumX.ofNat s))) ∧
    (dateToString [.str ['%', '3', 'f'], x] = some (.ok (.str (pad 3 ml))) ∧
      millisecond [x] = .ok (.num (NumX.ofNat ml))) := by
  obtain ⟨e1, e2, e3, e4, e5, e6, e7⟩ := stamp_components st
  have hy : fmtYear y = pad 4 y.toNat := fmtYear_small y (by have := st.y1; omega) st.y2
  exact ⟨⟨dateToString_stamp_ok st (by rw [spec_Y, e1, hy]), year_spec st⟩,
    ⟨dateToString_stamp_ok st (by rw [spec_m, e2]), month_spec st⟩, ⟨dateToString_stamp_ok st (by rw [spec_d, e3]), day_spec st⟩,
    ⟨dateToString_stamp_ok st (by rw [spec_H, e4]), hour_spec st⟩, ⟨dateToString_stamp_ok st (by rw [spec_M, e5]), minute_spec st⟩,
    ⟨dateToString_stamp_ok st (by rw [spec_S, e6]), second_spec st⟩,
    ⟨dateToString_stamp_ok st (by rw [spec_3f, e7]), millisecond_spec st⟩⟩

/-- `%u` is `day_of_week + 1` -/
theorem spec_weekday (st : Stamp y m d h mi s ml) :
    dateToString [.str ['%', 'u'], (encode (stampDT y m d h mi s ml) : Value N)] =
      some (.ok (.str (Nat.toDigits 10 (weekday (daysFromCivil y m d) + 1)))) ∧
    dayOfWeek [(encode (stampDT y m d h mi s ml) : Value N)] = .ok (.num (NumX.ofNat (weekday (daysFromCivil y m d)))) :=
  ⟨dateToString_stamp_ok st (spec_u _), dayOfWeek_spec st⟩

/-- a failing format is an error value `CustomError("invalid format string")`, never a panic (time.rs after the fix
    776c6ff) -/
theorem dateToString_invalid_format (st : Stamp y m d h mi s ml) (fmt : Str)
    (hf : (items fmt).any Item.failsNaive = true) :
    dateToString [.str fmt, (encode (stampDT y m d h mi s ml) : Value N)] =
      some (.error (custom "invalid format string")) := by
  rw [dateToString_stamp st, (strftime_fails_iff _ fmt).2 hf]; rfl

end

/-! ### S2. the parsing direction with a custom format -/
section
variable {N : Type} [NumX N] [LawfulTimeNum N]
variable {y : Int} {m d h mi s ml : Nat}

/-- `string_to_datetime(date_to_string(f, x), f) = x` for `f = "%Y-%m-%d %H:%M:%S%.3f"`, milliseconds included -/
theorem string_roundtrip_ms (st : Stamp y m d h mi s ml) (txt : Str)
    (hp : dateToString [.str fmtMs, (encode (stampDT y m d h mi s ml) : Value N)] = some (.ok (.str txt))) :
    stringToDatetime [(.str txt : Value N), .str fmtMs] = some (.ok (encode (stampDT y m d h mi s ml))) := by
  obtain ⟨e1, e2, e3, e4, e5, e6, e7⟩ := stamp_components st
  rw [dateToString_stamp st, strftime_ms, e1, e2, e3, e4, e5, e6, e7] at hp
  have : txt = datetimeText y m d h mi s ++ '.' :: pad 3 ml := by
    simp only [fmtResult, Option.some.injEq, Except.ok.injEq, Value.str.injEq] at hp; exact hp.symm
  subst this
  rw [stringToDatetime_ms y m d h mi s ml (by have := st.y1; omega) st.y2 st.valid st.hh st.hmi st.hs st.hml]
  have : (h * 3600 + mi * 60 + s) * 1000 + ml = ((h * 60 + mi) * 60 + s) * 1000 + ml := by omega
  simp only [stampDT, this]

end

example : fmtMs = "%Y-%m-%d %H:%M:%S%.3f".toList := by decide
example : okStr? ((dateToString [.str fmtMs, .num 13734.424444594908]).getD (.error .indexNegative)) =
    some "2007-08-09 10:11:12.013".toList := by decide +kernel

example : okStr? ((dateToString [sOf "%Y-%m-%dT%H:%M:%S%.3f", .num 13734.424444594908]).getD (.error .indexNegative)) =
    some "2007-08-09T10:11:12.013".toList := by decide +kernel
example : okStr? ((dateToString [sOf "%a %A %b %B %e %j %U %W %G-W%V-%u %I%p %s", .num 13734.424444594908]).getD (.error .indexNegative)) =
    some "Thu Thursday Aug August  9 221 31 32 2007-W32-4 10AM 1186654272".toList := by decide +kernel
example : err? ((dateToString [sOf "%Y %z", .num 0]).getD (.error .indexNegative)) =
    some (custom "invalid format string") := by decide +kernel
example : (items "%Y %z".toList).any Item.failsNaive = true := by decide

end Slac.C16
