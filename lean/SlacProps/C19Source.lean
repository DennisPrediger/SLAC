/-
  C19 — the translator leg of the tie for the static environment.  `SlacModel/Generated/SrcEnv.lean` is REGENERATED
  on every check run by /verif/tools/rs2lean.py from the current text of /repo/src/environment.rs
  (`impl Environment for StaticEnvironment`: `variable`, `call`, `variable_exists`, `function_exists`; the key
  function `get_env_key` is the parameter `fold`).  The theorems say, for every `fold` and every `s : StaticEnv N`,
  that the four observations of the hand-written model of SlacModel/Env.lean are exactly the translated source:
    `StaticEnv.getVariable = variable_`, `StaticEnv.call = call_` (`ok_or(FunctionNotFound(name))?` then the call),
    `StaticEnv.variableExists = variable_exists`, `StaticEnv.functionExists = function_exists` (with the arity
    arithmetic `Fn.accepts` inlined in the source), and hence that `StaticEnv.toEnv fold s` — the `Environment`
    every other theorem talks about — has exactly the four translated functions as its fields.  The seven mutating
  operations (`add_variable` … `list_functions`) are translated too and equal the model's definitionally.
  A changed arm in environment.rs changes the generated file and breaks one of these proofs.
-/
import SlacModel.Generated.SrcEnv
import SlacModel.Env
set_option autoImplicit false
set_option linter.unusedSectionVars false
namespace Slac.C19Source
open Slac.Generated
variable {N : Type} [NumOps N]

/-- src/environment.rs `variable` -/
theorem getVariable_is_source (fold : Str → Str) (s : StaticEnv N) (n : Str) :
    StaticEnv.getVariable fold s n = SrcEnv.variable_ fold s n := by
  simp [StaticEnv.getVariable, SrcEnv.variable_]

/-- src/environment.rs `call` -/
theorem call_is_source (fold : Str → Str) (s : StaticEnv N) (n : Str) (args : List (Value N)) :
    StaticEnv.call fold s n args = SrcEnv.call_ fold s n args := by
  simp only [StaticEnv.call, SrcEnv.call_]
  cases alGet (fold n) s.fns <;> rfl

/-- src/environment.rs `variable_exists` -/
theorem variableExists_is_source (fold : Str → Str) (s : StaticEnv N) (n : Str) :
    StaticEnv.variableExists fold s n = SrcEnv.variable_exists fold s n := by
  simp [StaticEnv.variableExists, SrcEnv.variable_exists]

/-- src/environment.rs `function_exists` -/
theorem functionExists_is_source (fold : Str → Str) (s : StaticEnv N) (n : Str) (k : Nat) :
    StaticEnv.functionExists fold s n k = SrcEnv.function_exists fold s n k := by
  simp only [StaticEnv.functionExists, SrcEnv.function_exists]
  cases alGet (fold n) s.fns with
  | none => rfl
  | some f =>
    simp only [Fn.accepts]
    cases f.arity <;> simp

/-- `impl Environment for StaticEnvironment`: the trait object the interpreter, the validator and the optimizer see
    consists of exactly the four translated functions -/
theorem toEnv_is_source (fold : Str → Str) (s : StaticEnv N) :
    StaticEnv.toEnv fold s =
      { var := SrcEnv.variable_ fold s, call := SrcEnv.call_ fold s,
        varExists := SrcEnv.variable_exists fold s, fnExists := SrcEnv.function_exists fold s } := by
  simp only [StaticEnv.toEnv, Env.mk.injEq]
  exact ⟨funext (getVariable_is_source fold s), funext fun n => funext (call_is_source fold s n),
    funext (variableExists_is_source fold s), funext fun n => funext (functionExists_is_source fold s n)⟩

theorem toEnv_fields (fold : Str → Str) (s : StaticEnv N) :
    (StaticEnv.toEnv fold s).var = SrcEnv.variable_ fold s ∧
    (StaticEnv.toEnv fold s).call = SrcEnv.call_ fold s ∧
    (StaticEnv.toEnv fold s).varExists = SrcEnv.variable_exists fold s ∧
    (StaticEnv.toEnv fold s).fnExists = SrcEnv.function_exists fold s := by
  rw [toEnv_is_source]; exact ⟨rfl, rfl, rfl, rfl⟩

/-- the mutating operations of `StaticEnvironment` as read off the source are the model's -/
theorem addVariable_is_source (fold : Str → Str) (s : StaticEnv N) (n : Str) (v : Value N) :
    StaticEnv.addVariable fold s n v = SrcEnv.add_variable fold s n v := rfl
theorem removeVariable_is_source (fold : Str → Str) (s : StaticEnv N) (n : Str) :
    StaticEnv.removeVariable fold s n = SrcEnv.remove_variable fold s n := rfl
theorem clearVariables_is_source (s : StaticEnv N) : StaticEnv.clearVariables s = SrcEnv.clear_variables s := rfl
theorem addFunction_is_source (fold : Str → Str) (s : StaticEnv N) (f : Fn N) :
    StaticEnv.addFunction fold s f = SrcEnv.add_function fold s f := rfl
theorem addFunctions_is_source (fold : Str → Str) (s : StaticEnv N) (fs : List (Fn N)) :
    StaticEnv.addFunctions fold s fs = SrcEnv.add_functions fold s fs := rfl
theorem removeFunction_is_source (fold : Str → Str) (s : StaticEnv N) (n : Str) :
    StaticEnv.removeFunction fold s n = SrcEnv.remove_function fold s n := rfl
theorem listFunctions_is_source (s : StaticEnv N) : StaticEnv.listFunctions s = SrcEnv.list_functions s := rfl

end Slac.C19Source
