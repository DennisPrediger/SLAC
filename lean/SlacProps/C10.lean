/-
  C10 — validated trees never hit unresolved names (the parts about check_variables_and_functions, the arity
  answers of `function_exists`, and the naming of the offender; the standard-library parameter-count part and
  the stability under `optimize` live elsewhere).
  Model: SlacModel.Validate (`checkVF`, src/validate.rs), SlacModel.Interp (`evalR`), SlacModel.Env (`StaticEnv`).
  All theorems hold for every number implementation and every key-folding function.
-/
import SlacProofs.ValidateLemmas
import SlacProofs.EnvLemmas
set_option autoImplicit false
set_option linter.unusedSectionVars false
namespace Slac.C10
variable {N : Type} [NumOps N]

/-- An `Environment` whose existence checks tell the truth: `variable_exists` ⇔ `variable` is `Some`, and a
    function reported as callable with `k` arguments never answers `FunctionNotFound` to `k` arguments. -/
def Lawful (env : Env N) : Prop :=
  (∀ n, env.varExists n = true ↔ (env.var n).isSome = true) ∧
  (∀ n k p args, env.fnExists n k = .exist p → List.length args = k →
    ∀ g, env.call n args ≠ .error (.functionNotFound g))

/-- The same with an escape: a `FunctionNotFound g` answer of a callable function is allowed for `g ∈ S`
    (`S` = the names that registered native functions *themselves* report; `Lawful = LawfulMod ∅`). -/
def LawfulMod (S : Str → Prop) (env : Env N) : Prop :=
  (∀ n, env.varExists n = true ↔ (env.var n).isSome = true) ∧
  (∀ n k p args, env.fnExists n k = .exist p → List.length args = k →
    ∀ g, env.call n args = .error (.functionNotFound g) → S g)

theorem lawful_iff_mod (env : Env N) : Lawful env ↔ LawfulMod (fun _ => False) env := Iff.rfl

/-- the errors C10 excludes: `UndefinedVariable`, and `FunctionNotFound g` (for `g ∉ S`) wrapped by a call -/
def Unres (S : Str → Prop) : Err → Prop
  | .undefinedVariable _ => True
  | .native _ (.functionNotFound g) => ¬ S g
  | _ => False

theorem checkVF_inherited (env : Env N) :
    Inherited (fun e => checkVF env e = .ok ()) (fun es => checkVFList env es = .ok ()) :=
  ⟨(checkVF_unary env _ _).1, (checkVF_binary env _ _ _).1, (checkVF_ternary env _ _ _ _).1, (checkVF_array env _).1,
    fun h => ((checkVF_call env _ _).1 h).2, (checkVFList_cons env _ _).1⟩

/-- an accepted tree never fails with an excluded error: by `eval_origin` such an error is an unbound variable or
    a failing call of the tree, and the check asked the environment about both -/
theorem check_ok_clean (S : Str → Prop) (env : Env N) (henv : LawfulMod S env) (e : Expr N)
    (hc : checkVF env e = .ok ()) (x : Err) (hx : (evalT env e).1 = .error x) : ¬ Unres S x := by
  cases (eval_origin env (checkVF_inherited env)).1 e x hc hx with
  | unary op => exact fun h => h
  | binary op => exact fun h => h
  | ternary op => exact fun h => h
  | var n hp hv =>
    simp only [checkVF] at hp
    split at hp
    · rename_i hex
      have := (henv.1 n).1 hex
      rw [hv] at this; cases this
    · cases hp
  | call f ps vs ne hp hl hcall =>
    simp only [checkVF] at hp
    cases hfe : env.fnExists f ps.length with
    | exist p =>
      cases ne <;> first | exact fun h => h | skip
      exact fun hns => hns (henv.2 f ps.length p vs hfe hl _ hcall)
    | notFound => rw [hfe] at hp; cases hp
    | wrongArity mn mx => rw [hfe] at hp; cases hp

/-- Main theorem: if `check_variables_and_functions` accepts a tree against a lawful environment, executing the
    tree against that environment never fails with an undefined-variable or function-not-found error. -/
theorem check_ok_no_unresolved (env : Env N) (henv : Lawful env) (e : Expr N) (hc : checkVF env e = .ok ()) :
    (∀ n, evalR env e ≠ .error (.undefinedVariable n)) ∧
    (∀ f g, evalR env e ≠ .error (.native f (.functionNotFound g))) := by
  have h := check_ok_clean (fun _ => False) env ((lawful_iff_mod env).1 henv) e hc
  exact ⟨fun n hn => h _ hn trivial, fun f g hg => h _ hg (fun hf => hf)⟩

/-- the names `g` that some registered native function itself reports as `FunctionNotFound g` -/
def SelfReported (σ : StaticEnv N) (g : Str) : Prop :=
  ∃ f ∈ σ.listFunctions, ∃ args, f.run args = .error (.functionNotFound g)

/-- no registered native function answers `FunctionNotFound` itself (true of every function in src/stdlib:
    `NativeError::FunctionNotFound` is constructed only in `StaticEnvironment::call`) -/
def NoSelfNotFound (σ : StaticEnv N) : Prop :=
  ∀ f ∈ σ.listFunctions, ∀ args g, f.run args ≠ .error (.functionNotFound g)

theorem mem_listFunctions_of_get {σ : StaticEnv N} {k : Str} {f : Fn N} (h : alGet k σ.fns = some f) :
    f ∈ σ.listFunctions := by
  simp only [StaticEnv.listFunctions, List.mem_map]
  exact ⟨(k, f), mem_of_alGet h, rfl⟩

/-- A static environment is lawful up to what its own native functions report — unconditionally. -/
theorem staticEnv_lawfulMod (fold : Str → Str) (σ : StaticEnv N) : LawfulMod (SelfReported σ) (σ.toEnv fold) := by
  refine ⟨fun n => Iff.rfl, ?_⟩
  intro n k p args hex _ g hcall
  simp only [StaticEnv.toEnv, StaticEnv.functionExists, StaticEnv.call] at hex hcall
  cases hget : alGet (fold n) σ.fns with
  | none => rw [hget] at hex; cases hex
  | some f =>
    rw [hget] at hcall
    exact ⟨f, mem_listFunctions_of_get hget, args, hcall⟩

/-- A static environment whose registered functions never answer `FunctionNotFound` themselves is lawful.
    (The hypothesis cannot be dropped: see `lawful_needs_hypothesis`.) -/
theorem staticEnv_lawful (fold : Str → Str) (σ : StaticEnv N) (hσ : NoSelfNotFound σ) : Lawful (σ.toEnv fold) := by
  refine ⟨(staticEnv_lawfulMod fold σ).1, ?_⟩
  intro n k p args hex hlen g hcall
  obtain ⟨f, hf, args', h⟩ := (staticEnv_lawfulMod fold σ).2 n k p args hex hlen g hcall
  exact hσ f hf args' g h

/-- C10 for the static environment, hypothesis-free form: an accepted tree never fails with `UndefinedVariable`,
    and a `FunctionNotFound g` failure can only be one that a registered native function reported itself. -/
theorem check_ok_no_unresolved_static (fold : Str → Str) (σ : StaticEnv N) (e : Expr N)
    (hc : checkVF (σ.toEnv fold) e = .ok ()) :
    (∀ n, evalR (σ.toEnv fold) e ≠ .error (.undefinedVariable n)) ∧
    (∀ f g, evalR (σ.toEnv fold) e = .error (.native f (.functionNotFound g)) → SelfReported σ g) := by
  have h := check_ok_clean (SelfReported σ) _ (staticEnv_lawfulMod fold σ) e hc
  refine ⟨fun n hn => h _ hn trivial, fun f g hg => ?_⟩
  exact Classical.byContradiction (fun hns => h _ hg hns)

/-! ### `function_exists` answers exactly the registered arity -/

def NatSet := Nat → Prop
instance : Membership Nat NatSet := ⟨fun s n => s n⟩

/-- exactly `k` (`m = 0`); `k` plus up to `m` optional; at least one; none -/
def arityRange : Arity → NatSet
  | .polyadic k m => fun n => k ≤ n ∧ n ≤ k + m
  | .variadic => fun n => 1 ≤ n
  | .none => fun n => n = 0

/-- the bounds a `WrongArity` answer reports -/
def arityBounds : Arity → Nat × Nat
  | .polyadic k m => (k, k + m)
  | .variadic => (1, 99)
  | .none => (0, 0)

theorem accepts_cases (f : Fn N) (n : Nat) :
    (n ∈ arityRange f.arity ∧ f.accepts n = .exist f.pure) ∨
    (¬ n ∈ arityRange f.arity ∧ f.accepts n = .wrongArity (arityBounds f.arity).1 (arityBounds f.arity).2) := by
  simp only [Fn.accepts, Membership.mem]
  cases f.arity with
  | polyadic k m =>
    simp only [arityRange, arityBounds, Bool.or_eq_true, decide_eq_true_eq]
    by_cases h : n < k ∨ n > k + m
    · exact .inr ⟨by omega, if_pos h⟩
    · exact .inl ⟨by omega, if_neg h⟩
  | variadic =>
    simp only [arityRange, arityBounds]
    by_cases h : n > 0
    · exact .inl ⟨h, if_pos h⟩
    · exact .inr ⟨by omega, if_neg h⟩
  | none =>
    simp only [arityRange, arityBounds]
    by_cases h : n = 0
    · exact .inl ⟨h, if_pos h⟩
    · exact .inr ⟨h, if_neg h⟩

theorem accepts_exist_iff (f : Fn N) (n : Nat) (p : Bool) :
    f.accepts n = .exist p ↔ f.pure = p ∧ n ∈ arityRange f.arity := by
  rcases accepts_cases f n with ⟨h, e⟩ | ⟨h, e⟩ <;> rw [e]
  · exact ⟨fun h' => by cases h'; exact ⟨rfl, h⟩, fun h' => by rw [h'.1]⟩
  · exact ⟨nofun, fun h' => absurd h'.2 h⟩

theorem accepts_wrong_iff (f : Fn N) (n mn mx : Nat) :
    f.accepts n = .wrongArity mn mx ↔ ¬ n ∈ arityRange f.arity ∧ arityBounds f.arity = (mn, mx) := by
  rcases accepts_cases f n with ⟨h, e⟩ | ⟨h, e⟩ <;> rw [e]
  · exact ⟨nofun, fun h' => absurd h h'.1⟩
  · exact ⟨fun h' => by cases h'; exact ⟨h, rfl⟩, fun h' => by rw [h'.2]⟩

/-- an answer other than the one for an unregistered name comes from the registered function -/
theorem lookup_iff {α : Type} {o : Option (Fn N)} {d r : α} {g : Fn N → α} {Q : Fn N → Prop} (hd : d ≠ r)
    (hg : ∀ f, g f = r ↔ Q f) : (match o with | some f => g f | none => d) = r ↔ ∃ fn, o = some fn ∧ Q fn := by
  cases o with
  | none => exact ⟨fun h => absurd h hd, fun ⟨_, h, _⟩ => nomatch h⟩
  | some f => exact ⟨fun h => ⟨f, rfl, (hg f).1 h⟩, fun ⟨fn, h, h'⟩ => by cases h; exact (hg f).2 h'⟩

/-- The environment reports a function as callable with `n` arguments exactly when a function is registered under
    the folded name and `n` lies within the arity it was registered with. -/
theorem function_exists_iff (fold : Str → Str) (σ : StaticEnv N) (name : Str) (n : Nat) (p : Bool) :
    σ.functionExists fold name n = .exist p ↔
      ∃ fn, alGet (fold name) σ.fns = some fn ∧ fn.pure = p ∧ n ∈ arityRange fn.arity :=
  lookup_iff nofun fun f => accepts_exist_iff f n p

/-- … answers `NotFound` exactly when nothing is registered under the folded name … -/
theorem function_notFound_iff (fold : Str → Str) (σ : StaticEnv N) (name : Str) (n : Nat) :
    σ.functionExists fold name n = .notFound ↔ alGet (fold name) σ.fns = none := by
  simp only [StaticEnv.functionExists]
  cases alGet (fold name) σ.fns with
  | none => exact ⟨fun _ => rfl, fun _ => rfl⟩
  | some f =>
    refine ⟨fun h => ?_, nofun⟩
    simp only at h
    rcases accepts_cases f n with ⟨_, e⟩ | ⟨_, e⟩ <;> rw [e] at h <;> cases h

/-- … and `WrongArity{min,max}` exactly when `n` is outside the registered range, with that range's bounds. -/
theorem function_wrongArity_iff (fold : Str → Str) (σ : StaticEnv N) (name : Str) (n mn mx : Nat) :
    σ.functionExists fold name n = .wrongArity mn mx ↔
      ∃ fn, alGet (fold name) σ.fns = some fn ∧ ¬ n ∈ arityRange fn.arity ∧ arityBounds fn.arity = (mn, mx) :=
  lookup_iff nofun fun f => accepts_wrong_iff f n mn mx

/-! ### A rejection names the offender -/

/-- `x` is a complaint about a variable or call that occurs in `e`, and the environment's own answer about that
    very name (and argument count) justifies it -/
inductive Offender (env : Env N) (e : Expr N) : VErr → Prop
  | var (n : Str) : Sub (.var n) e → env.varExists n = false → Offender env e (.missingVariable n)
  | fn (f : Str) (ps : List (Expr N)) : Sub (.call f ps) e → env.fnExists f ps.length = .notFound →
      Offender env e (.missingFunction f)
  | arity (f : Str) (ps : List (Expr N)) (mn mx : Nat) : Sub (.call f ps) e →
      env.fnExists f ps.length = .wrongArity mn mx → Offender env e (.paramCountMismatch f ps.length mn mx)

theorem Offender.lift {env : Env N} {c e : Expr N} {x : VErr} (h : Offender env c x)
    (up : ∀ y, Sub y c → Sub y e) : Offender env e x := by
  cases h with
  | var n hs hv => exact .var n (up _ hs) hv
  | fn f ps hs hf => exact .fn f ps (up _ hs) hf
  | arity f ps mn mx hs hf => exact .arity f ps mn mx (up _ hs) hf

def RejE (env : Env N) (e : Expr N) : Prop := ∀ x, checkVF env e = .error x → Offender env e x
def RejL (env : Env N) (es : List (Expr N)) : Prop :=
  ∀ x, checkVFList env es = .error x → ∃ c ∈ es, Offender env c x

/-- A rejection names the offending variable or function: the reported name is that of a variable / call occurring
    in the tree, for which the environment answered "does not exist" / `NotFound` / `WrongArity{min,max}` with the
    reported count and bounds. -/
theorem rejection_names_offender (env : Env N) (e : Expr N) (x : VErr) (h : checkVF env e = .error x) :
    Offender env e x := by
  suffices hr : RejE env e from hr x h
  refine Expr.rec (motive_1 := fun e => RejE env e) (motive_2 := fun es => RejL env es)
    ?_ ?_ ?_ ?_ ?_ ?_ ?_ ?_ ?_ e
  · intro r op ih x h
    simp only [checkVF] at h
    exact (ih x h).lift (fun y hy => .unary op hy)
  · intro l r op ihl ihr x h
    simp only [checkVF] at h
    rcases VErr.andThen_error h with h1 | ⟨_, h2⟩
    · exact (ihl x h1).lift (fun y hy => .binL r op hy)
    · exact (ihr x h2).lift (fun y hy => .binR l op hy)
  · intro l m r op ihl ihm ihr x h
    simp only [checkVF] at h
    rcases VErr.andThen_error h with h12 | ⟨_, h3⟩
    · rcases VErr.andThen_error h12 with h1 | ⟨_, h2⟩
      · exact (ihl x h1).lift (fun y hy => .ternL m r op hy)
      · exact (ihm x h2).lift (fun y hy => .ternM l r op hy)
    · exact (ihr x h3).lift (fun y hy => .ternR l m op hy)
  · intro es ih x h
    simp only [checkVF] at h
    obtain ⟨c, hc, ho⟩ := ih x h
    exact ho.lift (fun y hy => .array hc hy)
  · intro v x h; simp only [checkVF] at h; cases h
  · intro n x h
    simp only [checkVF] at h
    split at h
    · cases h
    · rename_i hv
      cases h
      exact .var n (.refl _) (by simpa using hv)
  · intro n ps ih x h
    simp only [checkVF] at h
    cases hfe : env.fnExists n ps.length with
    | exist p =>
      rw [hfe] at h; simp only at h
      obtain ⟨c, hc, ho⟩ := ih x h
      exact ho.lift (fun y hy => .call n hc hy)
    | notFound => rw [hfe] at h; cases h; exact .fn n ps (.refl _) hfe
    | wrongArity mn mx => rw [hfe] at h; cases h; exact .arity n ps mn mx (.refl _) hfe
  · intro x h; simp only [checkVFList] at h; cases h
  · intro e es ih1 ih2 x h
    simp only [checkVFList] at h
    rcases VErr.andThen_error h with h1 | ⟨_, h2⟩
    · exact ⟨e, List.mem_cons_self, ih1 x h1⟩
    · obtain ⟨c, hc, ho⟩ := ih2 x h2
      exact ⟨c, List.mem_cons_of_mem _ hc, ho⟩

section Examples

def lowerA (s : Str) : Str := s.map (fun c => if c = 'F' then 'f' else if c = 'X' then 'x' else c)

/-- `x` bound, `f` registered with one required and one optional parameter -/
def exEnv : StaticEnv N :=
  ((StaticEnv.empty (N := N)).addVariable lowerA ['x'] (.bool true)).addFunction lowerA
    ⟨['f'], .polyadic 1 1, true, fun args => .ok (.arr args), 0⟩

/-- `F(X) ? x : f(x, [X])` -/
def exTree : Expr N :=
  .ternary (.call ['F'] [.var ['X']]) (.var ['x']) (.call ['f'] [.var ['x'], .array [.var ['X']]]) .ternaryCondition

theorem exEnv_noSelf : NoSelfNotFound (exEnv (N := N)) := by
  intro f hf args g h
  simp only [exEnv, StaticEnv.listFunctions, StaticEnv.addFunction, StaticEnv.addVariable, StaticEnv.empty, ins, del,
    List.map_cons, List.map_nil, List.mem_cons, List.mem_nil_iff, or_false] at hf
  subst hf
  cases h

example : checkVF ((exEnv (N := N)).toEnv lowerA) exTree = .ok () := by rfl

example : (∀ n, evalR ((exEnv (N := N)).toEnv lowerA) exTree ≠ .error (.undefinedVariable n)) ∧
    (∀ f g, evalR ((exEnv (N := N)).toEnv lowerA) exTree ≠ .error (.native f (.functionNotFound g))) :=
  check_ok_no_unresolved _ (staticEnv_lawful lowerA exEnv exEnv_noSelf) exTree (by rfl)

example : evalR ((exEnv (N := N)).toEnv lowerA) exTree = .ok (.bool true) := by rfl

/-- the arity answers for `f` (1 required + 1 optional): 0 ↦ WrongArity{1,2}, 1 ↦ Exists, 2 ↦ Exists, 3 ↦ WrongArity -/
example : (exEnv (N := N)).functionExists lowerA ['F'] 0 = .wrongArity 1 2 ∧
    (exEnv (N := N)).functionExists lowerA ['F'] 1 = .exist true ∧
    (exEnv (N := N)).functionExists lowerA ['f'] 2 = .exist true ∧
    (exEnv (N := N)).functionExists lowerA ['f'] 3 = .wrongArity 1 2 ∧
    (exEnv (N := N)).functionExists lowerA ['g'] 1 = .notFound := ⟨by rfl, by rfl, by rfl, by rfl, by rfl⟩

example : (2 : Nat) ∈ arityRange (.polyadic 1 1) ∧ ¬ (3 : Nat) ∈ arityRange (.polyadic 1 1) ∧
    (7 : Nat) ∈ arityRange .variadic ∧ ¬ (0 : Nat) ∈ arityRange .variadic ∧ (0 : Nat) ∈ arityRange .none ∧
    ¬ (1 : Nat) ∈ arityRange .none := by
  show (1 ≤ 2 ∧ 2 ≤ 1 + 1) ∧ ¬ (1 ≤ 3 ∧ 3 ≤ 1 + 1) ∧ 1 ≤ 7 ∧ ¬ 1 ≤ 0 ∧ 0 = 0 ∧ ¬ 1 = 0
  omega

/-- rejections: first error in left-to-right order, naming the offender -/
example : checkVF ((exEnv (N := N)).toEnv lowerA) (.binary (.var ['x']) (.binary (.var ['y']) (.var ['z']) .plus) .plus)
    = .error (.missingVariable ['y']) := by rfl
example : checkVF ((exEnv (N := N)).toEnv lowerA) (.array [.call ['F'] [], .call ['g'] []])
    = .error (.paramCountMismatch ['F'] 0 1 2) := by rfl
example : checkVF ((exEnv (N := N)).toEnv lowerA) (.unary (.call ['g'] [.var ['y']]) .not)
    = .error (.missingFunction ['g']) := by rfl
example : Offender ((exEnv (N := N)).toEnv lowerA) (.array [.call ['F'] [], .call ['g'] []])
    (.paramCountMismatch ['F'] 0 1 2) :=
  rejection_names_offender _ _ _ (by rfl)

/-- Why `staticEnv_lawful` has a hypothesis: a registered native function may itself answer `FunctionNotFound`.
    Then the check accepts, `function_exists` says `Exists`, and the execution fails with a function-not-found
    error all the same. -/
theorem lawful_needs_hypothesis :
    let σ : StaticEnv N := (StaticEnv.empty (N := N)).addFunction id
      ⟨['f'], .none, true, fun _ => .error (.functionNotFound ['g']), 0⟩
    checkVF (σ.toEnv id) (.call ['f'] []) = .ok () ∧
    evalR (σ.toEnv id) (.call ['f'] []) = .error (.native ['f'] (.functionNotFound ['g'])) ∧
    ¬ Lawful (σ.toEnv id) := by
  refine ⟨by rfl, by rfl, ?_⟩
  intro h
  exact h.2 ['f'] 0 true [] (by rfl) rfl ['g'] (by rfl)

end Examples
end Slac.C10
