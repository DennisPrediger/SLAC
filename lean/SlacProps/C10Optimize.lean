/-
  C10 (clause "… the tree is still accepted after optimize") — if `check_variables_and_functions` accepts a tree
  against an environment, it accepts the tree the caller holds after `transform_ternary`, after one
  `fold_constants` pass (completed or aborted by an error) and after `optimize` (returned `Ok` or `Err`).
  Model: SlacModel.Validate (`checkVF`, src/validate.rs), SlacModel.Optimizer (`transform`, `fold`, `optimize`,
  src/optimizer.rs).  Proofs: SlacProofs/OptCheck.lean.  All theorems hold for every number implementation and every
  environment (no lawfulness assumption is needed for the stability itself).
  The property is one-directional: `optimize_can_repair_rejection`.
-/
import SlacProofs.OptCheck
import SlacProofs.OptExample
import SlacProps.C10
set_option autoImplicit false
namespace Slac.C10
open Slac.Opt
variable {N : Type} [NumOps N]

/-- 1. `transform_ternary` keeps acceptance: a three-argument `if_then` call becomes a conditional node over the
    same three (unvisited) arguments — the requirement that `if_then` exists is dropped, the requirements on the
    arguments are identical; every other node is kept (a call with its name and argument count). -/
theorem check_stable_under_transform (env : Env N) (e : Expr N) :
    checkVF env e = .ok () → checkVF env (Opt.transform e) = .ok () :=
  checkVF_transform env e

/-- 2. One `fold_constants` pass keeps acceptance — also in the partially rewritten tree left behind when the pass
    was aborted by an error (`(fold env e).err ≠ none`; no hypothesis on `err`): nodes are replaced by literals
    (always accepted), a literal-condition conditional by one of its accepted branches, otherwise children are
    rewritten. -/
theorem check_stable_under_fold (env : Env N) (e : Expr N) :
    checkVF env e = .ok () → checkVF env (Opt.fold env e).tree = .ok () :=
  checkVF_fold env env e

/-- 2, general form: folding against `env`, validating against any `env'` -/
theorem check_stable_under_fold_gen (env env' : Env N) (e : Expr N) :
    checkVF env' e = .ok () → checkVF env' (Opt.fold env e).tree = .ok () :=
  checkVF_fold env env' e

/-- 3. The tree the caller holds after `optimize` returned — the optimized tree (`Ok`) or the partially rewritten
    tree of the failed round (`Err`) — is accepted if the original was. -/
theorem check_stable_under_optimize (env : Env N) (fuel : Nat) (e e' : Expr N) :
    checkVF env e = .ok () → (Opt.optimize env fuel e).tree? = some e' → checkVF env e' = .ok () :=
  checkVF_optimize env env fuel e e'

/-- 3, general form: optimizing against `env`, validating against any `env'` (for instance the environment of a
    later execution, with the same or with different bindings) -/
theorem check_stable_under_optimize_gen (env env' : Env N) (fuel : Nat) (e e' : Expr N) :
    checkVF env' e = .ok () → (Opt.optimize env fuel e).tree? = some e' → checkVF env' e' = .ok () :=
  checkVF_optimize env env' fuel e e'

/-- 3, with fuel that always suffices (`Slac.Opt.optimize_terminates`): `optimize` returns and the tree it leaves
    is accepted -/
theorem check_stable_under_optimize_total (env : Env N) (e : Expr N) (h : checkVF env e = .ok ()) :
    ∃ e', (Opt.optimize env (mu e + 1) e).tree? = some e' ∧ checkVF env e' = .ok () := by
  obtain ⟨e', h'⟩ := optimize_tree_some env (mu e + 1) e (Nat.lt_succ_self _)
  exact ⟨e', h', check_stable_under_optimize env _ e e' h h'⟩

/-- Consequence, with the main theorem of C10: a tree accepted against a lawful environment can be optimized and
    then executed without ever failing with an undefined-variable or function-not-found error. -/
theorem optimized_no_unresolved (env : Env N) (henv : Lawful env) (fuel : Nat) (e e' : Expr N)
    (hc : checkVF env e = .ok ()) (ho : (Opt.optimize env fuel e).tree? = some e') :
    (∀ n, evalR env e' ≠ .error (.undefinedVariable n)) ∧
    (∀ f g, evalR env e' ≠ .error (.native f (.functionNotFound g))) :=
  check_ok_no_unresolved env henv e' (check_stable_under_optimize env fuel e e' hc ho)

/-! ### Non-vacuity and the failing converse: concrete instances -/
section OptExamples
open Slac.Opt.Ex
attribute [local instance] intOps

/-- `x + if_then(max(1,2) > 1, rnd(), 0 - 1)` is accepted by the toy environment (`x` bound; `if_then` 2–3, `max` 2,
    `rnd` 0 arguments); so are its transform `x + (max(1,2) > 1 ? rnd() : 0 - 1)`, the fold of that,
    `x + (true ? rnd() : -1)`, and the optimized tree `x + rnd()` -/
example : checkVF Ex.env t1 = .ok () := by rfl
example : transform t1 = .binary (.var x) (.ternary
    (.binary (.call maxName [.lit (.num 1), .lit (.num 2)]) (.lit (.num 1)) .greater) (.call rndName [])
    (.binary (.lit (.num 0)) (.lit (.num 1)) .minus) .ternaryCondition) .plus := by rfl
example : checkVF Ex.env (transform t1) = .ok () := check_stable_under_transform Ex.env t1 (by rfl)
example : (fold Ex.env (transform t1)).tree = .binary (.var x) (.ternary
    (.binary (.lit (.num 2)) (.lit (.num 1)) .greater) (.call rndName []) (.lit (.num (-1))) .ternaryCondition) .plus := by
  rfl
example : checkVF Ex.env (fold Ex.env (transform t1)).tree = .ok () :=
  check_stable_under_fold Ex.env _ (check_stable_under_transform Ex.env t1 (by rfl))
example : (optimize Ex.env 9 t1).tree? = some (.binary (.var x) (.call rndName []) .plus) := by rfl
example : checkVF Ex.env (.binary (.var x) (.call rndName []) .plus) = .ok () :=
  check_stable_under_optimize Ex.env 9 t1 _ (by rfl) (by rfl)
example : ∃ e', (optimize Ex.env (mu t1 + 1) t1).tree? = some e' ∧ checkVF Ex.env e' = .ok () :=
  check_stable_under_optimize_total Ex.env t1 (by rfl)

/-- `[1 + 2, x, -true, max(1, 2)]`: accepted; the pass folds the first element and is then aborted by
    `InvalidUnary(-)`; the partially rewritten tree `[3, x, -true, max(1, 2)]` that `optimize` leaves behind with
    its `Err` is accepted -/
def t5 : Expr Int :=
  .array [.binary (.lit (.num 1)) (.lit (.num 2)) .plus, .var x, .unary (.lit (.bool true)) .minus,
    .call maxName [.lit (.num 1), .lit (.num 2)]]
def t5' : Expr Int :=
  .array [.lit (.num 3), .var x, .unary (.lit (.bool true)) .minus, .call maxName [.lit (.num 1), .lit (.num 2)]]
example : checkVF Ex.env t5 = .ok () := by rfl
example : (fold Ex.env t5).err = some (.invalidUnary .minus) ∧ (fold Ex.env t5).tree = t5' := ⟨by rfl, by rfl⟩
example : optimize Ex.env 9 t5 = .err t5' (.invalidUnary .minus) := by rfl
example : checkVF Ex.env t5' = .ok () := check_stable_under_optimize Ex.env 9 t5 t5' (by rfl) (by rfl)

/-- acceptance by another environment than the one optimized against: `env'` (`y` bound instead of `x`) accepts
    `if_then(y = 0, max(1, 2), rnd())` and hence what `optimize Ex.env` makes of it, `y = 0 ? 2 : rnd()` -/
example : checkVF Ex.env' (.ternary (.binary (.var y) (.lit (.num 0)) .equal) (.lit (.num 2)) (.call rndName [])
    .ternaryCondition) = .ok () :=
  check_stable_under_optimize_gen Ex.env Ex.env' 9
    (.call ifThenName [.binary (.var y) (.lit (.num 0)) .equal, .call maxName [.lit (.num 1), .lit (.num 2)],
      .call rndName []]) _ (by rfl) (by rfl)

/-- The converse direction is false: optimizing can turn a rejected tree into an accepted one, because
    `fold_constants` discards the branch a literal condition does not select.
    `if_then(true, 1, y)` with `y` unbound is rejected (`MissingVariable(y)`) and optimizes to `1`;
    `true ? 1 : nope(x)` with no function `nope` is rejected (`MissingFunction(nope)`) and optimizes to `1`. -/
theorem optimize_can_repair_rejection :
    (checkVF Ex.env (.call ifThenName [.lit (.bool true), .lit (.num 1), .var y]) = .error (.missingVariable y) ∧
     optimize Ex.env 9 (.call ifThenName [.lit (.bool true), .lit (.num 1), .var y]) = .ok (.lit (.num 1)) ∧
     checkVF Ex.env (.lit (.num 1) : Expr Int) = .ok ()) ∧
    (checkVF Ex.env (.ternary (.lit (.bool true)) (.lit (.num 1)) (.call ['n', 'o', 'p', 'e'] [.var x])
        .ternaryCondition) = .error (.missingFunction ['n', 'o', 'p', 'e']) ∧
     optimize Ex.env 9 (.ternary (.lit (.bool true)) (.lit (.num 1)) (.call ['n', 'o', 'p', 'e'] [.var x])
        .ternaryCondition) = .ok (.lit (.num 1))) :=
  ⟨⟨by rfl, by rfl, by rfl⟩, by rfl, by rfl⟩

/-- in general form: acceptance of the optimized tree does not imply acceptance of the original -/
theorem optimize_accept_not_conversely :
    ¬ ∀ (env : Env Int) (fuel : Nat) (e e' : Expr Int),
      (optimize env fuel e).tree? = some e' → checkVF env e' = .ok () → checkVF env e = .ok () := by
  intro h
  have := h Ex.env 9 (.call ifThenName [.lit (.bool true), .lit (.num 1), .var y]) (.lit (.num 1)) (by rfl) (by rfl)
  exact absurd this (by rw [optimize_can_repair_rejection.1.1]; intro h'; cases h')

end OptExamples
end Slac.C10
