/-
  C01 (text level) — compiling inverts rendering, for source TEXT.

  "For every expression tree that can be written in source syntax, rendering it to text — fully parenthesised, or with
  only the parentheses required by the documented precedence order and left-associativity of binary operators — and
  compiling that text yields exactly that tree.  Conversely, whenever compile accepts a text, re-rendering the tree it
  produced and compiling again reproduces the same tree."

  SlacProps/C01.lean proves this for token lists (`Parser.parse`).  This file composes it with the scanner theorems
  of C02 to reach `compile : text → tree` (`Slac.Unlex.compile`, the model of `slac::compile` = `Scanner::tokenize`
  then `Compiler::compile_ast`).

  * text of a token list: `unlex pr ts` (SlacModel/Unlex.lean) — canonical token texts joined by single spaces;
    `pr : N → Str` prints numbers.  `unlexTight` puts a space only where two tokens may not touch, `unlexWith` takes
    any admissible separator policy.  Any other layout (more whitespace, comments, keywords in other letter case,
    other spellings of numbers) is covered by `compile_layout` / `compile_spaced`.
  * "can be written in source syntax": `SrcExpr e` (operators only where the syntax can put them) and
    `SrcText cc pr e`: every literal/name in the tree is `LexValid` — names are identifier-shaped and not keywords,
    there are no literal array *values* (arrays are written with brackets), and every number literal `x` is printed
    by `pr` as a plain decimal text that parses back to `x`.  The last clause is an explicit hypothesis about the
    number printer; for `f64` and `F64.display` it holds on finite non-negative values by the `num` test stream, not
    by proof.  Strings and booleans need no hypothesis.
  * converse: `recompile_text` — from `compile cc src = .ok e` alone, plus the printer hypothesis on the number
    literals occurring in `e` (`numLits e`); everything else about `e` (source-expressible, names are identifiers,
    no literal array values) is derived from the scanner and parser models (`scan_valid`, `parse_leaves`).
  * everything holds for every `CharClass` with `AsciiOk` and every number type.
-/
import SlacProps.C01
import SlacProps.C02
import SlacProofs.Unlex
import SlacProofs.UnlexTree
import SlacProofs.UnlexScan
set_option autoImplicit false
namespace Slac.C01
open Slac.Scanner Slac.Parser Slac.Render Slac.Unlex
variable {N : Type} [NumOps N]

/-! ### 0. `compile` is `scan` then `parse` -/

theorem compile_of_scan {cc : CharClass} {src : Str} {toks : List (Token N)} (h : scan cc src = .ok toks) :
    compile cc src = parse toks := by
  unfold compile; rw [h]

theorem compile_ok_iff {cc : CharClass} {src : Str} {e : Expr N} :
    compile cc src = .ok e ↔ ∃ toks, scan cc src = .ok toks ∧ parse toks = .ok e := by
  unfold compile
  cases h : scan (N := N) cc src with
  | ok toks => simp
  | err e => simp
  | outOfFuel => simp
  | panic => simp

/-! ### 1. un-lexing is inverted by the scanner -/

/-- the canonical text of a list of valid tokens scans back to exactly that list -/
theorem scan_unlex {cc : CharClass} (hcc : cc.AsciiOk) (pr : N → Str) {toks : List (Token N)}
    (hv : ∀ t ∈ toks, LexValid cc pr t) (hne : toks ≠ []) : scan cc (unlex pr toks) = .ok toks :=
  Unlex.scan_unlex hcc pr hv hne

/-- in particular for the tight text: a space only where two tokens may not touch -/
theorem scan_unlexTight {cc : CharClass} (hcc : cc.AsciiOk) (pr : N → Str) {toks : List (Token N)}
    (hv : ∀ t ∈ toks, LexValid cc pr t) (hne : toks ≠ []) : scan cc (unlexTight pr toks) = .ok toks :=
  Unlex.scan_unlexTight hcc pr hv hne

/-! ### 2. trees whose leaves have a source text -/

/-- every literal and every name of the tree has a source text that scans back to it (`leaves e`: the literal,
    variable-name and function-name tokens of `e`) -/
def SrcText (cc : CharClass) (pr : N → Str) (e : Expr N) : Prop := ∀ t ∈ leaves e, LexValid cc pr t

theorem lexValid_structural (cc : CharClass) (pr : N → Str) (t : Token N) (h : Structural t = true) :
    LexValid cc pr t := by
  cases t <;> first | trivial | cases h

/-- `SrcText` says the same as "every token of a (any) rendering is valid" -/
theorem srcText_iff_rendering (cc : CharClass) (pr : N → Str) {q : Nat} {e : Expr N} {ts : List (Token N)}
    (h : Rn q e ts) : SrcText cc pr e ↔ ∀ t ∈ ts, LexValid cc pr t :=
  ⟨fun hl => rn_all (lexValid_structural cc pr) h hl, fun ht t hl => ht t (rn_leaves h t hl)⟩

theorem srcText_iff_renderMin (cc : CharClass) (pr : N → Str) {e : Expr N} (h : SrcExpr e) :
    SrcText cc pr e ↔ ∀ t ∈ renderMin e, LexValid cc pr t :=
  srcText_iff_rendering cc pr (renderMin_renders h)

theorem srcText_iff_renderFull (cc : CharClass) (pr : N → Str) {e : Expr N} (h : SrcExpr e) :
    SrcText cc pr e ↔ ∀ t ∈ renderFull e, LexValid cc pr t :=
  srcText_iff_rendering cc pr (renderFull_renders h)

/-! ### 3. rendering to text, then compiling -/

/-- EVERY parenthesisation style: the text of any rendering of `e` compiles to `e` -/
theorem compile_rendering {cc : CharClass} (hcc : cc.AsciiOk) (pr : N → Str) {e : Expr N} {ts : List (Token N)}
    (hr : Rn 1 e ts) (hv : ∀ t ∈ ts, LexValid cc pr t) : compile cc (unlex pr ts) = .ok e := by
  rw [compile_of_scan (scan_unlex hcc pr hv (rn_ne_nil hr))]
  exact parse_rendering hr

/-- the same with the validity hypothesis on the tree instead of on the token list -/
theorem compile_rendering_src {cc : CharClass} (hcc : cc.AsciiOk) (pr : N → Str) {e : Expr N}
    {ts : List (Token N)} (hr : Rn 1 e ts) (ht : SrcText cc pr e) : compile cc (unlex pr ts) = .ok e :=
  compile_rendering hcc pr hr ((srcText_iff_rendering cc pr hr).mp ht)

/-- only the required parentheses -/
theorem compile_renderMin {cc : CharClass} (hcc : cc.AsciiOk) (pr : N → Str) {e : Expr N} (hs : SrcExpr e)
    (ht : SrcText cc pr e) : compile cc (unlex pr (renderMin e)) = .ok e :=
  compile_rendering_src hcc pr (renderMin_renders hs) ht

/-- fully parenthesised -/
theorem compile_renderFull {cc : CharClass} (hcc : cc.AsciiOk) (pr : N → Str) {e : Expr N} (hs : SrcExpr e)
    (ht : SrcText cc pr e) : compile cc (unlex pr (renderFull e)) = .ok e :=
  compile_rendering_src hcc pr (renderFull_renders hs) ht

/-- any parenthesisation style, any admissible separator policy -/
theorem compile_rendering_with {cc : CharClass} (hcc : cc.AsciiOk) (pr : N → Str) {sp : Token N → Token N → Str}
    (hsp : SepOk sp) {e : Expr N} {ts : List (Token N)} (hr : Rn 1 e ts) (ht : SrcText cc pr e) :
    compile cc (unlexWith pr sp ts) = .ok e := by
  rw [compile_of_scan (scan_unlexWith hcc pr hsp ((srcText_iff_rendering cc pr hr).mp ht) (rn_ne_nil hr))]
  exact parse_rendering hr

/-- minimal parentheses and minimal white space, e.g. `a+f(1,'it''s')*-b` -/
theorem compile_renderMin_tight {cc : CharClass} (hcc : cc.AsciiOk) (pr : N → Str) {e : Expr N} (hs : SrcExpr e)
    (ht : SrcText cc pr e) : compile cc (unlexTight pr (renderMin e)) = .ok e :=
  compile_rendering_with hcc pr sepOk_tight (renderMin_renders hs) ht

/-- the hypotheses are also necessary: a text that compiles to `e` exists only for source-expressible `e` -/
theorem compile_src {cc : CharClass} {src : Str} {e : Expr N} (h : compile cc src = .ok e) : SrcExpr e := by
  obtain ⟨toks, _, hp⟩ := compile_ok_iff.mp h
  exact parse_wf hp

/-! ### 4. any layout -/

/-- Layout generalisation.  Write the tokens of any rendering of `e` with any of their spellings (`Lexeme`:
    keywords in any letter case, any number text that parses to the number, …), separated by any separators
    (whitespace, line comments, nested block comments; empty where `needsSep` is false), with a leading separator
    and a trailing text (possibly an unterminated comment): the text compiles to `e`. -/
theorem compile_layout {cc : CharClass} (hcc : cc.AsciiOk) (items : List (Item N)) (s0 trail : Str) {e : Expr N}
    (hs0 : IsSep s0) (hitems : ∀ i ∈ items, Lexeme cc i.tok i.text ∧ IsSep i.sep)
    (hjoin : JoinableTok items trail) (htrail : IsTrail trail) (hr : Rn 1 e (items.map (·.tok))) :
    compile cc (s0 ++ Scanner.render items trail) = .ok e := by
  have hne : items ≠ [] := by
    intro h; subst h; exact rn_ne_nil hr rfl
  rw [compile_of_scan (C02.scan_layout_tok hcc items s0 trail hne hs0 hitems hjoin htrail)]
  exact parse_rendering hr

/-- `compile` — result or error value — does not depend on layout: two texts with the same tokens compile alike -/
theorem compile_layout_irrelevant {cc : CharClass} (hcc : cc.AsciiOk) (items items' : List (Item N))
    (s0 s0' trail trail' : Str) (hsame : items.map (·.tok) = items'.map (·.tok)) (hne : items ≠ [])
    (hs0 : IsSep s0) (hs0' : IsSep s0')
    (hitems : ∀ i ∈ items, Lexeme cc i.tok i.text ∧ IsSep i.sep)
    (hitems' : ∀ i ∈ items', Lexeme cc i.tok i.text ∧ IsSep i.sep)
    (hjoin : JoinableTok items trail) (hjoin' : JoinableTok items' trail')
    (htrail : IsTrail trail) (htrail' : IsTrail trail') :
    compile (N := N) cc (s0 ++ Scanner.render items trail) = compile cc (s0' ++ Scanner.render items' trail') := by
  unfold compile
  rw [C02.layout_irrelevant hcc items items' s0 s0' trail trail' hsame hne hs0 hs0' hitems hitems' hjoin hjoin'
    htrail htrail']

/-- canonical token texts with chosen separators: token `p.1` followed by separator `p.2` -/
def spaced (pr : N → Str) (ps : List (Token N × Str)) : List (Item N) :=
  ps.map fun p => ⟨p.1, tokenText pr p.1, p.2⟩

/-- the canonical token texts of a rendering with arbitrary separators / comments between them -/
theorem compile_spaced {cc : CharClass} (hcc : cc.AsciiOk) (pr : N → Str) (ps : List (Token N × Str))
    (s0 trail : Str) {e : Expr N} (hs0 : IsSep s0) (hv : ∀ p ∈ ps, LexValid cc pr p.1 ∧ IsSep p.2)
    (hjoin : JoinableTok (spaced pr ps) trail) (htrail : IsTrail trail) (hr : Rn 1 e (ps.map (·.1))) :
    compile cc (s0 ++ Scanner.render (spaced pr ps) trail) = .ok e := by
  refine compile_layout hcc (spaced pr ps) s0 trail hs0 ?_ hjoin htrail ?_
  · intro i hi
    obtain ⟨p, hp, rfl⟩ := List.mem_map.mp hi
    exact ⟨tokenText_lexeme hcc pr (hv p hp).1, (hv p hp).2⟩
  · have : (spaced pr ps).map (·.tok) = ps.map (·.1) := by simp [spaced]
    rw [this]; exact hr

/-! ### 5. the converse direction -/

/-- the leaves of a compiled tree are tokens of the source, hence `ScanValid` -/
theorem compile_leaves_valid {cc : CharClass} (hcc : cc.AsciiOk) {src : Str} {e : Expr N}
    (h : compile cc src = .ok e) : ∀ t ∈ leaves e, ScanValid cc t := by
  obtain ⟨toks, hs, hp⟩ := compile_ok_iff.mp h
  exact fun t ht => scan_valid hcc hs t (parse_leaves hp t ht)

/-- a compiled tree is `SrcText` as soon as the printer is right on the number literals that occur in it -/
theorem compile_srcText {cc : CharClass} (hcc : cc.AsciiOk) (pr : N → Str) {src : Str} {e : Expr N}
    (h : compile cc src = .ok e)
    (hnum : ∀ x ∈ numLits e, DecimalText (pr x) ∧ NumOps.parse (pr x) = some x) : SrcText cc pr e :=
  fun t ht => lexValid_of_scanValid (compile_leaves_valid hcc h t ht) (numPrintOk_leaves hnum t ht)

/-- Converse, with the validity hypothesis stated on the re-rendered tokens. -/
theorem recompile {cc : CharClass} (hcc : cc.AsciiOk) (pr : N → Str) {src : Str} {e : Expr N}
    (h : compile cc src = .ok e) (hv : ∀ t ∈ renderMin e, LexValid cc pr t) :
    compile cc (unlex pr (renderMin e)) = .ok e :=
  compile_rendering hcc pr (renderMin_renders (compile_src h)) hv

/-- Converse, with every hypothesis discharged from `compile cc src = .ok e` except the one on number printing:
    whenever compile accepts a text, re-rendering the tree (minimal parentheses) and compiling again gives the
    same tree — provided each number literal `x` *occurring in the tree* is printed as a decimal text that parses
    back to `x`. -/
theorem recompile_text {cc : CharClass} (hcc : cc.AsciiOk) (pr : N → Str) {src : Str} {e : Expr N}
    (h : compile cc src = .ok e)
    (hnum : ∀ x ∈ numLits e, DecimalText (pr x) ∧ NumOps.parse (pr x) = some x) :
    compile cc (unlex pr (renderMin e)) = .ok e :=
  compile_renderMin hcc pr (compile_src h) (compile_srcText hcc pr h hnum)

/-- … fully parenthesised -/
theorem recompile_text_full {cc : CharClass} (hcc : cc.AsciiOk) (pr : N → Str) {src : Str} {e : Expr N}
    (h : compile cc src = .ok e)
    (hnum : ∀ x ∈ numLits e, DecimalText (pr x) ∧ NumOps.parse (pr x) = some x) :
    compile cc (unlex pr (renderFull e)) = .ok e :=
  compile_renderFull hcc pr (compile_src h) (compile_srcText hcc pr h hnum)

/-- … and in any other parenthesisation style -/
theorem recompile_text_any {cc : CharClass} (hcc : cc.AsciiOk) (pr : N → Str) {src : Str} {e : Expr N}
    {ts : List (Token N)} (h : compile cc src = .ok e)
    (hnum : ∀ x ∈ numLits e, DecimalText (pr x) ∧ NumOps.parse (pr x) = some x) (hr : Rn 1 e ts) :
    compile cc (unlex pr ts) = .ok e :=
  compile_rendering_src hcc pr hr (compile_srcText hcc pr h hnum)

/-- a tree without number literals needs no hypothesis at all -/
theorem recompile_text_nonum {cc : CharClass} (hcc : cc.AsciiOk) (pr : N → Str) {src : Str} {e : Expr N}
    (h : compile cc src = .ok e) (hno : numLits e = []) : compile cc (unlex pr (renderMin e)) = .ok e :=
  recompile_text hcc pr h (by rw [hno]; intro x hx; cases hx)

/-! ### 6. tests (concrete inputs; non-vacuity) -/

section tests

/-- toy numbers for the tests: naturals, written in decimal -/
private def toyParse (s : Str) : Option Nat :=
  if s.isEmpty || !s.all isAsciiDigit then none else some (s.foldl (fun a c => 10 * a + (c.toNat - 48)) 0)

private def digit : Nat → Char
  | 0 => '0' | 1 => '1' | 2 => '2' | 3 => '3' | 4 => '4' | 5 => '5' | 6 => '6' | 7 => '7' | 8 => '8' | _ => '9'

/-- toy printer (right below 100, which is all the tests use) -/
private def toyPr (n : Nat) : Str := if n < 10 then [digit n] else [digit (n / 10 % 10), digit (n % 10)]

@[reducible, local instance] private def toyNum : NumOps Nat :=
  ⟨fun a _ => a, fun a _ => a, fun a _ => a, fun a _ => a, fun a _ => a, id, id, fun _ _ => none, fun a b => a == b,
    0, fun _ => 0, toyParse⟩

private abbrev ta : Token Nat := .identifier ['a']
private abbrev tb : Token Nat := .identifier ['b']
private abbrev tf : Token Nat := .identifier ['f']
private abbrev t1 : Token Nat := .literal (.num 1)
private abbrev ts : Token Nat := .literal (.str ['i', 't', '\'', 's'])

/-- `a + f(1, 'it''s') * -b` -/
private def ex : Expr Nat :=
  .binary (.var ['a'])
    (.binary (.call ['f'] [.lit (.num 1), .lit (.str ['i', 't', '\'', 's'])]) (.unary (.var ['b']) .minus) .multiply)
    .plus

example : SrcExpr ex := by decide

example : renderMin ex = [ta, .plus, tf, .leftParen, t1, .comma, ts, .rightParen, .star, .minus, tb] := rfl

example : renderFull ex = [.leftParen, ta, .plus, .leftParen, tf, .leftParen, t1, .comma, ts, .rightParen, .star,
    .leftParen, .minus, tb, .rightParen, .rightParen, .rightParen] := rfl

/-- `a + f ( 1 , 'it''s' ) * - b` -/
private def exMinText : Str :=
  ['a', ' ', '+', ' ', 'f', ' ', '(', ' ', '1', ' ', ',', ' ', '\'', 'i', 't', '\'', '\'', 's', '\'', ' ', ')', ' ',
   '*', ' ', '-', ' ', 'b']

/-- `( a + ( f ( 1 , 'it''s' ) * ( - b ) ) )` -/
private def exFullText : Str :=
  ['(', ' ', 'a', ' ', '+', ' ', '(', ' ', 'f', ' ', '(', ' ', '1', ' ', ',', ' ', '\'', 'i', 't', '\'', '\'', 's',
   '\'', ' ', ')', ' ', '*', ' ', '(', ' ', '-', ' ', 'b', ' ', ')', ' ', ')', ' ', ')']

example : unlex toyPr (renderMin ex) = exMinText := by decide
example : unlex toyPr (renderFull ex) = exFullText := by decide

private theorem ex_leaves : leaves ex = [ta, tf, t1, ts, tb] := by
  simp [ex, leaves_binary, leaves_unary, leaves_call, leaves_var, leaves_lit, leavesList_cons, leavesList_nil]

/-- the hypotheses of the round-trip theorems hold of `ex` -/
private theorem ex_srcText : SrcText CharClass.ascii toyPr ex := by
  intro t ht
  rw [ex_leaves] at ht
  simp only [List.mem_cons, List.not_mem_nil, or_false] at ht
  rcases ht with rfl | rfl | rfl | rfl | rfl
  · exact ⟨by decide, by decide⟩
  · exact ⟨by decide, by decide⟩
  · exact ⟨.int (by decide) (by decide), by decide⟩
  · trivial
  · exact ⟨by decide, by decide⟩

/- test: the text with minimal parentheses compiles to the tree (by the theorem) -/
example : compile CharClass.ascii exMinText = .ok ex :=
  compile_renderMin CharClass.ascii_ok toyPr (e := ex) (by decide) ex_srcText

/- test: the fully parenthesised text compiles to the tree -/
example : compile CharClass.ascii exFullText = .ok ex :=
  compile_renderFull CharClass.ascii_ok toyPr (e := ex) (by decide) ex_srcText

/- test: the same two facts by running the model (independent of the theorems) -/
example : compile CharClass.ascii exMinText = .ok ex := rfl
example : compile CharClass.ascii exFullText = .ok ex := rfl

private theorem ex_valid (ps : List (Token Nat × Str)) (hm : ps.map (·.1) = renderMin ex)
    (hs : ps.all (fun p => sepB p.2) = true) : ∀ p ∈ ps, LexValid CharClass.ascii toyPr p.1 ∧ IsSep p.2 := by
  intro p hp
  refine ⟨(srcText_iff_renderMin CharClass.ascii toyPr (e := ex) (by decide)).mp ex_srcText p.1 ?_, ?_⟩
  · rw [← hm]; exact List.mem_map_of_mem hp
  · exact sepB_sound (List.all_eq_true.mp hs p hp)

/- test: the converse, from the fact that the compact text `a+f(1,'it''s')*-b` compiles to `ex` -/
private def exCompact : Str :=
  ['a', '+', 'f', '(', '1', ',', '\'', 'i', 't', '\'', '\'', 's', '\'', ')', '*', '-', 'b']

private theorem ex_compact : compile CharClass.ascii exCompact = .ok ex :=
  compile_spaced CharClass.ascii_ok toyPr
    [(ta, []), (.plus, []), (tf, []), (.leftParen, []), (t1, []), (.comma, []), (ts, []), (.rightParen, []),
     (.star, []), (.minus, []), (tb, [])] [] [] .nil
    (ex_valid _ rfl (by decide))
    (by simp [spaced, JoinableTok, needsSep, lexClass, startClass, SepFits]) .nil
    (renderMin_renders (e := ex) (by decide))

/- test: the compact text is the tight rendering, and the theorem about it applies -/
example : unlexTight toyPr (renderMin ex) = exCompact := by decide
example : compile CharClass.ascii exCompact = .ok ex :=
  compile_renderMin_tight CharClass.ascii_ok toyPr (e := ex) (by decide) ex_srcText
example : compile CharClass.ascii exCompact = .ok ex := rfl

example : compile CharClass.ascii (unlex toyPr (renderMin ex)) = .ok ex :=
  recompile_text CharClass.ascii_ok toyPr ex_compact (by
    intro x hx
    have : numLits ex = [1] := by simp [numLits, ex_leaves]
    rw [this] at hx
    simp only [List.mem_cons, List.not_mem_nil, or_false] at hx
    subst hx
    exact ⟨.int (by decide) (by decide), by decide⟩)

/- test: comments and line breaks do not matter:
   `{c} a +// x⏎f(1 ,'it''s' )*{-}- b // end` compiles to the same tree -/
example : compile CharClass.ascii
    ['{', 'c', '}', ' ', 'a', ' ', '+', '/', '/', ' ', 'x', '\n', 'f', '(', '1', ' ', ',', '\'', 'i', 't', '\'', '\'',
     's', '\'', ' ', ')', '*', '{', '-', '}', '-', ' ', 'b', ' ', '/', '/', ' ', 'e', 'n', 'd'] = .ok ex :=
  compile_spaced CharClass.ascii_ok toyPr
    [(ta, [' ']), (.plus, ['/', '/', ' ', 'x', '\n']), (tf, []), (.leftParen, []), (t1, [' ']), (.comma, []),
     (ts, [' ']), (.rightParen, []), (.star, ['{', '-', '}']), (.minus, [' ']), (tb, [' '])]
    ['{', 'c', '}', ' '] ['/', '/', ' ', 'e', 'n', 'd'] (sepB_sound (by decide))
    (ex_valid _ rfl (by decide))
    (by simp [spaced, JoinableTok, needsSep, lexClass, startClass, SepFits])
    ((C02.isTrail_iff _).mpr (by decide))
    (renderMin_renders (e := ex) (by decide))

/- test: other spellings (`compile_layout`): keywords in any letter case, another text for the same number —
   `a AnD{x}nOt 01` compiles to the tree of `a and not 1` -/
example : compile CharClass.ascii
    ['a', ' ', 'A', 'n', 'D', '{', 'x', '}', 'n', 'O', 't', ' ', '0', '1'] =
    .ok (.binary (.var ['a']) (.unary (.lit (.num 1)) .not) .and) :=
  compile_layout CharClass.ascii_ok
    [⟨ta, ['a'], [' ']⟩, ⟨.and, ['A', 'n', 'D'], ['{', 'x', '}']⟩, ⟨.not, ['n', 'O', 't'], [' ']⟩,
     ⟨t1, ['0', '1'], []⟩] [] [] .nil
    (by
      intro i hi
      simp only [List.mem_cons, List.not_mem_nil, or_false] at hi
      rcases hi with rfl | rfl | rfl | rfl
      · exact ⟨.ident (by decide) rfl, sepB_sound (by decide)⟩
      · exact ⟨keyword_variant_lexeme CharClass.ascii_ok (kw := ['a', 'n', 'd']) (by simp [keywords]) (by decide),
          sepB_sound (by decide)⟩
      · exact ⟨keyword_variant_lexeme CharClass.ascii_ok (kw := ['n', 'o', 't']) (by simp [keywords]) (by decide),
          sepB_sound (by decide)⟩
      · exact ⟨.num (by decide) (by decide), .nil⟩)
    (by simp [JoinableTok, needsSep, lexClass, startClass, SepFits]) .nil
    (renderMin_renders (e := .binary (.var ['a']) (.unary (.lit (.num 1)) .not) .and) (by decide))

/- test: the validity hypothesis is needed.  A variable named `and` is a source-expressible tree (`SrcExpr`), but
   its text is the keyword: it does not round-trip, and `SrcText` excludes it. -/
example : SrcExpr (.var ['a', 'n', 'd'] : Expr Nat) := by decide
example : compile (N := Nat) CharClass.ascii (unlex toyPr (renderMin (.var ['a', 'n', 'd']))) =
    .err (.noValidPrefixToken .and) := rfl
example : ¬ SrcText CharClass.ascii toyPr (.var ['a', 'n', 'd'] : Expr Nat) := by
  intro h
  have := h (.identifier ['a', 'n', 'd']) (by rw [leaves_var]; simp)
  exact this.2 (by decide)

/- test: a literal array *value* has no source text (the array `[1]` is written with brackets and compiles to an
   `array` node, not to a literal) -/
example : compile (N := Nat) CharClass.ascii (unlex toyPr (renderMin (.lit (.arr [.num 1])))) = .err .eof := rfl
example : compile (N := Nat) CharClass.ascii ['[', '1', ']'] = .ok (.array [.lit (.num 1)]) := rfl

/- test: a printer that is wrong on a number breaks the round trip (here `toyPr 123 = "23"`), so the hypothesis on
   number literals is needed -/
example : compile CharClass.ascii (unlex toyPr (renderMin (.lit (.num 123) : Expr Nat))) = .ok (.lit (.num 23)) :=
  rfl

end tests

end Slac.C01
