/-
  C15 for the driver's number type — the position laws of SlacProps.C15 specialised to `N = Float`
  (IEEE binary64: `F64.ofNat n = n as f64`, `F64.pcmp = partial_cmp`, `+` = IEEE addition, …) with NO
  hypothesis about numbers: `instance : LawfulIdx Float` is proved in SlacProofs.F64Idx from core's
  logical float model (exactness of integers below 2^53, exact addition, monotone encoding).
  Every theorem here is the generic theorem of the same name (without `_float`) at `N := Float`.
-/
import SlacProps.C15
import SlacProofs.F64Idx
set_option autoImplicit false
namespace Slac.C15
open Slac.Seq Slac.SeqSpec Slac.Stdlib Slac.NumX Slac.SeqMisc

/-- the hypothesis class of the position laws holds for binary64 -/
theorem lawfulIdx_float : LawfulIdx Float := inferInstance

section positions
variable (off : Nat)

theorem at_enumerates_float (s : Str) (hs : off + s.length < 2^53) (i : Nat) (hi : i < s.length) :
    at_ off [.str s, .num (ofNat (off + i) : Float)] = .ok (.str [s[i]]) :=
  at_enumerates off s hs i hi

theorem at_enumerates_list_float (s : Str) (hs : off + s.length < 2^53) :
    (List.range s.length).map (fun i => at_ off [.str s, .num (ofNat (off + i) : Float)])
      = s.map (fun c => .ok (.str [c])) :=
  at_enumerates_list off s hs

theorem at_below_first_float (s : Str) (p : Nat) (hp : p < off) (h : p < 2^53) :
    at_ off [.str s, .num (ofNat p : Float)] = .error (.indexOutOfBounds p) :=
  at_below_first off s p hp h

theorem at_beyond_last_float (s : Str) (p : Nat) (hp : off + s.length ≤ p) (h : p < 2^53) :
    at_ off [.str s, .num (ofNat p : Float)] = .error (.indexOutOfBounds (p - off)) :=
  at_beyond_last off s p hp h

theorem at_out_of_range_float (s : Str) (p : Nat) (h : p < 2^53) (hp : p < off ∨ off + s.length ≤ p) :
    ∃ k, at_ off [.str s, .num (ofNat p : Float)] = .error (.indexOutOfBounds k) :=
  at_out_of_range off s p h hp

theorem at_negative_float (s : Str) : at_ off [.str s, .num (ofInt (-1) : Float)] = .error .indexNegative :=
  at_negative off s

theorem copy_str_float (s : Str) (i n : Nat) (hi : off + i < 2^53) (hn : n < 2^53) :
    copy off [.str s, .num (ofNat (off + i) : Float), .num (ofNat n)] = .ok (.str ((s.drop i).take n)) :=
  copy_str off s i n hi hn

theorem copy_below_first_float (s : Str) (p n : Nat) (hp : p < off) (h : p < 2^53) :
    copy off [.str s, .num (ofNat p : Float), .num (ofNat n)] = .error (.indexOutOfBounds p) :=
  copy_below_first off s p n hp h

/-- a successful `find` returns `first + i` for the first occurrence `i` -/
theorem find_present_float (s x : Str) (hs : off + s.length < 2^53) (i : Nat) (h : FirstOcc x s i) :
    find off [.str s, .str x] = .ok (.num (ofNat (off + i) : Float)) :=
  find_present off s x hs i h

/-- a failed `find` returns `first - 1`, computed as `-1.0 + STRING_OFFSET` -/
theorem find_absent_float (s x : Str) (h : ¬ x <:+: s) :
    find off [.str s, .str x] = .ok (.num (NumOps.add (ofInt (-1) : Float) (ofNat off))) :=
  find_absent off s x h

/-- … which is `0.0` for one-based strings and `-1.0` for zero-based strings -/
theorem find_absent_value_float (hoff : off ≤ 1) (s x : Str) (h : ¬ x <:+: s) :
    find off [.str s, .str x] = .ok (.num (if off = 0 then ofInt (-1) else ofNat 0 : Float)) :=
  find_absent_value off hoff s x h

theorem at_find_absent_float (hoff : off ≤ 1) (s x : Str) (h : ¬ x <:+: s) :
    ∃ p : Float, find off [.str s, .str x] = .ok (.num p) ∧ ∃ e, at_ off [.str s, .num p] = .error e :=
  at_find_absent off hoff s x h

/-- `copy(s, find(s, x), length(x)) = x` for every substring `x` of `s`, on binary64 position numbers -/
theorem copy_find_float (s x : Str) (hs : off + s.length < 2^53) (h : x <:+: s) :
    ∃ p l : Float, find off [.str s, .str x] = .ok (.num p) ∧ length [.str x] = .ok (.num l) ∧
      copy off [.str s, .num p, .num l] = .ok (.str x) :=
  copy_find off s x hs h

theorem insert_copy_float (s x : Str) (i : Nat) (hi : i ≤ s.length) (hs : off + s.length + x.length < 2^53) :
    ∃ t, Stdlib.insert off [.str s, .str x, .num (ofNat (off + i) : Float)] = .ok (.str t) ∧
      t = s.take i ++ x ++ s.drop i ∧
      copy off [.str t, .num (ofNat (off + i) : Float), .num (ofNat x.length)] = .ok (.str x) ∧
      length [.str t] = .ok (.num (ofNat (s.length + x.length) : Float)) ∧
      (ofNat (s.length + x.length) : Float) = NumOps.add (ofNat s.length) (ofNat x.length) :=
  insert_copy off s x i hi hs

theorem insert_beyond_last_float (s x : Str) (i : Nat) (hi : s.length < i) (h : off + i < 2^53) :
    Stdlib.insert off [.str s, .str x, .num (ofNat (off + i) : Float)] = .error (.indexOutOfBounds i) :=
  insert_beyond_last off s x i hi h

/-- `count(s,x) > 0  ⇔  contains(s,x)  ⇔  find(s,x) >= first`, on the builtins' binary64 results -/
theorem count_contains_find_float (hoff : off ≤ 1) (s x : Str) (hs : s.length + 1 < 2^53) :
    ∃ (c p : Float) (b : Bool),
      count [.str s, .str x] = .ok (.num c) ∧ contains [.str s, .str x] = .ok (.bool b : Value Float) ∧
      find off [.str s, .str x] = .ok (.num p) ∧
      gt0 c = b ∧ geN p (ofNat off) = b :=
  count_contains_find off hoff s x hs

theorem at_arr_float (vs : List (Value Float)) (hs : vs.length < 2^53) (i : Nat) (hi : i < vs.length) :
    at_ off [.arr vs, .num (ofNat i : Float)] = .ok vs[i] :=
  at_arr off vs hs i hi

theorem at_arr_beyond_last_float (vs : List (Value Float)) (p : Nat) (hp : vs.length ≤ p) (h : p < 2^53) :
    at_ off [.arr vs, .num (ofNat p : Float)] = .error (.indexOutOfBounds p) :=
  at_arr_beyond_last off vs p hp h

theorem at_arr_negative_float (vs : List (Value Float)) :
    at_ off [.arr vs, .num (ofInt (-1) : Float)] = .error .indexNegative :=
  at_arr_negative off vs

theorem copy_arr_float (vs : List (Value Float)) (i n : Nat) (hi : i < 2^53) (hn : n < 2^53) :
    copy off [.arr vs, .num (ofNat i : Float), .num (ofNat n)] = .ok (.arr ((vs.drop i).take n)) :=
  copy_arr off vs i n hi hn

theorem at_find_arr_float (vs : List (Value Float)) (hs : vs.length < 2^53) (v : Value Float)
    (h : ∃ w, w ∈ vs ∧ Value.eq w v = true) :
    ∃ (p : Float) (w : Value Float), find off [.arr vs, v] = .ok (.num p) ∧ at_ off [.arr vs, .num p] = .ok w ∧
      Value.eq w v = true :=
  at_find_arr off vs hs v h

theorem copy_find_arr_float (vs : List (Value Float)) (hs : vs.length < 2^53) (v : Value Float)
    (h : ∃ w, w ∈ vs ∧ Value.eq w v = true) :
    ∃ (p : Float) (w : Value Float), find off [.arr vs, v] = .ok (.num p) ∧
      copy off [.arr vs, .num p, .num (ofNat 1)] = .ok (.arr [w]) ∧ Value.eq w v = true :=
  copy_find_arr off vs hs v h

theorem at_arr_enumerates_list_float (vs : List (Value Float)) (hs : vs.length < 2^53) :
    (List.range vs.length).map (fun i => at_ off [.arr vs, .num (ofNat i : Float)]) = vs.map .ok :=
  at_arr_enumerates_list off vs hs

theorem insert_arr_float (vs : List (Value Float)) (v : Value Float) (i : Nat) (hi : i ≤ vs.length)
    (hs : vs.length + 1 < 2^53) :
    ∃ t, Stdlib.insert off [.arr vs, v, .num (ofNat i : Float)] = .ok (.arr t) ∧
      t = vs.take i ++ v :: vs.drop i ∧
      at_ off [.arr t, .num (ofNat i : Float)] = .ok v ∧
      length [.arr t] = .ok (.num (ofNat (vs.length + 1) : Float)) :=
  insert_arr off vs v i hi hs

theorem insert_arr_beyond_last_float (vs : List (Value Float)) (v : Value Float) (i : Nat) (hi : vs.length < i)
    (h : i < 2^53) :
    Stdlib.insert off [.arr vs, v, .num (ofNat i : Float)] = .error (.indexOutOfBounds i) :=
  insert_arr_beyond_last off vs v i hi h

/-- arrays: `count > 0 ⇔ contains ⇔ find >= 0` -/
theorem count_contains_find_arr_float (vs : List (Value Float)) (v : Value Float) (hs : vs.length < 2^53) :
    ∃ (c p : Float) (b : Bool),
      count [.arr vs, v] = .ok (.num c) ∧ contains [.arr vs, v] = .ok (.bool b : Value Float) ∧
      find off [.arr vs, v] = .ok (.num p) ∧
      gt0 c = b ∧ geN p (ofNat 0) = b :=
  count_contains_find_arr off vs v hs

theorem at_reverse_float (s : Str) (hs : off + s.length < 2^53) (i : Nat) (hi : i < s.length) :
    at_ off [.str s.reverse, .num (ofNat (off + i) : Float)]
      = at_ off [.str s, .num (ofNat (off + (s.length - 1 - i)) : Float)] :=
  at_reverse off s hs i hi

end positions

theorem length_append_add_float (a b c : Value Float) (h : Value.add a b = .ok c)
    (hl : valueLen a + valueLen b < 2^53) :
    ∃ la lb lc : Float, length [a] = .ok (.num la) ∧ length [b] = .ok (.num lb) ∧ length [c] = .ok (.num lc) ∧
      lc = NumOps.add la lb :=
  length_append_add a b c h hl

section examples
private def sampleF : Str := ['ä', 'ß', '𝄞', 'c']

example : at_ 1 [.str sampleF, .num (F64.ofNat 3)] = .ok (.str ['𝄞']) :=
  at_enumerates_float 1 sampleF (by decide) 2 (by decide)
example : at_ 0 [.str sampleF, .num (F64.ofNat 2)] = .ok (.str ['𝄞']) :=
  at_enumerates_float 0 sampleF (by decide) 2 (by decide)
example : at_ 1 [.str sampleF, .num (F64.ofNat 0)] = .error (.indexOutOfBounds 0) :=
  at_below_first_float 1 sampleF 0 (by decide) (by decide)
example : find 1 [.str sampleF, .str ['𝄞', 'c']] = .ok (.num (F64.ofNat 3)) :=
  find_present_float 1 sampleF ['𝄞', 'c'] (by decide) 2 ((findSeq_some_iff _ _ _).1 (by decide))
example : find 1 [.str sampleF, .str ['x']] = .ok (.num (F64.ofNat 0)) :=
  find_absent_value_float 1 (by decide) sampleF ['x'] ((findSeq_none_iff _ _).1 (by decide))
example : find 0 [.str sampleF, .str ['x']] = .ok (.num (F64.ofInt (-1))) :=
  find_absent_value_float 0 (by decide) sampleF ['x'] ((findSeq_none_iff _ _).1 (by decide))
example : ∃ p l : Float, find 1 [.str sampleF, .str ['ß', '𝄞']] = .ok (.num p) ∧
    length [.str ['ß', '𝄞']] = .ok (.num l) ∧ copy 1 [.str sampleF, .num p, .num l] = .ok (.str ['ß', '𝄞']) :=
  copy_find_float 1 sampleF ['ß', '𝄞'] (by decide) ((containsSeq_iff_infix _ _).1 (by decide))
example : copy 1 [.str sampleF, .num (F64.ofNat 3), .num (F64.ofNat 2)] = .ok (.str ['𝄞', 'c']) :=
  copy_str_float 1 sampleF 2 2 (by decide) (by decide)
end examples

end Slac.C15
