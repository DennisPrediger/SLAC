/-
  C03 (number level) — "IEEE-754 double arithmetic with div truncating toward zero and mod taking the dividend's
  sign", for the project's actual number type: core `Float` with the `NumOps` instance of SlacModel/Num.lean.

  SlacProps/C03.lean proves, for every number type, that `execute` computes what the operator table `binVal`
  prescribes.  This file says what that table does ON DOUBLES:
  * `add_sub_mul_div_are_ieee`  `+ - * /` are core `Float`'s IEEE operations, nothing else happens;
  * `div_truncates`             `a div b = trunc (a / b)`: an integer, between 0 and a / b, with the sign of a / b;
                                `div_integer_part`: it IS the integer part of the quotient (exact values);
                                `div_by_zero`, `zero_div_zero`, `div_nan`: x div ±0 = ±inf, 0 div 0 = NaN;
  * `mod_sign_and_bound`        `x mod y` is C `fmod`: sign of x (also for a zero result), |x mod y| < |y|, and EXACT:
                                value(x mod y) = value(x) - value(y)·trunc(value(x)/value(y));
                                `mod_exact_decoded` (mantissa/exponent form), `ofNatScaled_represents`;
                                `mod_inf`, `mod_zero_dividend`, `mod_nan`: the special cases;
  * `eq_is_ieee`, `cmp_is_ieee`, `order_is_value_order`, `bool_coerces_under_eq`: `=` and the comparisons.
  Values: every finite double x is `F64.units x` units of 2^-1074 (`F64.units : Float → Int`, SlacProofs/F64Sem.lean);
  `F64.unitsN x = |units x|`;  `F64.toRat x = units x / 2^1074 : ℚ` (SlacProofs/F64SemRat.lean; `mod_exact_rat`,
  `div_integer_part_rat` restate the two exactness results over ℚ).  All proofs go back to core's logical float model and the bit-level definitions.
-/
import SlacProofs.F64SemOps
import SlacProofs.F64SemRat
import SlacProofs.InterpLemmas
set_option autoImplicit false
namespace Slac.C03
open F64

/-- On two numbers the four arithmetic operators are core `Float`'s IEEE-754 `+ - * /` (the `NumOps Float` instance
    maps them to `Float.add/sub/mul/div`; the statement holds by unfolding definitions). -/
theorem add_sub_mul_div_are_ieee (a b : Float) :
    binVal .plus (.num a) (.num b) = .ok (.num (a + b)) ∧
    binVal .minus (.num a) (.num b) = .ok (.num (a - b)) ∧
    binVal .multiply (.num a) (.num b) = .ok (.num (a * b)) ∧
    binVal .divide (.num a) (.num b) = .ok (.num (a / b)) := ⟨rfl, rfl, rfl, rfl⟩

/-- `- * / div mod` on anything but two numbers: `InvalidBinaryOperator` (no coercion).  The converse direction for
    every number type is `C03.arithmetic_never_coerces` / `Slac.binVal_arith`. -/
theorem mistyped_operands (op : Op) (hop : op ∈ arithOps) (l r : Value Float)
    (h : l.isNumber = false ∨ r.isNumber = false) : binVal op l r = .error (.invalidBinary op) := by
  simp only [arithOps, List.mem_cons, List.mem_nil_iff, or_false] at hop
  rcases hop with rfl | rfl | rfl | rfl | rfl <;> cases l <;> cases r <;>
    first | rfl | (simp [Value.isNumber] at h)

/-- `+` is defined on two strings, two numbers, two arrays; every other pair is `InvalidBinaryOperator` -/
theorem plus_mistyped (a : Float) (r : Value Float) (h : r.isNumber = false) :
    binVal .plus (.num a) r = .error (.invalidBinary .plus) ∧ binVal .plus r (.num a) = .error (.invalidBinary .plus) := by
  cases r <;> first | exact ⟨rfl, rfl⟩ | (simp [Value.isNumber] at h)

example : binVal .plus (.num (0.1 : Float)) (.num 0.2) = .ok (.num 0.30000000000000004) :=
  congrArg (fun t => Except.ok (Value.num t)) (by decide +kernel)
example : binVal .divide (.num (1 : Float)) (.num 3) = .ok (.num 0.3333333333333333) :=
  congrArg (fun t => Except.ok (Value.num t)) (by decide +kernel)
example : binVal .multiply (.num (1 : Float)) (.bool true) = .error (.invalidBinary .multiply) :=
  mistyped_operands _ (by decide) _ _ (Or.inr rfl)

/-- `a div b` is `trunc (a / b)` — the IEEE quotient, then `f64::trunc`.  For every a, b (no side condition):
    the result is integer-valued (`trunc` fixes it), its magnitude does not exceed |a / b|, in the sign-magnitude
    key order it lies between 0 and a / b, and it carries the sign bit of a / b (so -1 div 2 = -0). -/
theorem div_truncates (a b : Float) :
    binVal .div (.num a) (.num b) = .ok (.num (F64.trunc (a / b))) ∧
    F64.trunc (F64.trunc (a / b)) = F64.trunc (a / b) ∧
    magN (bits (F64.trunc (a / b))) ≤ magN (bits (a / b)) ∧
    (0 ≤ keyN (bits (a / b)) → 0 ≤ keyN (bits (F64.trunc (a / b))) ∧ keyN (bits (F64.trunc (a / b))) ≤ keyN (bits (a / b))) ∧
    (keyN (bits (a / b)) ≤ 0 → keyN (bits (a / b)) ≤ keyN (bits (F64.trunc (a / b))) ∧ keyN (bits (F64.trunc (a / b))) ≤ 0) ∧
    signBit (F64.trunc (a / b)) = signBit (a / b) :=
  ⟨rfl, trunc_idempotent _, trunc_mag_le _, (trunc_key_between _).1, (trunc_key_between _).2, trunc_signBit _⟩

set_option exponentiation.threshold 2000 in
/-- For a finite quotient q = a / b (in particular: finite a, finite b ≠ 0, no overflow) the result is finite and is
    EXACTLY the integer part of q, rounded toward zero: in units of 2^-1074 (the integer 1 is 2^1074 units),
    `units (a div b) = (units q).tdiv 2^1074 * 2^1074` (`Int.tdiv` = division truncating toward zero);
    in particular it is a whole number, |a div b| ≤ |q|, and |q| - |a div b| < 1. -/
theorem div_integer_part (a b : Float) (hq : isFinite (a / b) = true) :
    isFinite (F64.trunc (a / b)) = true ∧
    units (F64.trunc (a / b)) = (units (a / b)).tdiv (2^1074) * 2^1074 ∧
    unitsN (F64.trunc (a / b)) % 2^1074 = 0 ∧
    unitsN (F64.trunc (a / b)) ≤ unitsN (a / b) ∧ unitsN (a / b) < unitsN (F64.trunc (a / b)) + 2^1074 := by
  obtain ⟨h1, h2⟩ := unitsN_trunc (a / b) hq
  refine ⟨h2, units_trunc _ hq, ?_, ?_, ?_⟩
  · rw [h1]; exact Nat.mul_mod_left _ _
  · rw [h1]; exact Nat.div_mul_le_self _ _
  · rw [h1]
    have := Nat.div_add_mod (unitsN (a / b)) (2^1074)
    have := Nat.mod_lt (unitsN (a / b)) (Nat.two_pow_pos 1074)
    rw [Nat.mul_comm]; omega

/-- over ℚ: `a div b` is the integer obtained from the (already rounded) quotient a / b by dropping its fraction -/
theorem div_integer_part_rat (a b : Float) (hq : isFinite (a / b) = true) :
    toRat (F64.trunc (a / b)) = (((units (a / b)).tdiv (2^1074) : Int) : ℚ) :=
  toRat_trunc _ hq

/-- the sign of the result is the xor of the operand signs whenever the quotient is not NaN (IEEE sign rule),
    for finite, zero and infinite results alike -/
theorem div_sign (a b : Float) (ha : isNaN a = false) (hb : isNaN b = false) (hq : isNaN (a / b) = false) :
    signBit (F64.trunc (a / b)) = (signBit a != signBit b) := by
  rw [trunc_signBit, signBit_div a b ha hb hq]

/-- `x div ±0` for x ≠ 0 (finite or infinite, not NaN): the infinity with the xor of the signs -/
theorem div_by_zero (a b : Float) (hn : isNaN a = false) (hz : isZero a = false) (hb : isZero b = true) :
    binVal .div (.num a) (.num b) = .ok (.num (ofParts (signBit a != signBit b) 0x7FF0000000000000)) ∧
    isInf (ofParts (signBit a != signBit b) 0x7FF0000000000000) = true ∧
    signBit (ofParts (signBit a != signBit b) 0x7FF0000000000000) = (signBit a != signBit b) := by
  refine ⟨?_, (isInf_ofParts _).1, (isInf_ofParts _).2.1⟩
  show Except.ok (Value.num (F64.trunc (a / b))) = _
  rw [F64.div_by_zero a b hn hz hb, (isInf_ofParts _).2.2]

/-- `±0 div ±0` is NaN -/
theorem zero_div_zero (a b : Float) (ha : isZero a = true) (hb : isZero b = true) :
    binVal .div (.num a) (.num b) = .ok (.num F64.nan) := by
  show Except.ok (Value.num (F64.trunc (a / b))) = _
  rw [F64.zero_div_zero a b ha hb, nan_facts.2.2]

/-- a NaN operand gives NaN -/
theorem div_nan (a b : Float) (h : isNaN a = true ∨ isNaN b = true) :
    binVal .div (.num a) (.num b) = .ok (.num F64.nan) := by
  show Except.ok (Value.num (F64.trunc (a / b))) = _
  rw [F64.nan_div a b h, nan_facts.2.2]

/-- -7 div 2 = -3, 7 div -2 = -3 (toward zero, not floor), 7 div 2 = 3, -1 div 2 = -0, 1e300 div 7 (no i64 detour) -/
example : binVal .div (.num (-7 : Float)) (.num 2) = .ok (.num (-3)) :=
  congrArg (fun t => Except.ok (Value.num t)) (by decide +kernel)
example : binVal .div (.num (7 : Float)) (.num (-2)) = .ok (.num (-3)) :=
  congrArg (fun t => Except.ok (Value.num t)) (by decide +kernel)
example : binVal .div (.num (7 : Float)) (.num 2) = .ok (.num 3) :=
  congrArg (fun t => Except.ok (Value.num t)) (by decide +kernel)
example : binVal .div (.num (-1 : Float)) (.num 2) = .ok (.num (Float.ofBits 0x8000000000000000)) :=
  congrArg (fun t => Except.ok (Value.num t)) (by decide +kernel)
example : binVal .div (.num (1e300 : Float)) (.num 7) = .ok (.num 1.4285714285714286e299) :=
  congrArg (fun t => Except.ok (Value.num t)) (by decide +kernel)
/-- x div 0: 7 div 0 = +inf, -7 div 0 = -inf, 7 div -0 = -inf, 0 div 0 = NaN -/
example : binVal .div (.num (7 : Float)) (.num 0) = .ok (.num F64.inf) ∧
    binVal .div (.num (-7 : Float)) (.num 0) = .ok (.num (-F64.inf)) ∧
    binVal .div (.num (7 : Float)) (.num (Float.ofBits 0x8000000000000000)) = .ok (.num (-F64.inf)) ∧
    binVal .div (.num (0 : Float)) (.num 0) = .ok (.num F64.nan) :=
  ⟨congrArg (fun t => Except.ok (Value.num t)) (by decide +kernel),
   congrArg (fun t => Except.ok (Value.num t)) (by decide +kernel),
   congrArg (fun t => Except.ok (Value.num t)) (by decide +kernel),
   congrArg (fun t => Except.ok (Value.num t)) (by decide +kernel)⟩
/-- the hypotheses of `div_by_zero` / `div_integer_part` on concrete inputs -/
example : isNaN (-7 : Float) = false ∧ isZero (-7 : Float) = false ∧ isZero (0 : Float) = true ∧
    isFinite ((-7 : Float) / 2) = true ∧ units ((-7 : Float) / 2) = -7 * 2^1073 ∧
    units (F64.trunc ((-7 : Float) / 2)) = -3 * 2^1074 := by decide +kernel

/-- `F64.ofNatScaled neg m e` — the constructor `rem` (and `fract`) use for their result — represents ± m·2^e EXACTLY
    whenever that number is a double: m < 2^53, e ≥ -1074, m·2^e < 2^1024.  Value in units of 2^-1074, sign bit,
    and for m ≠ 0 the canonical mantissa/exponent pair (m·2^j, e - j). -/
theorem ofNatScaled_represents (neg : Bool) (m : Nat) (e : Int) (h53 : m < 2^53) (he : -1074 ≤ e)
    (htop : e + (m.log2 : Int) ≤ 1023) :
    unitsN (ofNatScaled neg m e) = m * 2^(e + 1074).toNat ∧ signBit (ofNatScaled neg m e) = neg ∧
    isFinite (ofNatScaled neg m e) = true ∧
    (0 < m → ∃ j : Nat, decode (ofNatScaled neg m e) = (m * 2^j, e - j)) := by
  obtain ⟨h1, h2, h3⟩ := unitsN_ofNatScaled neg m e h53 he htop
  refine ⟨h1, h2, h3, fun hm => ?_⟩
  obtain ⟨j, hc, heq⟩ := ofNatScaled_exact neg m e hm h53 he htop
  exact ⟨j, by rw [heq, decode_mkF _ _ _ hc]⟩

/-- **`x mod y` is C `fmod`, computed exactly.**  For finite x and finite y ≠ 0:
    * the result is finite and has the SIGN BIT OF x — also when it is zero (-7 mod 7 = -0);
    * |x mod y| < |y| (as values, and on the magnitude bits);
    * it is exact: in units of 2^-1074, `units (x mod y) = (units x).tmod (units y)`, the remainder of the division
      that truncates toward zero, i.e. `x - y·trunc(x/y)` evaluated without any rounding. -/
theorem mod_sign_and_bound (x y : Float) (hx : isFinite x = true) (hy : isFinite y = true) (hy0 : isZero y = false) :
    binVal .mod (.num x) (.num y) = .ok (.num (F64.rem x y)) ∧
    isFinite (F64.rem x y) = true ∧
    signBit (F64.rem x y) = signBit x ∧
    unitsN (F64.rem x y) < unitsN y ∧ magN (bits (F64.rem x y)) < magN (bits y) ∧
    unitsN (F64.rem x y) = unitsN x % unitsN y ∧
    units (F64.rem x y) = (units x).tmod (units y) ∧
    units (F64.rem x y) = units x - units y * (units x).tdiv (units y) := by
  obtain ⟨r1, r2, r3⟩ := rem_finite x y hx hy hy0
  have hlt := unitsN_rem_lt x y hx hy hy0
  have hu := units_rem x y hx hy hy0
  exact ⟨rfl, r2, r1, hlt, (unitsN_lt_iff (F64.rem x y) y).2 hlt, r3, hu, by rw [hu, Int.tmod_def]⟩

/-- over ℚ: `x mod y = x - y·k` exactly, with the integer k = x/y rounded toward zero, and |x mod y| < |y| -/
theorem mod_exact_rat (x y : Float) (hx : isFinite x = true) (hy : isFinite y = true) (hy0 : isZero y = false) :
    toRat (F64.rem x y) = toRat x - toRat y * (((units x).tdiv (units y) : Int) : ℚ) ∧
    |toRat (F64.rem x y)| < |toRat y| :=
  ⟨toRat_rem x y hx hy hy0, abs_toRat_rem_lt x y hx hy hy0⟩

/-- the same in mantissa/exponent form: with x = ± mx·2^ex, y = ± my·2^ey (`F64.decode`), e = min ex ey,
    X = mx·2^(ex-e), Y = my·2^(ey-e) (both integers):  x mod y = sign(x) · (X mod Y) · 2^e, represented exactly. -/
theorem mod_exact_decoded (x y : Float) (hx : isFinite x = true) (hx0 : isZero x = false)
    (hy : isFinite y = true) (hy0 : isZero y = false) :
    F64.rem x y = ofNatScaled (signBit x)
      (((decode x).1 * 2^((decode x).2 - min (decode x).2 (decode y).2).toNat) %
        ((decode y).1 * 2^((decode y).2 - min (decode x).2 (decode y).2).toNat)) (min (decode x).2 (decode y).2) ∧
    unitsN (F64.rem x y) =
      (((decode x).1 * 2^((decode x).2 - min (decode x).2 (decode y).2).toNat) %
        ((decode y).1 * 2^((decode y).2 - min (decode x).2 (decode y).2).toNat)) *
        2^(min (decode x).2 (decode y).2 + 1074).toNat :=
  rem_decoded x y hx hx0 hy hy0

/-- `x mod ±inf = x` for finite x (sign and all) -/
theorem mod_inf (x y : Float) (hx : isFinite x = true) (hy : isInf y = true) :
    binVal .mod (.num x) (.num y) = .ok (.num x) := by
  show Except.ok (Value.num (F64.rem x y)) = _
  obtain ⟨hn, hi⟩ := fin_not_nan x hx
  have hny : isNaN y = false := by
    unfold isInf at hy; unfold isNaN isNaNN; rw [decide_eq_true_eq] at hy; rw [decide_eq_false_iff_not]; omega
  have hzy : isZero y = false := by
    unfold isInf at hy; unfold isZero; rw [decide_eq_true_eq] at hy; rw [decide_eq_false_iff_not]; omega
  unfold F64.rem
  simp only [hn, hi, hny, hzy, hy, Bool.or_self, Bool.false_eq_true, if_false, if_true]

/-- `±0 mod y = ±0` (the same zero) for finite y ≠ 0 -/
theorem mod_zero_dividend (x y : Float) (hx : isZero x = true) (hy : isFinite y = true) (hy0 : isZero y = false) :
    binVal .mod (.num x) (.num y) = .ok (.num x) := by
  show Except.ok (Value.num (F64.rem x y)) = _
  rw [rem_zero_left x y hx hy hy0]

/-- NaN operand, infinite dividend or zero divisor: NaN -/
theorem mod_nan (x y : Float) (h : isNaN x = true ∨ isNaN y = true ∨ isInf x = true ∨ isZero y = true) :
    binVal .mod (.num x) (.num y) = .ok (.num F64.nan) := by
  show Except.ok (Value.num (F64.rem x y)) = _
  unfold F64.rem
  rw [if_pos]
  rcases h with h | h | h | h <;> simp [h]

/-- -7 mod 2 = -1, 7 mod -2 = 1, -7 mod 7 = -0, 5.5 mod 2 = 1.5, 1e300 mod 3 = 0 (the double 1e300 is an
    integer, a multiple of 3), 5 mod inf = 5, 5 mod 0 = NaN, -0 mod 3 = -0 -/
example : binVal .mod (.num (-7 : Float)) (.num 2) = .ok (.num (-1)) :=
  congrArg (fun t => Except.ok (Value.num t)) (by decide +kernel)
example : binVal .mod (.num (7 : Float)) (.num (-2)) = .ok (.num 1) :=
  congrArg (fun t => Except.ok (Value.num t)) (by decide +kernel)
example : binVal .mod (.num (-7 : Float)) (.num 7) = .ok (.num (Float.ofBits 0x8000000000000000)) :=
  congrArg (fun t => Except.ok (Value.num t)) (by decide +kernel)
example : binVal .mod (.num (5.5 : Float)) (.num 2) = .ok (.num 1.5) :=
  congrArg (fun t => Except.ok (Value.num t)) (by decide +kernel)
example : binVal .mod (.num (1e300 : Float)) (.num 3) = .ok (.num (Float.ofBits 0)) :=
  congrArg (fun t => Except.ok (Value.num t)) (by decide +kernel)
example : binVal .mod (.num (5 : Float)) (.num F64.inf) = .ok (.num 5) :=
  congrArg (fun t => Except.ok (Value.num t)) (by decide +kernel)
example : binVal .mod (.num (5 : Float)) (.num 0) = .ok (.num F64.nan) :=
  congrArg (fun t => Except.ok (Value.num t)) (by decide +kernel)
example : binVal .mod (.num (Float.ofBits 0x8000000000000000)) (.num 3) = .ok (.num (Float.ofBits 0x8000000000000000)) :=
  congrArg (fun t => Except.ok (Value.num t)) (by decide +kernel)
example : binVal .mod (.num (0.3 : Float)) (.num 0.1) = .ok (.num 0.09999999999999998) :=
  congrArg (fun t => Except.ok (Value.num t)) (by decide +kernel)
/-- the hypotheses of `mod_sign_and_bound` on a concrete input, and its exactness equation evaluated there -/
example : isFinite (-7 : Float) = true ∧ isFinite (2 : Float) = true ∧ isZero (2 : Float) = false ∧
    units (-7 : Float) = -7 * 2^1074 ∧ units (2 : Float) = 2 * 2^1074 ∧ units (F64.rem (-7) 2) = -1 * 2^1074 := by
  decide +kernel
example : isInf F64.inf = true ∧ isFinite (5 : Float) = true := by decide +kernel

/-- `=` on two numbers is IEEE `==`: false as soon as one side is NaN (NaN ≠ NaN), true on two zeros of either sign
    (-0 = +0), and otherwise equality of the doubles (bit patterns). -/
theorem eq_is_ieee (a b : Float) :
    Value.eq (.num a) (.num b) = F64.beq a b ∧
    binVal .equal (.num a) (.num b) = .ok (.bool (F64.beq a b)) ∧
    binVal .notEqual (.num a) (.num b) = .ok (.bool (!F64.beq a b)) ∧
    F64.beq a b = (if isNaN a || isNaN b then false
                   else if isZero a && isZero b then true else decide (bits a = bits b)) ∧
    (isNaN a = true ∨ isNaN b = true → F64.beq a b = false) ∧
    (isZero a = true → isZero b = true → F64.beq a b = true) ∧
    (isNaN a = false → isNaN b = false → (isZero a = false ∨ isZero b = false) → (F64.beq a b = true ↔ a = b)) :=
  ⟨rfl, rfl, rfl, beq_ieee a b, beq_nan a b, beq_zeros a b, beq_iff_eq a b⟩

/-- `Ord::cmp` on two numbers is `f64::partial_cmp` with the documented quirk: when a side is NaN (`partial_cmp` is
    `None`) the result is `Equal` — so `NaN <= x` and `NaN >= x` hold while `NaN = x` does not. -/
theorem cmp_is_ieee (a b : Float) :
    Value.cmp (.num a) (.num b) = (F64.pcmp a b).getD .eq ∧
    F64.pcmp a b = (if isNaN a || isNaN b then none else some (cmpInt (keyN (bits a)) (keyN (bits b)))) ∧
    (isNaN a = true ∨ isNaN b = true → Value.cmp (.num a) (.num b) = .eq) ∧
    binVal .less (.num a) (.num b) = .ok (.bool (Value.cmp (.num a) (.num b) == .lt)) ∧
    binVal .lessEqual (.num a) (.num b) = .ok (.bool (Value.cmp (.num a) (.num b) != .gt)) ∧
    binVal .greater (.num a) (.num b) = .ok (.bool (Value.cmp (.num a) (.num b) == .gt)) ∧
    binVal .greaterEqual (.num a) (.num b) = .ok (.bool (Value.cmp (.num a) (.num b) != .lt)) := by
  have h0 : Value.cmp (.num a) (.num b) = (F64.pcmp a b).getD .eq := by rw [Value.cmp]; rfl
  refine ⟨h0, rfl, fun h => ?_, rfl, rfl, rfl, rfl⟩
  rw [h0, pcmp_nan a b h]; rfl

/-- on finite doubles the order is the order of the VALUES (so -0 and +0 compare equal, subnormals are ordered
    correctly, negative numbers are below positive ones) -/
theorem order_is_value_order (a b : Float) (ha : isFinite a = true) (hb : isFinite b = true) :
    Value.cmp (.num a) (.num b) = cmpInt (units a) (units b) ∧
    (binVal .less (.num a) (.num b) = .ok (.bool (decide (units a < units b)))) ∧
    (binVal .equal (.num a) (.num b) = .ok (.bool (decide (units a = units b)))) := by
  have h0 : Value.cmp (.num a) (.num b) = cmpInt (units a) (units b) := by
    rw [(cmp_is_ieee a b).1, pcmp_units a b ha hb]; rfl
  refine ⟨h0, ?_, ?_⟩
  · show Except.ok (Value.bool (Value.cmp (.num a) (.num b) == .lt)) = _
    rw [h0]; unfold cmpInt
    congr 2
    by_cases h1 : units a < units b
    · rw [if_pos h1, decide_eq_true h1]; rfl
    · rw [if_neg h1, decide_eq_false h1]; split <;> rfl
  · show Except.ok (Value.bool (F64.beq a b)) = _
    rw [beq_units a b ha hb]

/-- Booleans coerce to 0 / 1 under `=` and `<>` (only there): `true = 1`, `false = 0`, on either side -/
theorem bool_coerces_under_eq (b : Bool) (x : Float) :
    Value.eq (.bool b) (.num x) = F64.beq (if b then 1 else 0) x ∧
    Value.eq (.num x) (.bool b) = F64.beq x (if b then 1 else 0) ∧
    binVal .equal (.bool b) (.num x) = .ok (.bool (F64.beq (if b then 1 else 0) x)) ∧
    binVal .notEqual (.bool b) (.num x) = .ok (.bool (!F64.beq (if b then 1 else 0) x)) := by
  have h1 : Value.eq (.bool b) (.num x) = F64.beq (if b then 1 else 0) x := by rw [Value.eq]; rfl
  have h2 : Value.eq (.num x) (.bool b) = F64.beq x (if b then 1 else 0) := by rw [Value.eq]; rfl
  exact ⟨h1, h2, by show Except.ok (Value.bool (Value.eq _ _)) = _; rw [h1],
    by show Except.ok (Value.bool (!Value.eq _ _)) = _; rw [h1]⟩

/-- NaN = NaN is false, NaN <= 1 and NaN >= 1 are true (the quirk), -0 = 0, 0.1 + 0.2 <> 0.3, true = 1, false = 0,
    true <> 2, -1 < -0, 5e-324 > 0 -/
example : binVal .equal (.num F64.nan) (.num F64.nan) = .ok (.bool false) ∧
    binVal .lessEqual (.num F64.nan) (.num (1 : Float)) = .ok (.bool true) ∧
    binVal .greaterEqual (.num F64.nan) (.num (1 : Float)) = .ok (.bool true) ∧
    binVal .less (.num F64.nan) (.num (1 : Float)) = .ok (.bool false) ∧
    binVal .equal (.num (Float.ofBits 0x8000000000000000)) (.num (0 : Float)) = .ok (.bool true) ∧
    binVal .notEqual (.num ((0.1 : Float) + 0.2)) (.num 0.3) = .ok (.bool true) ∧
    binVal .equal (.bool true) (.num (1 : Float)) = .ok (.bool true) ∧
    binVal .equal (.num (0 : Float)) (.bool false) = .ok (.bool true) ∧
    binVal .notEqual (.bool true) (.num (2 : Float)) = .ok (.bool true) ∧
    binVal .less (.num (-1 : Float)) (.num (Float.ofBits 0x8000000000000000)) = .ok (.bool true) ∧
    binVal .greater (.num (5e-324 : Float)) (.num 0) = .ok (.bool true) := by
  have e : ∀ a b : Float, Value.eq (.num a) (.num b) = F64.beq a b := fun _ _ => rfl
  have c : ∀ a b : Float, Value.cmp (.num a) (.num b) = (F64.pcmp a b).getD .eq := fun a b => (cmp_is_ieee a b).1
  have eb : ∀ (b : Bool) (x : Float), Value.eq (.bool b) (.num x) = F64.beq (if b then 1 else 0) x :=
    fun b x => (bool_coerces_under_eq b x).1
  have be : ∀ (b : Bool) (x : Float), Value.eq (.num x) (.bool b) = F64.beq x (if b then 1 else 0) :=
    fun b x => (bool_coerces_under_eq b x).2.1
  simp only [binVal, e, c, eb, be, Except.ok.injEq, Value.bool.injEq]
  decide +kernel

end Slac.C03
