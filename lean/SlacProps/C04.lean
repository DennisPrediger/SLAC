/-
  C04 — each needed operand is evaluated once, left to right; unneeded ones never.
  The observable is the trace of environment events (`lookup name`, `call name args`) that `evalT` returns
  next to the result; the `eval` stream compares it with what a recording `Environment` sees in the real crate.
-/
import SlacProofs.Refine
set_option autoImplicit false
namespace Slac.C04
variable {N : Type} [NumOps N]

/-- Main theorem: the sequence of variable lookups and native calls (with argument values) performed by
    `execute` is exactly the one the language definition prescribes — every tree, every environment. -/
theorem trace_eq_spec (env : Env N) (e : Expr N) : (evalT env e).2 = (spec env e).2 :=
  ((Slac.execute_eq_spec env e).2).symm

/-- `and` with a falsy (or undefined) left operand never evaluates its right operand. -/
theorem and_short_circuit (env : Env N) (l r : Expr N)
    (h : (∃ v, evalR env l = .ok v ∧ v.asBool = false) ∨ (∃ n, evalR env l = .error (.undefinedVariable n))) :
    evalT env (.binary l r .and) = (.ok (.bool false), (evalT env l).2) := by
  simp only [evalT]
  rcases h with ⟨v, h1, h2⟩ | ⟨n, h1⟩ <;> rw [evalT_of_evalR h1]
  · simp only [binModel, h2]; rfl
  · rfl

/-- `or` with a truthy left operand never evaluates its right operand. -/
theorem or_short_circuit (env : Env N) (l r : Expr N) (v : Value N)
    (h : evalR env l = .ok v) (hv : v.asBool = true) :
    evalT env (.binary l r .or) = (.ok (.bool true), (evalT env l).2) := by
  simp only [evalT]
  rw [evalT_of_evalR h]
  simp only [binModel, hv]; rfl

/-- A conditional evaluates its condition, then exactly the selected branch; the other branch contributes
    no event. -/
theorem conditional_lazy (env : Env N) (c m r : Expr N) (v : Value N) (h : evalR env c = .ok v) :
    evalT env (.ternary c m r .ternaryCondition) =
      if v.asBool then ((evalT env m).1, (evalT env c).2 ++ (evalT env m).2)
      else ((evalT env r).1, (evalT env c).2 ++ (evalT env r).2) := by
  simp only [evalT]
  rw [evalT_of_evalR h]; rfl

/-- A failing (or undefined) condition: neither branch is evaluated. -/
theorem conditional_failed_condition (env : Env N) (c m r : Expr N) (e : Err) (h : evalR env c = .error e) :
    evalT env (.ternary c m r .ternaryCondition) = (.error e, (evalT env c).2) := by
  simp only [evalT]
  rw [evalT_of_evalR h]; rfl

/-- Equality evaluates its right operand even when the left one is undefined (it must: `u = ''`). -/
theorem eq_evaluates_right (env : Env N) (l r : Expr N) (n : Str) (h : evalR env l = .error (.undefinedVariable n)) :
    (evalT env (.binary l r .equal)).2 = (evalT env l).2 ++ (evalT env r).2 := by
  simp only [evalT]
  rw [evalT_of_evalR h]
  generalize evalT env r = mr
  obtain ⟨r1, r2⟩ := mr
  cases r1 with
  | ok rv => rfl
  | error e => cases e <;> rfl

/-- Argument lists: evaluation stops at the first argument that is not a value; the arguments after it
    contribute no event. -/
theorem args_stop (env : Env N) (e : Expr N) (es : List (Expr N)) (err : Err) (h : evalR env e = .error err) :
    evalList env (e :: es) = (.error err, (evalT env e).2) := by
  simp only [evalList]
  rw [evalT_of_evalR h]

/-- A call whose arguments do not all evaluate performs no `call` event: the function is never invoked. -/
theorem call_not_invoked (env : Env N) (f : Str) (es : List (Expr N)) (err : Err)
    (h : (evalList env es).1 = .error err) :
    evalT env (.call f es) = (.error err, (evalList env es).2) := by
  simp only [evalT]
  rw [evalList_of_fst h]

/-- A call whose arguments all evaluate performs exactly one `call` event, after all argument events,
    carrying the argument values in order. -/
theorem call_invoked_once (env : Env N) (f : Str) (es : List (Expr N)) (vs : List (Value N))
    (h : (evalList env es).1 = .ok vs) :
    (evalT env (.call f es)).2 = (evalList env es).2 ++ [.call f vs] := by
  simp only [evalT]
  rw [evalList_of_fst h]

end Slac.C04
