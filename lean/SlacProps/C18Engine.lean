/-
  C18 for the CONCRETE engine model (SlacModel.RegexEngine): the engine laws of SlacProps.C18 are theorems here
  and the sentences of the property are restated without the `LawfulEngine` hypothesis (the literal law for
  replacement text without `$` only).
-/
import SlacProps.C18
import SlacModel.RegexEngine
import SlacProofs.RegexEngine
import SlacProofs.RegexEngineLit
set_option autoImplicit false
namespace Slac.C18
open Slac.Regex Slac.RegexEngine
open Slac.Stdlib (Res defaultString defaultNumber)
variable {N : Type} [NumX N]

/-- the concrete engine satisfies the engine laws: all four operations are defined from one `search` -/
theorem engine_lawful : LawfulEngine RegexEngine.engine where
  isMatch_iff := by
    intro re h
    simp only [engine, allMatches_eq]
    cases search re (cur0 h) <;> simp
  captures_none := by
    intro re h
    simp only [engine, allMatches_eq]
    cases search re (cur0 h) <;> simp
  captures_some := by
    intro re h cs hcs
    simp only [engine, allMatches_eq] at hcs ⊢
    cases hs : search re (cur0 h) with
    | none => simp [hs] at hcs
    | some x =>
      simp only [hs, Option.map_some, Option.some.injEq] at hcs
      subst hcs
      exact ⟨by simp [Mt.groups], Mt.text h x, _, rfl, by simp [Mt.groups, Mt.text]⟩
  capturesLen_pos := by intro re; simp [engine]


/-- `re_is_match` is true iff `re_find` returns at least one match. -/
theorem is_match_iff_find_engine (h p : Str) (b : Bool) (ms : List (Value N))
    (h1 : isMatch engine [.str h, .str p] = (.ok (.bool b) : Res N))
    (h2 : Regex.find engine [.str h, .str p] = .ok (.arr ms)) : (b = true ↔ ms ≠ []) :=
  is_match_iff_find engine engine_lawful h p b ms h1 h2

/-- `re_capture`: `captures_len` empty strings when nothing matches, else one entry per group, the first being the
    first match `re_find` reports. -/
theorem capture_shape_engine (h p : Str) (re : Compiled) (hc : engine.compile p = .ok re) :
    ∃ out : List (Value N), capture engine [.str h, .str p] = .ok (.arr out) ∧ out.length = engine.capturesLen re ∧
      ((engine.findIter re h = [] ∧ out = List.replicate (engine.capturesLen re) (.str [])) ∨
       (∃ m ms, engine.findIter re h = m :: ms ∧ out.head? = some (.str m))) :=
  capture_shape engine engine_lawful h p re hc

theorem capture_same_length_engine (h h' p : Str) (re : Compiled) (hc : engine.compile p = .ok re)
    (o o' : List (Value N)) (h1 : capture engine [.str h, .str p] = .ok (.arr o))
    (h2 : capture engine [.str h', .str p] = .ok (.arr o')) : o.length = o'.length :=
  capture_same_length engine engine_lawful h h' p re hc o o' h1 h2

/-- An invalid pattern yields an error value from every wrapper. -/
theorem invalid_pattern_engine (h p : Str) (msg : Str) (hc : engine.compile p = .error msg) (rest : List (Value N)) :
    isMatch engine [.str h, .str p] = (.error (.custom msg) : Res N) ∧
    Regex.find engine [.str h, .str p] = (.error (.custom msg) : Res N) ∧
    capture engine [.str h, .str p] = (.error (.custom msg) : Res N) ∧
    (∀ r, Regex.replace engine (.str h :: .str p :: rest) = (.ok r : Res N) → False) :=
  invalid_pattern engine h p msg hc rest

/-- the spans `re_find` reports -/
def spans (re : Compiled) (h : Str) : List (Nat × Nat) := (allMatches re h).map Mt.span

theorem findIter_eq_spans (re : Compiled) (h : Str) :
    engine.findIter re h = (spans re h).map fun se => extract h se.1 se.2 := by
  simp [engine, spans, Mt.text, Mt.span, Function.comp_def]

/-- `re_replace` with plain replacement text (no `$`): `re_find` returns the texts of `spans`, and `re_replace`
    with limit `n` puts the replacement for exactly the first `n` of these spans (all of them for limit 0 or no
    limit) and copies everything else. -/
theorem replace_rewrites_found_matches_engine (h p rep : Str) (hp : '$' ∉ rep) (re : Compiled)
    (hc : engine.compile p = .ok re) (n : N) :
    Regex.find engine [.str h, .str p] = (.ok (.arr ((spans re h).map fun se => .str (extract h se.1 se.2))) : Res N) ∧
    Regex.replace engine [.str h, .str p, .str rep, .num n] =
      (.ok (.str (splicePlain h rep 0
        (if NumX.floorUsize n = 0 then spans re h else (spans re h).take (NumX.floorUsize n)))) : Res N) := by
  refine ⟨?_, ?_⟩
  · simp [Regex.find, withRe, hc, findIter_eq_spans, Function.comp_def]
  · rw [(replace_is_replacen (N := N) engine h p re hc).2.2 rep n]
    show (.ok (.str (replacen re h (NumX.floorUsize n) rep)) : Res N) = _
    rw [replacen_plain re h rep _ hp]
    simp only [spans]
    split <;> simp [List.map_take]

/-- the engine law for escaped literals, for plain replacement text: the matches are the leftmost
    non-overlapping occurrences of the literal -/
theorem literal_law_engine (lit h : Str) (re : Compiled) (hc : engine.compile (escape lit) = .ok re) :
    (engine.findIter re h).length = Seq.countOcc lit h ∧
    (∀ rep, '$' ∉ rep → engine.replacen re h 0 rep = Seq.replaceSeq lit rep h) := by
  have hre : re = litRe lit := compile_escape lit re hc
  subst hre
  refine ⟨?_, ?_⟩
  · have := congrArg List.length (allMatches_lit lit h)
    simp only [List.length_map] at this
    simp [engine, this, litSpans_length, Seq.countOcc_eq_occCount]
  · intro rep hp
    show replacen (litRe lit) h 0 rep = _
    rw [replacen_plain _ h rep 0 hp]
    simp only [if_true, allMatches_lit]
    exact (splice_litSpans lit rep [] h 0 (Nat.le_refl _)).trans (Seq.replaceSeq_eq_replaceAll lit rep h).symm

/-- A pattern that is an escaped literal behaves exactly like `contains`, `count` and (with plain replacement
    text) `replace` on that literal. -/
theorem literal_pattern_engine (hz : NumX.floorUsize (NumOps.zero : N) = 0)
    (lit h rep : Str) (hp : '$' ∉ rep) (re : Compiled) (hc : engine.compile (escape lit) = .ok re) :
    isMatch engine [.str h, .str (escape lit)] = (Stdlib.contains [.str h, .str lit] : Res N) ∧
    (∃ ms, Regex.find engine [.str h, .str (escape lit)] = (.ok (.arr ms) : Res N) ∧
      Stdlib.count [.str h, .str lit] = (.ok (.num (NumX.ofNat ms.length)) : Res N)) ∧
    Regex.replace engine [.str h, .str (escape lit), .str rep] = (Stdlib.replace [.str h, .str lit, .str rep] : Res N) := by
  obtain ⟨hlen, hrep⟩ := literal_law_engine lit h re hc
  exact literal_pattern_of engine engine_lawful hz lit _ h rep re hc hlen (hrep rep hp)

/-- `(\d+)-(x)?` -/
def exPat : Str := ['(', '\\', 'd', '+', ')', '-', '(', 'x', ')', '?']
def exHay : Str := ['a', '1', '2', '-', 'b', '7', '-', 'x']

example : (compile exPat).toOption.map (fun re => engine.findIter re exHay) =
    some [['1', '2', '-'], ['7', '-', 'x']] := by decide +kernel
example : (compile exPat).toOption.map (fun re => engine.captures re exHay) =
    some (some [some ['1', '2', '-'], some ['1', '2'], none]) := by decide +kernel
example : (compile exPat).toOption.map (fun re => engine.replacen re exHay 1 ['<', '$', '1', '>']) =
    some ['a', '<', '1', '2', '>', 'b', '7', '-', 'x'] := by decide +kernel
example : (compile exPat).toOption.map (fun re => engine.capturesLen re) = some 3 := by decide +kernel
example : (compile ['(', 'a']).toOption = none := by decide +kernel
example : supported ['(', 'a', '*', ')', '*'] = false := by decide +kernel
example : (compile (escape ['a', '.', 'b'])).toOption.map (·.ast) = some (litAst ['a', '.', 'b']) := by decide +kernel

end Slac.C18
