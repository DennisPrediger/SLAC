/-
  C06 — `optimize` always terminates; while running it never calls an impure function and never reads a
  variable (it only calls pure functions, with literal arguments); its result is a fixpoint that contains no
  constant-foldable node and has no more nodes than its input.
  Model: SlacModel/Optimizer.lean (`transform`, `fold`, `optimize`, `optimizeT`, measure `mu`).
-/
import SlacProofs.OptStable
import SlacProofs.OptTrace
import SlacProofs.OptExample
set_option autoImplicit false
namespace Slac.C06
open Slac.Opt
variable {N : Type} [NumOps N]

/-- Termination: the loop of `optimize` makes at most `mu e + 1` rounds, whatever the environment. -/
theorem optimize_terminates (env : Env N) (fuel : Nat) (e : Expr N) (h : mu e < fuel) :
    optimize env fuel e ≠ .outOfFuel :=
  Slac.Opt.optimize_terminates env fuel e h

theorem optimizeT_fst (env : Env N) (fuel : Nat) (e : Expr N) : (optimizeT env fuel e).1 = optimize env fuel e := rfl

/-- Purity: every environment event of an `optimize` run is a call `f(vs)` of a function that
    `function_exists` reports as pure for that number of arguments; in particular there is no `lookup`
    event and no call of an impure function. -/
theorem optimize_pure (env : Env N) (fuel : Nat) (e : Expr N) :
    ∀ ev ∈ (optimizeT env fuel e).2, ∃ f vs, ev = .call f vs ∧ env.fnExists f vs.length = .exist true :=
  optimizeTrace_pure env fuel e

theorem optimize_no_lookup (env : Env N) (fuel : Nat) (e : Expr N) (n : Str) :
    Event.lookup n ∉ (optimizeT env fuel e).2 := by
  intro h
  obtain ⟨f, vs, h1, _⟩ := optimize_pure env fuel e _ h
  cases h1

theorem optimize_no_impure_call (env : Env N) (fuel : Nat) (e : Expr N) (f : Str) (vs : List (Value N))
    (himpure : env.fnExists f vs.length ≠ .exist true) : Event.call f vs ∉ (optimizeT env fuel e).2 := by
  intro h
  obtain ⟨f', vs', h1, h2⟩ := optimize_pure env fuel e _ h
  cases h1; exact himpure h2

/-- a tree on which one more round does nothing: no three-argument `if_then` call and `fold` finds nothing -/
def Stable (env : Env N) (e : Expr N) : Prop := if3 e = 0 ∧ (fold env e).found = false

/-- the last round of a successful run found nothing and left the tree as it was -/
theorem optimize_ok_stable (env : Env N) : ∀ (fuel : Nat) (e e' : Expr N),
    optimize env fuel e = .ok e' → Stable env e' := by
  intro fuel
  induction fuel with
  | zero => intro e e' h; simp only [optimize] at h; cases h
  | succ fuel ih =>
    intro e e' h
    simp only [optimize] at h
    split at h
    · cases h
    · split at h
      · exact ih _ _ h
      · rename_i hc
        simp only [transformFound, Bool.or_eq_true, decide_eq_true_eq, not_or, Nat.not_lt, Nat.le_zero,
          Bool.not_eq_true] at hc
        rw [transform_eq_self e hc.1] at hc h
        obtain ⟨h1, _, _⟩ := fold_stable env e hc.1 hc.2
        rw [h1] at h; cases h
        exact ⟨hc.1, hc.2⟩

theorem stable_optimize (env : Env N) (e : Expr N) (hs : Stable env e) (fuel : Nat) (hf : 0 < fuel) :
    optimize env fuel e = .ok e := by
  obtain ⟨fuel, rfl⟩ : ∃ k, fuel = k + 1 := ⟨fuel - 1, by omega⟩
  obtain ⟨h1, h2, _⟩ := fold_stable env e hs.1 hs.2
  simp only [optimize, transform_eq_self e hs.1, h2, transformFound, hs.1, hs.2, h1]
  simp

/-- Fixpoint: optimizing the result again changes nothing (any positive fuel will do). -/
theorem optimize_idempotent' (env : Env N) (fuel fuel' : Nat) (e e' : Expr N)
    (h : optimize env fuel e = .ok e') (hf : 0 < fuel') : optimize env fuel' e' = .ok e' :=
  stable_optimize env e' (optimize_ok_stable env fuel e e' h) fuel' hf

theorem optimize_idempotent (env : Env N) (fuel fuel' : Nat) (e e' : Expr N)
    (h : optimize env fuel e = .ok e') (hf : fuel' > mu e') : optimize env fuel' e' = .ok e' :=
  optimize_idempotent' env fuel fuel' e e' h (by omega)

/-- No constant-foldable node is left: no operator or array whose operands are all literals, no call of a
    pure function within its arity whose arguments are all literals, no conditional with a literal
    condition, no three-argument `if_then` call. -/
theorem no_foldable_node (env : Env N) (fuel : Nat) (e e' : Expr N) (h : optimize env fuel e = .ok e') :
    ∀ n ∈ subterms e', ¬ Foldable env n := by
  obtain ⟨h1, h2⟩ := optimize_ok_stable env fuel e e' h
  exact (fold_stable env e' h1 h2).2.2

/-- Size: the tree the caller holds afterwards — also after a failed run — has no more nodes than
    the input. -/
theorem optimize_size (env : Env N) : ∀ (fuel : Nat) (e e' : Expr N),
    (optimize env fuel e = .ok e' ∨ ∃ er, optimize env fuel e = .err e' er) → nodes e' ≤ nodes e := by
  intro fuel e e' h
  refine optimize_ind env (I := fun t => nodes t ≤ nodes e) ?_ fuel e e' (Nat.le_refl _) ?_
  · intro t ht
    have := nodes_fold env (transform t); rw [nodes_transform] at this; omega
  · rcases h with h | ⟨_, h⟩ <;> rw [h] <;> rfl

section Examples
open Slac.Opt.Ex
attribute [local instance] intOps

/-- `x + rnd()` -/
def r1 : Expr Int := .binary (.var x) (.call rndName []) .plus
/-- `[3, y, -true]` -/
def r2 : Expr Int := .array [.lit (.num 3), .var y, .unary (.lit (.bool true)) .minus]

/-- `x + if_then(max(1,2) > 1, rnd(), 0 - 1)` becomes `x + rnd()`; `mu t1 + 1 = 9` rounds suffice -/
theorem run1 : optimize env (mu t1 + 1) t1 = .ok r1 := by rfl
example : optimize env (mu t1 + 1) t1 ≠ .outOfFuel := optimize_terminates env _ t1 (Nat.lt_succ_self _)

/-- the run calls `max(1, 2)` (pure) and nothing else: `rnd` is never called, `x` is never read -/
example : (optimizeT env 9 t1).2 = [.call maxName [.num 1, .num 2]] := by rfl
example : Event.call rndName [] ∉ (optimizeT env 9 t1).2 :=
  optimize_no_impure_call env 9 t1 rndName [] (by decide)
example : Event.lookup x ∉ (optimizeT env 9 t1).2 := optimize_no_lookup env 9 t1 x

/-- the result is a fixpoint without foldable node, and not larger -/
example : optimize env 4 r1 = .ok r1 := optimize_idempotent env 9 4 t1 r1 run1 (by decide)
example : ¬ Foldable env (.call rndName []) :=
  no_foldable_node env 9 t1 r1 run1 _ (by simp [r1, subterms, subtermsL])
example : nodes r1 ≤ nodes t1 := optimize_size env 9 t1 r1 (.inl run1)

/-- a failing run: `[1 + 2, y, -true]` is left as `[3, y, -true]` -/
theorem run2 : optimize env 9 t2 = .err r2 (.invalidUnary .minus) := by rfl
example : nodes r2 ≤ nodes t2 := optimize_size env 9 t2 r2 (.inr ⟨_, run2⟩)

end Examples

end Slac.C06
