/-
  C16 — date-time numbers are days since 1970-01-01 with the time of day as the fraction.
  Model: SlacModel.Time (src/stdlib/time.rs over chrono's proleptic Gregorian NaiveDate).
  Tie: the streams `tmrange`, `tmpairs`, `tzeast`, `tzwest`, `tmfmt`, `tmparse`, `call:…` (the 19 date-time builtins) and `num`
  of the correspondence harness (tools/props.py: builtins compared with the crate on dates, times and strings).

  Part A (calendar) is exact Int/Nat arithmetic and holds for ALL integers (no year restriction) unless a
  statement mentions `validDate`, which adds chrono's year range −262143…262142.
  Part B goes through numbers.  Number facts are the hypotheses `[LawfulTimeNum N]` (SlacProofs.TimeNum: field
  list and why binary64 satisfies each); the theorems hold for every such `N`.  The central field
  `decode_encode_ms` follows over ℚ from the standard model of floating-point arithmetic (`decode_encode_real`
  below states this for |T| ≤ 2^50); the `Float` instance (SlacProofs.F64Time, used in SlacProps.C16Float) proves that
  binary64 `/` and `*` follow the standard model on these operands and applies the same error bound
  (`Time.roundtrip_core`) at 2^48.  The class has a model
  (`SlacProofs.TimeToy`: exact rationals), used below for the non-vacuity examples of part B.
  Range of part B: `DT.Enc t` = millisecond of day < 86 400 000 and |total milliseconds| ≤ 2^48, which contains
  every date of years 1–9999 at every millisecond (`enc_of_date`).
-/
import SlacModel.Registry
import SlacProofs.TimeCal
import SlacProofs.TimeNum
import SlacProofs.TimeEnc
import SlacProofs.TimeStr
import SlacProofs.TimeReal
import SlacProofs.TimeToy
set_option autoImplicit false
namespace Slac.C16
open Slac.Time Slac.Stdlib

/-! ## A. Calendar -/

/-! ### A1. civil date ↔ day number -/

/-- every existing date of chrono's range is recovered from its day number -/
theorem civil_roundtrip (y : Int) (m d : Nat) (h : validDate y m d = true) :
    civilFromDays (daysFromCivil y m d) = (y, m, d) :=
  civil_roundtrip_md y m d ((validDate_iff y m d).1 h).2

/-- the same for every integer year (`ValidMD`: month 1–12, day 1–length of the month) -/
theorem civil_roundtrip_all (y : Int) (m d : Nat) (h : ValidMD y m d) :
    civilFromDays (daysFromCivil y m d) = (y, m, d) :=
  civil_roundtrip_md y m d h

/-- every day number (any integer) is the day number of its civil date -/
theorem days_roundtrip (z : Int) :
    daysFromCivil (civilFromDays z).1 (civilFromDays z).2.1 (civilFromDays z).2.2 = z :=
  Time.days_roundtrip z

/-- the civil date of a day number exists -/
theorem civilFromDays_exists (z : Int) :
    ValidMD (civilFromDays z).1 (civilFromDays z).2.1 (civilFromDays z).2.2 :=
  civilFromDays_validMD z

/-- … and is a chrono date whenever its year is in chrono's range -/
theorem civilFromDays_valid (z : Int) (h1 : minYear ≤ (civilFromDays z).1) (h2 : (civilFromDays z).1 ≤ maxYear) :
    validDate (civilFromDays z).1 (civilFromDays z).2.1 (civilFromDays z).2.2 = true :=
  (validDate_iff _ _ _).2 ⟨⟨h1, h2⟩, civilFromDays_validMD z⟩

example : civilFromDays (daysFromCivil 2024 2 29) = (2024, 2, 29) := by decide +kernel
example : civilFromDays (daysFromCivil 2000 2 29) = (2000, 2, 29) := by decide +kernel
example : daysFromCivil 2019 7 24 = 18101 := by decide +kernel
example : civilFromDays (-1) = (1969, 12, 31) := by decide +kernel
example : daysFromCivil 1 1 1 = -719162 ∧ civilFromDays (-719162) = (1, 1, 1) := by decide +kernel
example : daysFromCivil 9999 12 31 = 2932896 ∧ civilFromDays 2932896 = (9999, 12, 31) := by decide +kernel
example : validDate 2024 2 29 = true ∧ validDate 1900 2 29 = false ∧ validDate 2023 13 1 = false := by decide +kernel

/-! ### A2. day numbers count days since 1970-01-01 -/

theorem days_epoch : daysFromCivil 1970 1 1 = 0 := Time.days_epoch

/-- the calendar day after (y, m, d) -/
def nextDate (y : Int) (m d : Nat) : Int × Nat × Nat :=
  if d < daysInMonth y m then (y, m, d + 1) else if m < 12 then (y, m + 1, 1) else (y + 1, 1, 1)

/-- the next calendar day — next day of the month, else first of the next month, else 1 January of the next
    year — exists and has the next day number -/
theorem days_successor (y : Int) (m d : Nat) (h : ValidMD y m d) :
    daysFromCivil (nextDate y m d).1 (nextDate y m d).2.1 (nextDate y m d).2.2 = daysFromCivil y m d + 1 ∧
    ValidMD (nextDate y m d).1 (nextDate y m d).2.1 (nextDate y m d).2.2 := by
  obtain ⟨hm1, hm12, hd1, hd⟩ := h
  unfold nextDate
  by_cases h1 : d < daysInMonth y m
  · rw [if_pos h1]
    show daysFromCivil y m (d + 1) = _ ∧ ValidMD y m (d + 1)
    exact ⟨Time.days_next_day y m d, hm1, hm12, by omega, by omega⟩
  · rw [if_neg h1]
    have hde : d = daysInMonth y m := by omega
    by_cases h2 : m < 12
    · rw [if_pos h2]
      show daysFromCivil y (m + 1) 1 = _ ∧ ValidMD y (m + 1) 1
      have := (daysInMonth_bounds y (m := m + 1) (by omega) (by omega)).1
      exact ⟨by rw [hde]; exact Time.days_next_month y m hm1 h2, by omega, by omega, by omega, by omega⟩
    · rw [if_neg h2]
      have hm : m = 12 := by omega
      subst hm
      have e31 : daysInMonth y 12 = 31 := rfl
      show daysFromCivil (y + 1) 1 1 = _ ∧ ValidMD (y + 1) 1 1
      refine ⟨by rw [hde, e31]; exact Time.days_next_year y, by omega, by omega, by omega, ?_⟩
      have : daysInMonth (y + 1) 1 = 31 := rfl
      omega

theorem days_next_day (y : Int) (m d : Nat) : daysFromCivil y m (d + 1) = daysFromCivil y m d + 1 :=
  Time.days_next_day y m d
theorem days_next_month (y : Int) (m : Nat) (hm1 : 1 ≤ m) (hm : m < 12) :
    daysFromCivil y (m + 1) 1 = daysFromCivil y m (daysInMonth y m) + 1 :=
  Time.days_next_month y m hm1 hm
theorem days_next_year (y : Int) : daysFromCivil (y + 1) 1 1 = daysFromCivil y 12 31 + 1 :=
  Time.days_next_year y

/-- the n-th calendar day after 1970-01-01 -/
def nthDate : Nat → Int × Nat × Nat
  | 0 => (1970, 1, 1)
  | n + 1 => match nthDate n with
    | (y, m, d) => nextDate y m d

theorem nthDate_succ (n : Nat) : nthDate (n + 1) = nextDate (nthDate n).1 (nthDate n).2.1 (nthDate n).2.2 := rfl

/-- "days since 1970-01-01": stepping n calendar days from the epoch reaches the date with day number n -/
theorem days_since_epoch (n : Nat) :
    daysFromCivil (nthDate n).1 (nthDate n).2.1 (nthDate n).2.2 = (n : Int) ∧
    ValidMD (nthDate n).1 (nthDate n).2.1 (nthDate n).2.2 := by
  induction n with
  | zero => exact ⟨by decide, by decide, by decide, by decide, by decide⟩
  | succ n ih =>
    have := days_successor _ _ _ ih.2
    rw [nthDate_succ]
    refine ⟨?_, this.2⟩
    rw [this.1, ih.1]; omega

/-- 400-year periodicity of the calendar -/
theorem days_period (y : Int) (m d : Nat) : daysFromCivil (y + 400) m d = daysFromCivil y m d + 146097 :=
  Time.days_period y m d

example : nextDate 1900 2 28 = (1900, 3, 1) ∧ nextDate 2024 2 28 = (2024, 2, 29) ∧
    nextDate 2023 12 31 = (2024, 1, 1) := by decide +kernel
example : daysFromCivil 1900 3 1 = daysFromCivil 1900 2 28 + 1 := by decide +kernel
example : nthDate 59 = (1970, 3, 1) := by decide +kernel

/-! ### A3. day of the week (Monday = 0) -/

theorem weekday_spec (z : Int) : weekday z = ((z + 3) % 7).toNat := rfl
/-- 1970-01-01 was a Thursday -/
theorem weekday_epoch : weekday (daysFromCivil 1970 1 1) = 3 := Time.weekday_epoch
theorem weekday_lt (z : Int) : weekday z < 7 := Time.weekday_lt z
theorem weekday_week (z : Int) : weekday (z + 7) = weekday z := Time.weekday_week z
theorem weekday_succ (z : Int) : weekday (z + 1) = (weekday z + 1) % 7 := Time.weekday_succ z

example : weekday (daysFromCivil 2019 7 24) = 2 := by decide +kernel        -- a Wednesday (the crate's own test)
example : weekday (daysFromCivil 2024 2 29) = 3 := by decide +kernel        -- a Thursday
example : weekday (-1) = 2 := by decide +kernel                             -- 1969-12-31, a Wednesday

/-! ### A4. leap years, month lengths, validity -/

theorem leap_rule (y : Int) : isLeap y = true ↔ (y % 4 = 0 ∧ (y % 100 ≠ 0 ∨ y % 400 = 0)) := isLeap_iff y

theorem month_lengths (y : Int) :
    daysInMonth y 1 = 31 ∧ daysInMonth y 2 = (if isLeap y then 29 else 28) ∧ daysInMonth y 3 = 31 ∧
    daysInMonth y 4 = 30 ∧ daysInMonth y 5 = 31 ∧ daysInMonth y 6 = 30 ∧ daysInMonth y 7 = 31 ∧
    daysInMonth y 8 = 31 ∧ daysInMonth y 9 = 30 ∧ daysInMonth y 10 = 31 ∧ daysInMonth y 11 = 30 ∧
    daysInMonth y 12 = 31 ∧ ∀ m, (m = 0 ∨ 12 < m) → daysInMonth y m = 0 := by
  refine ⟨rfl, rfl, rfl, rfl, rfl, rfl, rfl, rfl, rfl, rfl, rfl, rfl, ?_⟩
  intro m hm
  unfold daysInMonth
  split <;> first | rfl | omega

theorem validDate_spec (y : Int) (m d : Nat) :
    validDate y m d = true ↔
      (minYear ≤ y ∧ y ≤ maxYear) ∧ 1 ≤ m ∧ m ≤ 12 ∧ 1 ≤ d ∧ d ≤ daysInMonth y m :=
  validDate_iff y m d

/-- dates that do not exist: month 13, day 0, 30 February -/
theorem validDate_rejects (y : Int) (d : Nat) :
    validDate y 13 d = false ∧ validDate y 0 d = false ∧ validDate y 2 30 = false ∧
    ∀ m, validDate y m 0 = false := by
  refine ⟨?_, ?_, ?_, ?_⟩
  · simp [validDate, daysInMonth]
  · simp [validDate]
  · have : daysInMonth y 2 ≤ 29 := by
      show (if isLeap y then 29 else 28) ≤ 29
      split <;> omega
    simp only [validDate, Bool.and_eq_false_iff, decide_eq_false_iff_not]; right; omega
  · intro m; simp [validDate]

example : isLeap 2024 = true ∧ isLeap 1900 = false ∧ isLeap 2000 = true ∧ isLeap 2023 = false := by decide +kernel

/-! ### A5. whole calendar months -/

/-- `addMonths t k = some t2`: month index (year·12 + month − 1) moves by exactly `k`, the day is clamped to the
    target month's length, the time of day is kept, and the target year is in chrono's range -/
theorem addMonths_spec {t t2 : DT} {k : Int} (h : addMonths t k = some t2) :
    t2.ms = t.ms ∧
    t2.year * 12 + ((t2.month : Int) - 1) = t.year * 12 + ((t.month : Int) - 1) + k ∧
    t2.day = min t.day (daysInMonth t2.year t2.month) ∧
    minYear ≤ t2.year ∧ t2.year ≤ maxYear :=
  addMonths_some h

/-- `none` exactly when the target year leaves chrono's range -/
theorem addMonths_none (t : DT) (k : Int) :
    addMonths t k = none ↔
      ¬ (minYear ≤ (t.year * 12 + ((t.month : Int) - 1) + k) / 12 ∧
         (t.year * 12 + ((t.month : Int) - 1) + k) / 12 ≤ maxYear) :=
  addMonths_none_iff t k

example : addMonths ⟨daysFromCivil 2024 1 31, 5⟩ 1 = some ⟨daysFromCivil 2024 2 29, 5⟩ := by decide +kernel
example : addMonths ⟨daysFromCivil 2023 12 1, 0⟩ (-1) = some ⟨daysFromCivil 2023 11 1, 0⟩ := by decide +kernel
example : addMonths ⟨daysFromCivil 2023 3 31, 0⟩ (-13) = some ⟨daysFromCivil 2022 2 28, 0⟩ := by decide +kernel

/-! ## B. Through numbers -/

/-- The rounding fact in the standard model of floating-point arithmetic (`fl` = rounding of an exact result
    with relative error ≤ 2⁻⁵³): for an integer millisecond count |T| ≤ 2^50, `y = fl (fl (T / D) · D)` is within
    1/2 of `T`, and `T` is the only integer within 1/2 of `y` — so rounding `y` to an integer gives `T`. -/
theorem decode_encode_real (fl : ℚ → ℚ) (hfl : ∀ q : ℚ, |fl q - q| ≤ (1/2^53) * |q|)
    (T : ℤ) (hT : |T| ≤ 2^50) :
    |fl (fl ((T : ℚ) / 86400000) * 86400000) - (T : ℚ)| < 1/2 ∧
    ∀ r : ℤ, |fl (fl ((T : ℚ) / 86400000) * 86400000) - (r : ℚ)| ≤ 1/2 → r = T :=
  Time.decode_encode_real fl hfl T hT

/-- the class of number facts has a model -/
theorem lawfulTimeNum_satisfiable : ∃ (inst : NumX ℚ), @LawfulTimeNum ℚ inst := ⟨Toy.numX, Toy.lawful⟩

section
variable {N : Type} [NumX N] [LawfulTimeNum N]

/-- the date-time of a date of years 1–9999 at a millisecond of the day is in the covered range -/
theorem enc_of_valid (y : Int) (m d ms : Nat) (hv : validDate y m d = true) (hy1 : 1 ≤ y) (hy2 : y ≤ 9999)
    (hms : ms < 86400000) : DT.Enc ⟨daysFromCivil y m d, ms⟩ :=
  enc_of_date y m d ms ((validDate_iff y m d).1 hv).2 hy1 hy2 hms

/-! ### B6. decode ∘ encode and the components -/

theorem decode_encode (y : Int) (m d ms : Nat) (hv : validDate y m d = true) (hy1 : 1 ≤ y) (hy2 : y ≤ 9999)
    (hms : ms < 86400000) :
    decode (encode ⟨daysFromCivil y m d, ms⟩ : Value N) = .ok ⟨daysFromCivil y m d, ms⟩ :=
  Time.decode_encode _ (enc_of_valid y m d ms hv hy1 hy2 hms)

/-- general form: every date-time with |total milliseconds| ≤ 2^48 -/
theorem decode_encode_enc (t : DT) (h : t.Enc) : decode (encode t : Value N) = .ok t := Time.decode_encode t h

omit [LawfulTimeNum N] in
/-- conversely, whatever `decode` accepts is a date-time with the decoded millisecond count -/
theorem decode_sound (x : N) (t : DT) (h : decode (.num x : Value N) = .ok t) :
    t.totalMs = NumX.toI64 (NumX.round (NumOps.mul x dayLen)) ∧ t.ms < 86400000 ∧
    minYear ≤ t.year ∧ t.year ≤ maxYear := by
  rw [decode_num] at h
  cases hm : ofMillis (NumX.toI64 (NumX.round (NumOps.mul x dayLen))) with
  | none => rw [hm] at h; cases h
  | some t0 =>
    rw [hm] at h
    cases h
    exact ofMillis_some hm

/-- hypotheses of the component theorems: a date of years 1–9999 and a time of day -/
structure Stamp (y : Int) (m d h mi s ml : Nat) : Prop where
  valid : validDate y m d = true
  y1 : 1 ≤ y
  y2 : y ≤ 9999
  hh : h < 24
  hmi : mi < 60
  hs : s < 60
  hml : ml < 1000

/-- the date-time number of a stamp -/
def stampDT (y : Int) (m d h mi s ml : Nat) : DT := ⟨daysFromCivil y m d, ((h * 60 + mi) * 60 + s) * 1000 + ml⟩

theorem stamp_enc {y : Int} {m d h mi s ml : Nat} (st : Stamp y m d h mi s ml) : (stampDT y m d h mi s ml).Enc :=
  enc_of_valid y m d _ st.valid st.y1 st.y2 (time_components h mi s ml st.hh st.hmi st.hs st.hml (daysFromCivil y m d)).2.2.2.2

theorem stamp_components {y : Int} {m d h mi s ml : Nat} (st : Stamp y m d h mi s ml) :
    (stampDT y m d h mi s ml).year = y ∧ (stampDT y m d h mi s ml).month = m ∧ (stampDT y m d h mi s ml).day = d ∧
    (stampDT y m d h mi s ml).hour = h ∧ (stampDT y m d h mi s ml).minute = mi ∧
    (stampDT y m d h mi s ml).second = s ∧ (stampDT y m d h mi s ml).milli = ml := by
  obtain ⟨e1, e2, e3⟩ := civil_components (stampDT y m d h mi s ml) (civil_roundtrip y m d st.valid)
  obtain ⟨e4, e5, e6, e7, _⟩ := time_components h mi s ml st.hh st.hmi st.hs st.hml (daysFromCivil y m d)
  exact ⟨e1, e2, e3, e4, e5, e6, e7⟩

variable {y : Int} {m d h mi s ml : Nat}

theorem year_spec (st : Stamp y m d h mi s ml) :
    year [(encode (stampDT y m d h mi s ml) : Value N)] = .ok (.num (NumX.ofInt y)) := by
  simp only [Time.year, component_encode _ _ (stamp_enc st), stamp_components st]
theorem month_spec (st : Stamp y m d h mi s ml) :
    month [(encode (stampDT y m d h mi s ml) : Value N)] = .ok (.num (NumX.ofNat m)) := by
  simp only [Time.month, component_encode _ _ (stamp_enc st), stamp_components st]
theorem day_spec (st : Stamp y m d h mi s ml) :
    day [(encode (stampDT y m d h mi s ml) : Value N)] = .ok (.num (NumX.ofNat d)) := by
  simp only [Time.day, component_encode _ _ (stamp_enc st), stamp_components st]
theorem hour_spec (st : Stamp y m d h mi s ml) :
    hour [(encode (stampDT y m d h mi s ml) : Value N)] = .ok (.num (NumX.ofNat h)) := by
  simp only [Time.hour, component_encode _ _ (stamp_enc st), stamp_components st]
theorem minute_spec (st : Stamp y m d h mi s ml) :
    minute [(encode (stampDT y m d h mi s ml) : Value N)] = .ok (.num (NumX.ofNat mi)) := by
  simp only [Time.minute, component_encode _ _ (stamp_enc st), stamp_components st]
theorem second_spec (st : Stamp y m d h mi s ml) :
    second [(encode (stampDT y m d h mi s ml) : Value N)] = .ok (.num (NumX.ofNat s)) := by
  simp only [Time.second, component_encode _ _ (stamp_enc st), stamp_components st]
theorem millisecond_spec (st : Stamp y m d h mi s ml) :
    millisecond [(encode (stampDT y m d h mi s ml) : Value N)] = .ok (.num (NumX.ofNat ml)) := by
  simp only [Time.millisecond, component_encode _ _ (stamp_enc st), stamp_components st]
/-- Monday = 0; the weekday of the day number (see A3 for its characterisation) -/
theorem dayOfWeek_spec (st : Stamp y m d h mi s ml) :
    dayOfWeek [(encode (stampDT y m d h mi s ml) : Value N)] =
      .ok (.num (NumX.ofNat (weekday (daysFromCivil y m d)))) :=
  component_encode _ _ (stamp_enc st)
theorem isLeapYear_spec (st : Stamp y m d h mi s ml) :
    isLeapYear [(encode (stampDT y m d h mi s ml) : Value N)] = .ok (.bool (isLeap y)) := by
  simp only [isLeapYear_encode _ (stamp_enc st), stamp_components st]

/-! ### B7. encode_date, encode_time -/

/-- `encode_date(y, m, d)` of an existing date is its day number with time of day 0 -/
theorem encodeDate_spec (y : Int) (m d : Nat) (hv : validDate y m d = true) :
    encodeDate [(.num (NumX.ofInt y) : Value N), .num (NumX.ofNat m), .num (NumX.ofNat d)] =
      .ok (encode ⟨daysFromCivil y m d, 0⟩) := by
  obtain ⟨⟨hy1, hy2⟩, _⟩ := (validDate_iff y m d).1 hv
  have hb := validDate_bounds hv
  simp only [minYear, maxYear] at hy1 hy2
  rw [encodeDate_ofInt y m d (by omega) (by omega) (by omega) (by omega), if_pos hv]

/-- a date that does not exist (month 13, 30 February, day 0, … — see `validDate_rejects`) is an error -/
theorem encodeDate_rejects (y : Int) (m d : Nat) (hy1 : -2147483648 ≤ y) (hy2 : y < 2147483648)
    (hm : m < 4294967296) (hd : d < 4294967296) (hv : validDate y m d = false) :
    encodeDate [(.num (NumX.ofInt y) : Value N), .num (NumX.ofNat m), .num (NumX.ofNat d)] =
      .error (custom "invalid date parameters") := by
  rw [encodeDate_ofInt y m d hy1 hy2 hm hd, hv]; rfl

/-- `encode_time(h, mi, s, ml)` is the millisecond of the day as a fraction of the day (day number 0) -/
theorem encodeTime_spec (h mi s ml : Nat) (hh : h < 24) (hmi : mi < 60) (hs : s < 60) (hml : ml < 1000) :
    encodeTime [(.num (NumX.ofNat h) : Value N), .num (NumX.ofNat mi), .num (NumX.ofNat s), .num (NumX.ofNat ml)] =
      .ok (encode ⟨0, ((h * 60 + mi) * 60 + s) * 1000 + ml⟩) := by
  have hv : validTime h mi s ml = true := by simp [validTime, hh, hmi, hs, hml]
  rw [encodeTime_ofNat h mi s ml (by omega) (by omega) (by omega) (by omega) _ rfl, if_pos hv]

/-- the millisecond defaults to 0 -/
theorem encodeTime_spec3 (h mi s : Nat) (hh : h < 24) (hmi : mi < 60) (hs : s < 60) :
    encodeTime [(.num (NumX.ofNat h) : Value N), .num (NumX.ofNat mi), .num (NumX.ofNat s)] =
      .ok (encode ⟨0, ((h * 60 + mi) * 60 + s) * 1000⟩) := by
  have hv : validTime h mi s 0 = true := by simp [validTime, hh, hmi, hs]
  rw [encodeTime_ofNat h mi s 0 (by omega) (by omega) (by omega) (by omega) [] (congrArg _ LawfulTimeNum.zero_eq), if_pos hv,
    Nat.add_zero]

/-- hour ≥ 24, minute ≥ 60 or second ≥ 60 is an error (whatever the millisecond) -/
theorem encodeTime_rejects (h mi s ml : Nat) (hh : h < 4294967296) (hmi : mi < 4294967296) (hs : s < 4294967296)
    (hml : ml < 4294967296) (hbad : 24 ≤ h ∨ 60 ≤ mi ∨ 60 ≤ s) :
    encodeTime [(.num (NumX.ofNat h) : Value N), .num (NumX.ofNat mi), .num (NumX.ofNat s), .num (NumX.ofNat ml)] =
      .error (custom "invalid time parameters") := by
  have hv : validTime h mi s ml = false := by
    simp only [validTime, Bool.and_eq_false_iff, decide_eq_false_iff_not]
    omega
  rw [encodeTime_ofNat h mi s ml hh hmi hs hml _ rfl, hv]; rfl

/-- a negative component is an error -/
theorem encodeTime_rejects_negative (h mi s ml : Int)
    (bh : -4294967296 ≤ h ∧ h ≤ 4294967296) (bmi : -4294967296 ≤ mi ∧ mi ≤ 4294967296)
    (bs : -4294967296 ≤ s ∧ s ≤ 4294967296) (bml : -4294967296 ≤ ml ∧ ml ≤ 4294967296)
    (hneg : h < 0 ∨ mi < 0 ∨ s < 0 ∨ ml < 0) :
    encodeTime [(.num (NumX.ofInt h) : Value N), .num (NumX.ofInt mi), .num (NumX.ofInt s), .num (NumX.ofInt ml)] =
      .error (custom "invalid time parameters") :=
  encodeTime_negative h mi s ml bh bmi bs bml hneg

/-! ### B8. default-format strings -/

omit [LawfulTimeNum N] in
/-- `string_to_date("YYYY-MM-DD")` of an existing date of years 0–9999 is its day number -/
theorem stringToDate_spec (y : Int) (m d : Nat) (h0 : 0 ≤ y) (h1 : y ≤ 9999) (hv : validDate y m d = true) :
    stringToDate [(.str (dateText y m d) : Value N)] = some (.ok (encode ⟨daysFromCivil y m d, 0⟩)) := by
  have hb := validDate_bounds hv
  rw [stringToDate_dateText y m d h0 h1 (by omega) (by omega), if_pos hv]

omit [LawfulTimeNum N] in
/-- the canonical text of a date that does not exist is rejected -/
theorem stringToDate_rejects (y : Int) (m d : Nat) (h0 : 0 ≤ y) (h1 : y ≤ 9999) (hm : m < 100) (hd : d < 100)
    (hv : validDate y m d = false) :
    stringToDate [(.str (dateText y m d) : Value N)] = some (.error (custom "input is out of range")) := by
  rw [stringToDate_dateText y m d h0 h1 hm hd, hv]; rfl

omit [LawfulTimeNum N] in
theorem stringToTime_spec (h mi s : Nat) (hh : h < 24) (hmi : mi < 60) (hs : s < 60) :
    stringToTime [(.str (timeText h mi s) : Value N)] = some (.ok (encode ⟨0, ((h * 60 + mi) * 60 + s) * 1000⟩)) := by
  rw [stringToTime_timeText h mi s (by omega) (by omega) (by omega), if_pos ⟨hh, hmi, hs⟩]

omit [LawfulTimeNum N] in
/-- hour ≥ 24, minute ≥ 60 or second ≥ 60 (this includes chrono's leap second `:60`) is rejected -/
theorem stringToTime_rejects (h mi s : Nat) (hh : h < 100) (hmi : mi < 100) (hs : s < 100)
    (hbad : 24 ≤ h ∨ 60 ≤ mi ∨ 60 ≤ s) :
    stringToTime [(.str (timeText h mi s) : Value N)] = some (.error (custom "input is out of range")) := by
  rw [stringToTime_timeText h mi s hh hmi hs, if_neg (by omega)]

omit [LawfulTimeNum N] in
theorem stringToDatetime_spec (y : Int) (m d h mi s : Nat) (h0 : 0 ≤ y) (h1 : y ≤ 9999)
    (hv : validDate y m d = true) (hh : h < 24) (hmi : mi < 60) (hs : s < 60) :
    stringToDatetime [(.str (datetimeText y m d h mi s) : Value N)] =
      some (.ok (encode ⟨daysFromCivil y m d, ((h * 60 + mi) * 60 + s) * 1000⟩)) := by
  rw [stringToDatetime_datetimeText y m d h mi s h0 h1 hv hh hmi hs]

/-- `date_to_string` with the default formats prints exactly the canonical texts of the encoded components -/
theorem dateToString_spec (st : Stamp y m d h mi s ml) :
    dateToString [.str fmtDate, (encode (stampDT y m d h mi s ml) : Value N)] = some (.ok (.str (dateText y m d))) ∧
    dateToString [.str fmtTime, (encode (stampDT y m d h mi s ml) : Value N)] = some (.ok (.str (timeText h mi s))) ∧
    dateToString [.str fmtDatetime, (encode (stampDT y m d h mi s ml) : Value N)] =
      some (.ok (.str (datetimeText y m d h mi s))) := by
  simp only [dateToString_encode _ _ (stamp_enc st), strftime_date, strftime_time, strftime_datetime,
    stamp_components st]
  exact ⟨rfl, rfl, rfl⟩

/-- string_to_datetime ∘ date_to_string = id on whole-second date-times (default formats) -/
theorem string_roundtrip (st : Stamp y m d h mi s 0) (txt : Str)
    (hp : dateToString [.str fmtDatetime, (encode (stampDT y m d h mi s 0) : Value N)] = some (.ok (.str txt))) :
    stringToDatetime [(.str txt : Value N)] = some (.ok (encode (stampDT y m d h mi s 0))) := by
  rw [(dateToString_spec st).2.2] at hp
  cases hp
  rw [stringToDatetime_spec y m d h mi s (by have := st.y1; omega) st.y2 st.valid st.hh st.hmi st.hs]
  simp only [stampDT, Nat.add_zero]

/-! ### B9. inc_month -/

/-- `inc_month(x, k)` moves by `k` whole calendar months (`addMonths`, characterised by `addMonths_spec`:
    day clamped to the target month, same time of day); the error names the direction -/
theorem incMonth_spec (t : DT) (ht : t.Enc) (k : Int) (hk1 : -2147483648 ≤ k) (hk2 : k < 2147483648) :
    incMonth [(encode t : Value N), .num (NumX.ofInt k)] =
      match addMonths t k with
      | some t2 => .ok (encode t2)
      | none => .error (custom (if 0 < k then "inc_month increment overflow" else "inc_month decrement underflow")) :=
  incMonth_encode t ht k hk1 hk2

/-- on dates of years 1–9999 and increments of at most 3 000 000 months (250 000 years: the target stays inside
    chrono's range) the result exists and has the shifted month, clamped day, same time -/
theorem incMonth_stamp (st : Stamp y m d h mi s ml) (k : Int) (hk1 : -3000000 ≤ k) (hk2 : k ≤ 3000000) :
    ∃ t2 : DT, incMonth [(encode (stampDT y m d h mi s ml) : Value N), .num (NumX.ofInt k)] = .ok (encode t2) ∧
      t2.ms = ((h * 60 + mi) * 60 + s) * 1000 + ml ∧
      t2.year * 12 + ((t2.month : Int) - 1) = y * 12 + ((m : Int) - 1) + k ∧
      t2.day = min d (daysInMonth t2.year t2.month) := by
  obtain ⟨e1, e2, e3, _⟩ := stamp_components st
  have hm := ((validDate_iff y m d).1 st.valid).2
  cases ha : addMonths (stampDT y m d h mi s ml) k with
  | none =>
    exfalso
    rw [addMonths_none_iff, e1, e2] at ha
    apply ha
    have := st.y1; have := st.y2; have := hm.1; have := hm.2.1
    simp only [minYear, maxYear]
    omega
  | some t2 =>
    refine ⟨t2, ?_, ?_⟩
    · rw [incMonth_spec _ (stamp_enc st) k (by omega) (by omega), ha]
    · obtain ⟨a1, a2, a3, _⟩ := addMonths_some ha
      rw [e1, e2] at a2; rw [e3] at a3
      exact ⟨a1, a2, a3⟩

/-- the increment defaults to one month -/
theorem incMonth_default (v : Value N) : incMonth [v] = incMonth [v, .num (NumX.ofInt 1)] :=
  Time.incMonth_default v

/-! ### B10. date(x) + time(x) = x -/

omit [LawfulTimeNum N] in
/-- the registry maps `date` to `trunc` and `time` to `frac` -/
theorem registry_date_time (cm : CaseMap) (off : Nat) :
    Registry.builtin (N := N) cm off "date" = some (Registry.tot (num1 NumOps.trunc)) ∧
    Registry.builtin (N := N) cm off "time" = some (Registry.tot (num1 NumX.fract)) := ⟨rfl, rfl⟩

/-- for every date-time number `x` of the covered range, `date(x) + time(x)` is `x` itself.
    (`trunc x + fract x = x` is the class field `trunc_add_fract`, a hypothesis about the numbers.) -/
theorem date_plus_time (t : DT) (ht : t.Enc) (a b : Value N)
    (ha : num1 NumOps.trunc [(encode t : Value N)] = .ok a) (hb : num1 NumX.fract [(encode t : Value N)] = .ok b) :
    Value.add a b = .ok (encode t) :=
  Time.date_plus_time t ht a b ha hb

end

/-! ### non-vacuity of part B: the hypotheses are satisfiable and the theorems apply to concrete stamps -/

example : Stamp 2024 2 29 23 59 59 999 := ⟨by decide, by decide, by decide, by decide, by decide, by decide, by decide⟩
example : Stamp 1 1 1 0 0 0 0 := ⟨by decide, by decide, by decide, by decide, by decide, by decide, by decide⟩
example : Stamp 9999 12 31 23 59 59 999 :=
  ⟨by decide, by decide, by decide, by decide, by decide, by decide, by decide⟩
example : (stampDT 9999 12 31 23 59 59 999).totalMs = 253402300799999 := by decide +kernel
example : (stampDT 2019 7 24 18 0 0 0).totalMs = 18101 * 86400000 + 64800000 := by decide +kernel   -- 18101.75 days

/-- the leap-day instance of `year_spec` in the rational model -/
example : @year ℚ Toy.numX [@encode ℚ Toy.numX (stampDT 2024 2 29 23 59 59 999)] =
    .ok (.num (@NumX.ofInt ℚ Toy.numX 2024)) :=
  @year_spec ℚ Toy.numX Toy.lawful _ _ _ _ _ _ _
    ⟨by decide, by decide, by decide, by decide, by decide, by decide, by decide⟩

example : dateText 2024 2 29 = ['2', '0', '2', '4', '-', '0', '2', '-', '2', '9'] := by decide +kernel
example : timeText 7 5 9 = ['0', '7', ':', '0', '5', ':', '0', '9'] := by decide +kernel
example : parseDate ['2', '0', '2', '3', '-', '0', '2', '-', '3', '0'] = some none := by decide +kernel   -- 30 February
example : parseDate ['2', '0', '2', '3', '-', '1', '3', '-', '0', '1'] = some none := by decide +kernel   -- month 13
example : parseTime ['2', '4', ':', '0', '0', ':', '0', '0'] = some none := by decide +kernel             -- hour 24

end Slac.C16
