/-
  SlacProps.C12Source — the JSON model (SlacModel/Json.lean) about which `json_roundtrip` is stated IS what
  tools/rs2lean_serde.py derives from the current text of src/ast.rs, src/operator.rs (the serde attributes and the
  enum definitions) and src/value.rs (`impl Serialize for Value`, the `ValueVisitor`), SlacModel/Generated/SrcSerde.lean:
  the serialising half (operator names and their list, `ofValue`, `ofExpr`) and the value visitor (`toValue`).
-/
import SlacModel.Json
import SlacModel.Generated.SrcSerde
import SlacProps.C12
set_option autoImplicit false
namespace Slac.C12Source
open Slac Slac.Generated
variable {N : Type}

theorem opName_is_source (op : Op) : Json.opName op = SrcSerde.opName op := by cases op <;> rfl
theorem allOps_is_source : Json.allOps = SrcSerde.allOps := rfl

theorem ofValue_is_source (jn : JsonNum N) (v : Value N) : Json.ofValue jn v = SrcSerde.ofValue jn v := by
  refine Value.rec (motive_1 := fun v => Json.ofValue jn v = SrcSerde.ofValue jn v)
    (motive_2 := fun vs => Json.ofValues jn vs = SrcSerde.ofValues jn vs) ?_ ?_ ?_ ?_ ?_ ?_ v
  · intro b; simp [Json.ofValue, SrcSerde.ofValue]
  · intro s; simp [Json.ofValue, SrcSerde.ofValue]
  · intro x; simp [Json.ofValue, SrcSerde.ofValue]
  · intro vs ih; simp [Json.ofValue, SrcSerde.ofValue, ih]
  · simp [Json.ofValues, SrcSerde.ofValues]
  · intro v vs ih1 ih2; simp [Json.ofValues, SrcSerde.ofValues, ih1, ih2]

theorem ofExpr_is_source (jn : JsonNum N) (e : Expr N) : Json.ofExpr jn e = SrcSerde.ofExpr jn e := by
  refine Expr.rec (motive_1 := fun e => Json.ofExpr jn e = SrcSerde.ofExpr jn e)
    (motive_2 := fun es => Json.ofExprs jn es = SrcSerde.ofExprs jn es) ?_ ?_ ?_ ?_ ?_ ?_ ?_ ?_ ?_ e
  all_goals intros
  all_goals simp_all [Json.ofExpr, SrcSerde.ofExpr, Json.ofExprs, SrcSerde.ofExprs, opName_is_source, ofValue_is_source]

theorem toValue_is_source (jn : JsonNum N) (j : Json N) : Json.toValue jn j = SrcSerde.toValue jn j := by
  refine Json.rec (motive_1 := fun j => Json.toValue jn j = SrcSerde.toValue jn j)
    (motive_2 := fun js => Json.toValues jn js = SrcSerde.toValues jn js) (motive_3 := fun _ => True) (motive_4 := fun _ => True)
    rfl (fun _ => rfl) (fun _ => rfl) (fun _ => rfl) (fun _ => rfl) ?_ (fun _ _ => rfl) rfl ?_ trivial (fun _ _ _ _ => trivial)
    (fun _ _ _ => trivial) j
  · intro xs ih; rw [Json.toValue, SrcSerde.toValue, ih]
  · intro x xs ih1 ih2; rw [Json.toValues, SrcSerde.toValues, ih1, ih2]; cases SrcSerde.toValue jn x <;> rfl

/-- the round-trip theorem restated about the serialiser derived from the source: reading back what the SOURCE writes yields the tree -/
theorem json_roundtrip_source (jn : JsonNum N) (e : Expr N) (h : C12.FiniteLits jn e) : Json.toExpr jn (SrcSerde.ofExpr jn e) = some e := by
  rw [← ofExpr_is_source]; exact C12.json_roundtrip jn e h

end Slac.C12Source
