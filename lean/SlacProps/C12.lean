/-
  C12 — JSON serialization round-trips every expression tree exactly.
  Model: SlacModel.Json (`ofExpr` = Serialize, `toExpr` = Deserialize on serde_json's data model).
  Tie: `json` stream (canonical JSON value compared; value- and text-route round trips on the real crate).
  `=` on trees is structural, numbers by identity of the number value (bit pattern for the Float instance).
-/
import SlacModel.Json
set_option autoImplicit false
namespace Slac.C12
open Slac.Json
variable {N : Type}

mutual
/-- every number inside the value is finite -/
def FinV (jn : JsonNum N) : Value N → Prop
  | .num x => jn.isFinite x = true
  | .arr vs => FinVs jn vs
  | _ => True
def FinVs (jn : JsonNum N) : List (Value N) → Prop
  | [] => True
  | v :: vs => FinV jn v ∧ FinVs jn vs
end

mutual
/-- every number literal of the tree (at any depth, inside array literals too) is finite -/
def FiniteLits (jn : JsonNum N) : Expr N → Prop
  | .unary r _ => FiniteLits jn r
  | .binary l r _ => FiniteLits jn l ∧ FiniteLits jn r
  | .ternary l m r _ => FiniteLits jn l ∧ FiniteLits jn m ∧ FiniteLits jn r
  | .array es => FiniteLitsL jn es
  | .lit v => FinV jn v
  | .var _ => True
  | .call _ ps => FiniteLitsL jn ps
def FiniteLitsL (jn : JsonNum N) : List (Expr N) → Prop
  | [] => True
  | e :: es => FiniteLits jn e ∧ FiniteLitsL jn es
end

theorem op_roundtrip (op : Op) : opOfName (opName op) = some op := by
  cases op <;> decide

theorem value_roundtrip (jn : JsonNum N) (v : Value N) : FinV jn v → toValue jn (ofValue jn v) = some v := by
  refine Value.rec (motive_1 := fun v => FinV jn v → toValue jn (ofValue jn v) = some v)
    (motive_2 := fun vs => FinVs jn vs → toValues jn (ofValues jn vs) = some vs) ?_ ?_ ?_ ?_ ?_ ?_ v
  · intro b _; simp [ofValue, toValue]
  · intro s _; simp [ofValue, toValue]
  · intro x h; simp only [FinV] at h; simp [ofValue, toValue, h]
  · intro vs ih h; simp only [FinV] at h; simp [ofValue, toValue, ih h]
  · intro _; simp [ofValues, toValues]
  · intro v vs ih1 ih2 h
    simp only [FinVs] at h
    simp [ofValues, toValues, ih1 h.1, ih2 h.2]

/-- the reading of a serialised tree is the tree -/
theorem read_ofExpr (jn : JsonNum N) (e : Expr N) : FiniteLits jn e → (read jn (ofExpr jn e)).expr = some e := by
  refine Expr.rec (motive_1 := fun e => FiniteLits jn e → (read jn (ofExpr jn e)).expr = some e)
    (motive_2 := fun es => FiniteLitsL jn es → readList jn (ofExprs jn es) = some es) ?_ ?_ ?_ ?_ ?_ ?_ ?_ ?_ ?_ e
  all_goals simp only [FiniteLits, FiniteLitsL, ofExpr, ofExprs, Json.read, readList, readFields]
  · intro r op ih h; simp [decodeObj, field, fieldRd, subExpr, opField, asStr, ih h, op_roundtrip]
  · intro l r op ihl ihr h; simp [decodeObj, field, fieldRd, subExpr, opField, asStr, ihl h.1, ihr h.2, op_roundtrip]
  · intro l m r op ihl ihm ihr h
    simp [decodeObj, field, fieldRd, subExpr, opField, asStr, ihl h.1, ihm h.2.1, ihr h.2.2, op_roundtrip]
  · intro es ih h; simp [decodeObj, field, fieldRd, subExprs, asStr, ih h]
  · intro v h; simp [decodeObj, field, asStr, value_roundtrip jn v h]
  · intro n _; simp [decodeObj, field, asStr]
  · intro n ps ih h; simp [decodeObj, field, fieldRd, subExprs, asStr, ih h]
  · intro _; trivial
  · intro e es ih1 ih2 h; simp [ih1 h.1, ih2 h.2]

/-- Main theorem: deserialising the serialisation of a tree yields the identical tree — same shape, operators,
    names and literal values — for every tree whose number literals are finite. -/
theorem json_roundtrip (jn : JsonNum N) (e : Expr N) (h : FiniteLits jn e) : toExpr jn (ofExpr jn e) = some e :=
  read_ofExpr jn e h

/-- Through JSON text: relative to the text layer being a faithful printer/parser of the data model. -/
theorem json_roundtrip_text {Text : Type} (jn : JsonNum N) (print : Json N → Text) (parse : Text → Option (Json N))
    (hp : ∀ j, parse (print j) = some j) (e : Expr N) (h : FiniteLits jn e) :
    (parse (print (ofExpr jn e))).bind (toExpr jn) = some e := by
  rw [hp]; exact json_roundtrip jn e h

/-- Consequently every function of the tree (validation, optimisation, execution) behaves identically on the
    reloaded tree. -/
theorem reloaded_behaves_alike {α : Type} (jn : JsonNum N) (F : Expr N → α) (e e' : Expr N) (h : FiniteLits jn e)
    (hl : toExpr jn (ofExpr jn e) = some e') : F e' = F e := by
  rw [json_roundtrip jn e h] at hl; cases hl; rfl

/-- The crate does NOT round-trip a non-finite literal: it serialises to `null`, which the value visitor
    rejects.  (Known finding D9; `1/0` folded by optimize, or a 310-digit literal, produce such literals.) -/
theorem json_nonfinite_counterexample (jn : JsonNum N) (x : N) (hx : jn.isFinite x = false) :
    toExpr jn (ofExpr jn (.lit (.num x))) = none := by
  simp [toExpr, ofExpr, Json.read, decodeObj, field, asStr, ofValue, hx, toValue]

/-- the round-trip theorem is exact: a tree is reproduced iff its literals are finite — single-literal case -/
theorem json_roundtrip_lit_iff (jn : JsonNum N) (x : N) :
    toExpr jn (ofExpr jn (.lit (.num x))) = some (.lit (.num x)) ↔ jn.isFinite x = true := by
  constructor
  · intro h
    cases hx : jn.isFinite x with
    | true => rfl
    | false => rw [json_nonfinite_counterexample jn x hx] at h; cases h
  · intro h; exact json_roundtrip jn _ (by simp [FiniteLits, FinV, h])

/-- Non-vacuity: a concrete tree with a conditional, a call, a nested array literal and several operators
    satisfies the hypothesis and round-trips. -/
example : toExpr (N := Nat) ⟨fun _ => true, Int.toNat⟩
    (ofExpr ⟨fun _ => true, Int.toNat⟩
      (.ternary (.binary (.var ['a']) (.lit (.num 3)) .lessEqual) (.call ['f'] [.lit (.arr [.str ['x'], .arr []]), .unary (.var ['b']) .not])
        (.array []) .ternaryCondition))
    = some (.ternary (.binary (.var ['a']) (.lit (.num 3)) .lessEqual) (.call ['f'] [.lit (.arr [.str ['x'], .arr []]), .unary (.var ['b']) .not])
        (.array []) .ternaryCondition) :=
  json_roundtrip _ _ (by simp [FiniteLits, FiniteLitsL, FinV, FinVs])

end Slac.C12
