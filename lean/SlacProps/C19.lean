/-
  C19 — StaticEnvironment is a case-insensitive map.
  Model: SlacModel.Env (`StaticEnv`: two association lists keyed by `fold name`; src/environment.rs).
  Spec:  `MapSpec` below — two total maps from folded names to the most recently written entry.
  Every theorem except `ascii_fold` holds for EVERY key-folding function `fold : Str → Str`
  (Rust: `str::to_lowercase`), which is how the Unicode tables stay out of the proofs.
-/
import SlacModel.Unicode
import SlacProofs.EnvLemmas
import SlacProofs.EnvCaseLemmas
set_option autoImplicit false
set_option linter.unusedSectionVars false
namespace Slac.C19
variable {N : Type}

inductive EnvOp (N : Type) where
  | addVar (n : Str) (v : Value N) | removeVar (n : Str) | clearVars
  | addFn (f : Fn N) | addFns (fs : List (Fn N)) | removeFn (n : Str)
  | getVar (n : Str) | varExists (n : Str) | call (n : Str) (args : List (Value N))
  | fnExists (n : Str) (k : Nat) | listFns

inductive Obs (N : Type) where
  | done | var (o : Option (Value N)) | fn (o : Option (Fn N)) | bool (b : Bool)
  | result (r : Except NativeError (Value N)) | fnRes (r : FnRes) | fns (l : List (Fn N))

def step (fold : Str → Str) (s : StaticEnv N) : EnvOp N → StaticEnv N × Obs N
  | .addVar n v => (s.addVariable fold n v, .done)
  | .removeVar n => ((s.removeVariable fold n).1, .var (s.removeVariable fold n).2)
  | .clearVars => (s.clearVariables, .done)
  | .addFn f => (s.addFunction fold f, .done)
  | .addFns fs => (s.addFunctions fold fs, .done)
  | .removeFn n => ((s.removeFunction fold n).1, .fn (s.removeFunction fold n).2)
  | .getVar n => (s, .var (s.getVariable fold n))
  | .varExists n => (s, .bool (s.variableExists fold n))
  | .call n args => (s, .result (s.call fold n args))
  | .fnExists n k => (s, .fnRes (s.functionExists fold n k))
  | .listFns => (s, .fns s.listFunctions)

/-- run a history: final state and the observation of every operation -/
def run (fold : Str → Str) : StaticEnv N → List (EnvOp N) → StaticEnv N × List (Obs N)
  | s, [] => (s, [])
  | s, op :: ops => ((run fold (step fold s op).1 ops).1, (step fold s op).2 :: (run fold (step fold s op).1 ops).2)

/-! ### The specification: a map from folded names to the most recent entry -/

structure MapSpec (N : Type) where
  vars : Str → Option (Value N)
  fns : Str → Option (Fn N)

def upd {β : Type} (m : Str → Option β) (k : Str) (b : Option β) : Str → Option β :=
  fun k' => if k' = k then b else m k'

namespace MapSpec
def empty : MapSpec N := ⟨fun _ => none, fun _ => none⟩
def addFn (fold : Str → Str) (a : MapSpec N) (f : Fn N) : MapSpec N := { a with fns := upd a.fns (fold f.name) (some f) }
end MapSpec

/-- observations of the specification: as `Obs`, except that the function listing is the map itself
    (a `HashMap` listing has no order; see `Lists`) -/
inductive SObs (N : Type) where
  | done | var (o : Option (Value N)) | fn (o : Option (Fn N)) | bool (b : Bool)
  | result (r : Except NativeError (Value N)) | fnRes (r : FnRes) | fns (m : Str → Option (Fn N))

def sstep (fold : Str → Str) (a : MapSpec N) : EnvOp N → MapSpec N × SObs N
  | .addVar n v => ({ a with vars := upd a.vars (fold n) (some v) }, .done)
  | .removeVar n => ({ a with vars := upd a.vars (fold n) none }, .var (a.vars (fold n)))
  | .clearVars => ({ a with vars := fun _ => none }, .done)
  | .addFn f => (a.addFn fold f, .done)
  | .addFns fs => (fs.foldl (MapSpec.addFn fold) a, .done)
  | .removeFn n => ({ a with fns := upd a.fns (fold n) none }, .fn (a.fns (fold n)))
  | .getVar n => (a, .var (a.vars (fold n)))
  | .varExists n => (a, .bool (a.vars (fold n)).isSome)
  | .call n args => (a, .result (match a.fns (fold n) with
      | some f => f.run args
      | none => .error (.functionNotFound n)))
  | .fnExists n k => (a, .fnRes (match a.fns (fold n) with
      | some f => f.accepts k
      | none => .notFound))
  | .listFns => (a, .fns a.fns)

def srun (fold : Str → Str) : MapSpec N → List (EnvOp N) → MapSpec N × List (SObs N)
  | a, [] => (a, [])
  | a, op :: ops => ((srun fold (sstep fold a op).1 ops).1, (sstep fold a op).2 :: (srun fold (sstep fold a op).1 ops).2)

/-- a list `l` is a listing of the map `m`: it contains exactly the entries of the map, and no two of its
    elements have the same folded name.  (Together with "every entry sits under its own folded name" this
    fixes `l` as a multiset: see `lists_perm`.) -/
structure Lists (fold : Str → Str) (l : List (Fn N)) (m : Str → Option (Fn N)) : Prop where
  mem : ∀ f, f ∈ l ↔ ∃ k, m k = some f
  nodup : (l.map (fun f => fold f.name)).Nodup

/-- a model observation agrees with a spec observation: equal, the listing up to order -/
inductive Agree (fold : Str → Str) : Obs N → SObs N → Prop
  | done : Agree fold .done .done
  | var (o : Option (Value N)) : Agree fold (.var o) (.var o)
  | fn (o : Option (Fn N)) : Agree fold (.fn o) (.fn o)
  | bool (b : Bool) : Agree fold (.bool b) (.bool b)
  | result (r : Except NativeError (Value N)) : Agree fold (.result r) (.result r)
  | fnRes (r : FnRes) : Agree fold (.fnRes r) (.fnRes r)
  | fns {l : List (Fn N)} {m : Str → Option (Fn N)} : Lists fold l m → Agree fold (.fns l) (.fns m)

/-- abstraction relation: both tables answer every key alike; the function table is well formed -/
structure Abs (fold : Str → Str) (s : StaticEnv N) (a : MapSpec N) : Prop where
  vars : ∀ k, alGet k s.vars = a.vars k
  fns : ∀ k, alGet k s.fns = a.fns k
  wf : FnsWF fold s

theorem abs_empty (fold : Str → Str) : Abs fold (StaticEnv.empty : StaticEnv N) MapSpec.empty :=
  ⟨fun _ => rfl, fun _ => rfl, StaticEnv.wf_empty fold⟩

theorem abs_addFunction {fold : Str → Str} {s : StaticEnv N} {a : MapSpec N} (h : Abs fold s a) (f : Fn N) :
    Abs fold (s.addFunction fold f) (a.addFn fold f) :=
  ⟨h.vars, fun k => by simp only [StaticEnv.addFunction, MapSpec.addFn, upd, alGet_ins, h.fns],
   StaticEnv.wf_addFunction h.wf f⟩

theorem abs_addFunctions {fold : Str → Str} (fs : List (Fn N)) : ∀ {s : StaticEnv N} {a : MapSpec N},
    Abs fold s a → Abs fold (s.addFunctions fold fs) (fs.foldl (MapSpec.addFn fold) a) := by
  induction fs with
  | nil => intro s a h; exact h
  | cons f fs ih => intro s a h; exact ih (abs_addFunction h f)

theorem abs_lists {fold : Str → Str} {s : StaticEnv N} {a : MapSpec N} (h : Abs fold s a) :
    Lists fold s.listFunctions a.fns :=
  ⟨fun f => by rw [StaticEnv.mem_listFunctions h.wf]; simp only [h.fns], StaticEnv.listFunctions_nodup h.wf⟩

/-- One step: the model's answer agrees with the map's, and the abstraction is preserved. -/
theorem step_refines (fold : Str → Str) (s : StaticEnv N) (a : MapSpec N) (h : Abs fold s a) (op : EnvOp N) :
    Agree fold (step fold s op).2 (sstep fold a op).2 ∧ Abs fold (step fold s op).1 (sstep fold a op).1 := by
  cases op with
  | addVar n v =>
    exact ⟨.done, fun k => by simp only [step, sstep, StaticEnv.addVariable, upd, alGet_ins, h.vars], h.fns,
      ⟨h.wf.nodup, h.wf.key⟩⟩
  | removeVar n =>
    refine ⟨?_, fun k => by simp only [step, sstep, StaticEnv.removeVariable, upd, alGet_del, h.vars], h.fns,
      ⟨h.wf.nodup, h.wf.key⟩⟩
    simp only [step, sstep, StaticEnv.removeVariable, h.vars]; exact .var _
  | clearVars => exact ⟨.done, fun k => rfl, h.fns, ⟨h.wf.nodup, h.wf.key⟩⟩
  | addFn f => exact ⟨.done, abs_addFunction h f⟩
  | addFns fs => exact ⟨.done, abs_addFunctions fs h⟩
  | removeFn n =>
    refine ⟨?_, h.vars, fun k => by simp only [step, sstep, StaticEnv.removeFunction, upd, alGet_del, h.fns],
      StaticEnv.wf_removeFunction h.wf n⟩
    simp only [step, sstep, StaticEnv.removeFunction, h.fns]; exact .fn _
  | getVar n => simp only [step, sstep, StaticEnv.getVariable, h.vars]; exact ⟨.var _, h⟩
  | varExists n => simp only [step, sstep, StaticEnv.variableExists, h.vars]; exact ⟨.bool _, h⟩
  | call n args => simp only [step, sstep, StaticEnv.call, h.fns]; exact ⟨.result _, h⟩
  | fnExists n k => simp only [step, sstep, StaticEnv.functionExists, h.fns]; exact ⟨.fnRes _, h⟩
  | listFns => exact ⟨.fns (abs_lists h), h⟩

theorem run_refines (fold : Str → Str) (ops : List (EnvOp N)) : ∀ (s : StaticEnv N) (a : MapSpec N), Abs fold s a →
    AllRel (Agree fold) (run fold s ops).2 (srun fold a ops).2 ∧ Abs fold (run fold s ops).1 (srun fold a ops).1 := by
  induction ops with
  | nil => intro s a h; exact ⟨.nil, h⟩
  | cons op ops ih =>
    intro s a h
    obtain ⟨h1, h2⟩ := step_refines fold s a h op
    obtain ⟨g1, g2⟩ := ih _ _ h2
    exact ⟨.cons h1 g1, g2⟩

/-- Main theorem: after ANY history of operations, starting from the empty environment, every answer of the
    model is the answer of the map on folded names (listings up to order), for every folding function —
    and the final states are still related, so this continues to hold for whatever comes next. -/
theorem env_refines (fold : Str → Str) (ops : List (EnvOp N)) :
    AllRel (Agree fold) (run fold StaticEnv.empty ops).2 (srun fold MapSpec.empty ops).2 ∧
    Abs fold (run fold StaticEnv.empty ops).1 (srun fold MapSpec.empty ops).1 :=
  run_refines fold ops _ _ (abs_empty fold)

/-- In a reachable map every entry sits under its own folded name … -/
theorem spec_key_is_folded_name {fold : Str → Str} {s : StaticEnv N} {a : MapSpec N} (h : Abs fold s a)
    {k : Str} {f : Fn N} (hk : a.fns k = some f) : k = fold f.name := by
  rw [← h.fns] at hk
  exact h.wf.key (k, f) ((alGet_eq_some_iff h.wf.nodup).1 hk)

/-- … hence `Lists` determines the listing as a multiset: any two listings of the same map are permutations of
    each other. -/
theorem lists_perm {fold : Str → Str} {l l' : List (Fn N)} {m : Str → Option (Fn N)}
    (h : Lists fold l m) (h' : Lists fold l' m) : l.Perm l' := by
  have nd : ∀ {l : List (Fn N)}, (l.map (fun f => fold f.name)).Nodup → l.Nodup := fun hn =>
    List.Pairwise.of_map (fun f => fold f.name) (fun a b hab e => hab (congrArg (fun f => fold f.name) e)) hn
  exact (List.perm_ext_iff_of_nodup (nd h.nodup) (nd h'.nodup)).2 (fun f => (h.mem f).trans (h'.mem f).symm)

/-- the number of listed functions is the number of distinct folded names registered -/
theorem listFunctions_length (s : StaticEnv N) :
    s.listFunctions.length = (keys s.fns).length := by
  simp [StaticEnv.listFunctions, keys]

/-! ### Spelling is irrelevant -/

/-- two function objects that differ at most in the spelling of their name -/
structure NameVariant (fold : Str → Str) (f f' : Fn N) : Prop where
  name : fold f.name = fold f'.name
  arity : f.arity = f'.arity
  pure : f.pure = f'.pure
  run : f.run = f'.run
  tag : f.tag = f'.tag

theorem NameVariant.refl (fold : Str → Str) (f : Fn N) : NameVariant fold f f := ⟨rfl, rfl, rfl, rfl, rfl⟩

theorem NameVariant.accepts {fold : Str → Str} {f f' : Fn N} (h : NameVariant fold f f') (k : Nat) :
    f.accepts k = f'.accepts k := by
  simp only [Fn.accepts, h.arity, h.pure]

/-- the same operation with every name spelled differently (fold-equal) -/
inductive OpVariant (fold : Str → Str) : EnvOp N → EnvOp N → Prop
  | addVar {n n' : Str} (v : Value N) : fold n = fold n' → OpVariant fold (.addVar n v) (.addVar n' v)
  | removeVar {n n' : Str} : fold n = fold n' → OpVariant fold (.removeVar n) (.removeVar n')
  | clearVars : OpVariant fold .clearVars .clearVars
  | addFn {f f' : Fn N} : NameVariant fold f f' → OpVariant fold (.addFn f) (.addFn f')
  | addFns {fs fs' : List (Fn N)} : AllRel (NameVariant fold) fs fs' → OpVariant fold (.addFns fs) (.addFns fs')
  | removeFn {n n' : Str} : fold n = fold n' → OpVariant fold (.removeFn n) (.removeFn n')
  | getVar {n n' : Str} : fold n = fold n' → OpVariant fold (.getVar n) (.getVar n')
  | varExists {n n' : Str} : fold n = fold n' → OpVariant fold (.varExists n) (.varExists n')
  | call {n n' : Str} (args : List (Value N)) : fold n = fold n' → OpVariant fold (.call n args) (.call n' args)
  | fnExists {n n' : Str} (k : Nat) : fold n = fold n' → OpVariant fold (.fnExists n k) (.fnExists n' k)
  | listFns : OpVariant fold .listFns .listFns

/-- observations equal up to spelling: identical, except that returned function objects may differ in the
    spelling of their `name` field and a `FunctionNotFound` error echoes the caller's spelling -/
inductive ObsSim (fold : Str → Str) : Obs N → Obs N → Prop
  | done : ObsSim fold .done .done
  | var (o : Option (Value N)) : ObsSim fold (.var o) (.var o)
  | fnNone : ObsSim fold (.fn none) (.fn none)
  | fnSome {f f' : Fn N} : NameVariant fold f f' → ObsSim fold (.fn (some f)) (.fn (some f'))
  | bool (b : Bool) : ObsSim fold (.bool b) (.bool b)
  | result (r : Except NativeError (Value N)) : ObsSim fold (.result r) (.result r)
  | notFound {n n' : Str} : fold n = fold n' →
      ObsSim fold (.result (.error (.functionNotFound n))) (.result (.error (.functionNotFound n')))
  | fnRes (r : FnRes) : ObsSim fold (.fnRes r) (.fnRes r)
  | fns {l l' : List (Fn N)} : AllRel (NameVariant fold) l l' → ObsSim fold (.fns l) (.fns l')

/-- states equal up to the spelling of the `name` field of stored function objects -/
def SimEnv (fold : Str → Str) (s s' : StaticEnv N) : Prop :=
  s.vars = s'.vars ∧ AllRel (EntryRel (NameVariant fold)) s.fns s'.fns

theorem SimEnv.refl (fold : Str → Str) (s : StaticEnv N) : SimEnv fold s s :=
  ⟨rfl, AllRel.refl (fun p => ⟨rfl, NameVariant.refl fold p.2⟩) _⟩

theorem sim_addFunction {fold : Str → Str} {s s' : StaticEnv N} (h : SimEnv fold s s') {f f' : Fn N}
    (hf : NameVariant fold f f') : SimEnv fold (s.addFunction fold f) (s'.addFunction fold f') := by
  refine ⟨h.1, ?_⟩
  simp only [StaticEnv.addFunction, ← hf.name]
  exact allRel_ins _ hf h.2

theorem sim_addFunctions {fold : Str → Str} {fs fs' : List (Fn N)} (hfs : AllRel (NameVariant fold) fs fs') :
    ∀ {s s' : StaticEnv N}, SimEnv fold s s' → SimEnv fold (s.addFunctions fold fs) (s'.addFunctions fold fs') := by
  induction hfs with
  | nil => intro s s' h; exact h
  | cons hf _ ih => intro s s' h; exact ih (sim_addFunction h hf)

theorem sim_call {fold : Str → Str} {s s' : StaticEnv N} (h : SimEnv fold s s') (n : Str) (args : List (Value N)) :
    s.call fold n args = s'.call fold n args := by
  simp only [StaticEnv.call]
  rcases allRel_alGet (fold n) h.2 with ⟨h1, h2⟩ | ⟨b, c, h1, h2, h3⟩ <;> rw [h1, h2]
  exact congrFun h3.run args

theorem sim_functionExists {fold : Str → Str} {s s' : StaticEnv N} (h : SimEnv fold s s') (n : Str) (k : Nat) :
    s.functionExists fold n k = s'.functionExists fold n k := by
  simp only [StaticEnv.functionExists]
  rcases allRel_alGet (fold n) h.2 with ⟨h1, h2⟩ | ⟨b, c, h1, h2, h3⟩ <;> rw [h1, h2]
  exact h3.accepts k

/-- One step with every name respelled: same state and same answer, up to spelling. -/
theorem step_sim (fold : Str → Str) {s s' : StaticEnv N} (h : SimEnv fold s s') {op op' : EnvOp N}
    (hop : OpVariant fold op op') :
    SimEnv fold (step fold s op).1 (step fold s' op').1 ∧ ObsSim fold (step fold s op).2 (step fold s' op').2 := by
  obtain ⟨hv, hf⟩ := h
  cases hop with
  | addVar v hn => exact ⟨⟨by simp only [step, StaticEnv.addVariable, hn, hv], hf⟩, .done⟩
  | removeVar hn =>
    simp only [step, StaticEnv.removeVariable, hn, hv]
    exact ⟨⟨rfl, hf⟩, .var _⟩
  | clearVars => exact ⟨⟨rfl, hf⟩, .done⟩
  | addFn hg => exact ⟨sim_addFunction ⟨hv, hf⟩ hg, .done⟩
  | addFns hfs => exact ⟨sim_addFunctions hfs ⟨hv, hf⟩, .done⟩
  | @removeFn n n' hn =>
    simp only [step, StaticEnv.removeFunction, hn]
    refine ⟨⟨hv, allRel_del _ hf⟩, ?_⟩
    rcases allRel_alGet (fold n') hf with ⟨h1, h2⟩ | ⟨b, c, h1, h2, h3⟩
    · rw [h1, h2]; exact .fnNone
    · rw [h1, h2]; exact .fnSome h3
  | getVar hn => simp only [step, StaticEnv.getVariable, hn, hv]; exact ⟨⟨hv, hf⟩, .var _⟩
  | varExists hn => simp only [step, StaticEnv.variableExists, hn, hv]; exact ⟨⟨hv, hf⟩, .bool _⟩
  | @call n n' args hn =>
    simp only [step, StaticEnv.call, hn]
    refine ⟨⟨hv, hf⟩, ?_⟩
    rcases allRel_alGet (fold n') hf with ⟨h1, h2⟩ | ⟨b, c, h1, h2, h3⟩
    · rw [h1, h2]; exact .notFound hn
    · rw [h1, h2]; simp only [h3.run]; exact .result _
  | @fnExists n n' k hn =>
    refine ⟨⟨hv, hf⟩, ?_⟩
    have : s.functionExists fold n k = s'.functionExists fold n' k := by
      rw [← sim_functionExists ⟨hv, hf⟩]; simp only [StaticEnv.functionExists, hn]
    simp only [step, this]; exact .fnRes _
  | listFns =>
    exact ⟨⟨hv, hf⟩, .fns (AllRel.map (fun _ _ hp => hp.2) hf)⟩

/-- Whole histories: respelling any name anywhere in a history (variables and function names at registration,
    removal, lookup, call) changes no state and no answer, up to spelling. -/
theorem spelling_irrelevant (fold : Str → Str) {ops ops' : List (EnvOp N)} (hops : AllRel (OpVariant fold) ops ops') :
    ∀ {s s' : StaticEnv N}, SimEnv fold s s' →
      SimEnv fold (run fold s ops).1 (run fold s' ops').1 ∧ AllRel (ObsSim fold) (run fold s ops).2 (run fold s' ops').2 := by
  induction hops with
  | nil => intro s s' h; exact ⟨h, .nil⟩
  | cons hop _ ih =>
    intro s s' h
    obtain ⟨h1, h2⟩ := step_sim fold h hop
    obtain ⟨g1, g2⟩ := ih h1
    exact ⟨g1, .cons h2 g2⟩

/-- The name-taking operations on one and the same environment, literally: fold-equal spellings give the
    same new state and the same answer; only a call to an unregistered name echoes the caller's spelling. -/
theorem spelling_irrelevant_ops (fold : Str → Str) (s : StaticEnv N) {n n' : Str} (h : fold n = fold n') :
    (∀ v, step fold s (.addVar n v) = step fold s (.addVar n' v)) ∧
    step fold s (.removeVar n) = step fold s (.removeVar n') ∧
    step fold s (.removeFn n) = step fold s (.removeFn n') ∧
    step fold s (.getVar n) = step fold s (.getVar n') ∧
    step fold s (.varExists n) = step fold s (.varExists n') ∧
    (∀ k, step fold s (.fnExists n k) = step fold s (.fnExists n' k)) ∧
    (∀ args, (alGet (fold n) s.fns).isSome = true → step fold s (.call n args) = step fold s (.call n' args)) ∧
    (∀ args, alGet (fold n) s.fns = none →
      step fold s (.call n args) = (s, .result (.error (.functionNotFound n))) ∧
      step fold s (.call n' args) = (s, .result (.error (.functionNotFound n')))) := by
  refine ⟨?_, ?_, ?_, ?_, ?_, ?_, ?_, ?_⟩
  · intro v; simp only [step, StaticEnv.addVariable, h]
  · simp only [step, StaticEnv.removeVariable, h]
  · simp only [step, StaticEnv.removeFunction, h]
  · simp only [step, StaticEnv.getVariable, h]
  · simp only [step, StaticEnv.variableExists, h]
  · intro k; simp only [step, StaticEnv.functionExists, h]
  · intro args hs
    simp only [step, StaticEnv.call, ← h]
    cases hg : alGet (fold n) s.fns with
    | none => rw [hg] at hs; cases hs
    | some f => rfl
  · intro args hs
    simp only [step, StaticEnv.call, ← h, hs, and_self]

/-- Environments that differ only in the spelling used at registration are the same `Environment`. -/
theorem toEnv_sim (fold : Str → Str) {s s' : StaticEnv N} (h : SimEnv fold s s') : s.toEnv fold = s'.toEnv fold := by
  obtain ⟨hv, hf⟩ := h
  have hcall : StaticEnv.call fold s = StaticEnv.call fold s' := funext fun n => funext (sim_call ⟨hv, hf⟩ n)
  have hex : StaticEnv.functionExists fold s = StaticEnv.functionExists fold s' :=
    funext fun n => funext (sim_functionExists ⟨hv, hf⟩ n)
  have hget : StaticEnv.getVariable fold s = StaticEnv.getVariable fold s' := by
    funext n; simp only [StaticEnv.getVariable, hv]
  have hvex : StaticEnv.variableExists fold s = StaticEnv.variableExists fold s' := by
    funext n; simp only [StaticEnv.variableExists, hv]
  simp only [StaticEnv.toEnv, hcall, hex, hget, hvex]

/-- Registration under another spelling of the name: the resulting `Environment`s are equal. -/
theorem registration_spelling_irrelevant (fold : Str → Str) (s : StaticEnv N) :
    (∀ n n' v, fold n = fold n' → s.addVariable fold n v = s.addVariable fold n' v) ∧
    (∀ f n', fold f.name = fold n' →
      (s.addFunction fold { f with name := n' }).toEnv fold = (s.addFunction fold f).toEnv fold) := by
  refine ⟨fun n n' v h => by simp only [StaticEnv.addVariable, h], fun f n' h => ?_⟩
  exact toEnv_sim fold (sim_addFunction (SimEnv.refl fold s) ⟨h.symm, rfl, rfl, rfl, rfl⟩)

/-! ### remove returns what was stored; clear; separate namespaces -/

/-- `remove_variable` / `remove_function` return exactly what a lookup under any spelling would have returned,
    in particular the most recently added entry; afterwards the name is gone under every spelling and every
    other name is untouched. -/
theorem remove_returns_stored (fold : Str → Str) (s : StaticEnv N) (n : Str) :
    (s.removeVariable fold n).2 = s.getVariable fold n ∧
    (∀ n' v, fold n' = fold n → ((s.addVariable fold n' v).removeVariable fold n).2 = some v) ∧
    (∀ n', (s.removeVariable fold n).1.getVariable fold n' =
      if fold n' = fold n then none else s.getVariable fold n') ∧
    (s.removeFunction fold n).2 = alGet (fold n) s.fns ∧
    (∀ f, fold f.name = fold n → ((s.addFunction fold f).removeFunction fold n).2 = some f) ∧
    (∀ n', alGet (fold n') (s.removeFunction fold n).1.fns =
      if fold n' = fold n then none else alGet (fold n') s.fns) := by
  refine ⟨rfl, ?_, ?_, rfl, ?_, ?_⟩
  · intro n' v h; simp only [StaticEnv.removeVariable, StaticEnv.addVariable, alGet_ins, h, if_true]
  · intro n'; simp only [StaticEnv.removeVariable, StaticEnv.getVariable, alGet_del]
  · intro f h; simp only [StaticEnv.removeFunction, StaticEnv.addFunction, alGet_ins, h, if_true]
  · intro n'; simp only [StaticEnv.removeFunction, alGet_del]

/-- `clear_variables` removes every variable and leaves every function observation as it was. -/
theorem clear_vars_keeps_fns (fold : Str → Str) (s : StaticEnv N) :
    (∀ n, s.clearVariables.getVariable fold n = none) ∧ (∀ n, s.clearVariables.variableExists fold n = false) ∧
    s.clearVariables.fns = s.fns ∧ s.clearVariables.listFunctions = s.listFunctions ∧
    (∀ n args, s.clearVariables.call fold n args = s.call fold n args) ∧
    (∀ n k, s.clearVariables.functionExists fold n k = s.functionExists fold n k) :=
  ⟨fun _ => rfl, fun _ => rfl, rfl, rfl, fun _ _ => rfl, fun _ _ => rfl⟩

/-- operations of the variable namespace / of the function namespace -/
def EnvOp.onVars : EnvOp N → Bool
  | .addVar _ _ | .removeVar _ | .clearVars | .getVar _ | .varExists _ => true
  | _ => false
def EnvOp.onFns (op : EnvOp N) : Bool := !op.onVars

theorem step_fns_of_onVars (fold : Str → Str) (s : StaticEnv N) {op : EnvOp N} (h : op.onVars = true) :
    (step fold s op).1.fns = s.fns := by
  cases op <;> first | (cases h; done) | rfl

theorem step_vars_of_onFns (fold : Str → Str) (s : StaticEnv N) {op : EnvOp N} (h : op.onFns = true) :
    (step fold s op).1.vars = s.vars := by
  cases op <;> first | (cases h; done) | rfl | exact StaticEnv.addFunctions_vars fold _ s

theorem obs_of_onFns (fold : Str → Str) {s s' : StaticEnv N} (hs : s.fns = s'.fns) {op : EnvOp N}
    (h : op.onFns = true) : (step fold s op).2 = (step fold s' op).2 := by
  cases op <;> first | (cases h; done) | rfl |
    simp only [step, StaticEnv.removeFunction, StaticEnv.call, StaticEnv.functionExists, StaticEnv.listFunctions, hs]

theorem obs_of_onVars (fold : Str → Str) {s s' : StaticEnv N} (hs : s.vars = s'.vars) {op : EnvOp N}
    (h : op.onVars = true) : (step fold s op).2 = (step fold s' op).2 := by
  cases op <;> first | (cases h; done) | rfl |
    simp only [step, StaticEnv.removeVariable, StaticEnv.getVariable, StaticEnv.variableExists, hs]

/-- Variables and functions live in separate namespaces: a variable operation never changes the function
    table, hence never changes the answer of any function operation — and vice versa — whatever the names. -/
theorem namespaces_disjoint (fold : Str → Str) (s : StaticEnv N) (vop fop : EnvOp N)
    (hv : vop.onVars = true) (hf : fop.onFns = true) :
    (step fold s vop).1.fns = s.fns ∧ (step fold s fop).1.vars = s.vars ∧
    (step fold (step fold s vop).1 fop).2 = (step fold s fop).2 ∧
    (step fold (step fold s fop).1 vop).2 = (step fold s vop).2 :=
  ⟨step_fns_of_onVars fold s hv, step_vars_of_onFns fold s hf,
   obs_of_onFns fold (step_fns_of_onVars fold s hv) hf, obs_of_onVars fold (step_vars_of_onFns fold s hf) hv⟩

/-! ### Evaluation does not depend on the letter case of identifiers -/

/- `e` and `e'` have the same shape, the same operators and literals, and pairwise fold-equal names -/
mutual
inductive SameShapeFoldEq (fold : Str → Str) : Expr N → Expr N → Prop
  | unary {r r' : Expr N} (op : Op) : SameShapeFoldEq fold r r' → SameShapeFoldEq fold (.unary r op) (.unary r' op)
  | binary {l l' r r' : Expr N} (op : Op) : SameShapeFoldEq fold l l' → SameShapeFoldEq fold r r' →
      SameShapeFoldEq fold (.binary l r op) (.binary l' r' op)
  | ternary {l l' m m' r r' : Expr N} (op : Op) : SameShapeFoldEq fold l l' → SameShapeFoldEq fold m m' →
      SameShapeFoldEq fold r r' → SameShapeFoldEq fold (.ternary l m r op) (.ternary l' m' r' op)
  | array {es es' : List (Expr N)} : SameShapeFoldEqL fold es es' → SameShapeFoldEq fold (.array es) (.array es')
  | lit (v : Value N) : SameShapeFoldEq fold (.lit v) (.lit v)
  | var {n n' : Str} : fold n = fold n' → SameShapeFoldEq fold (.var n) (.var n')
  | call {n n' : Str} {ps ps' : List (Expr N)} : fold n = fold n' → SameShapeFoldEqL fold ps ps' →
      SameShapeFoldEq fold (.call n ps) (.call n' ps')
inductive SameShapeFoldEqL (fold : Str → Str) : List (Expr N) → List (Expr N) → Prop
  | nil : SameShapeFoldEqL fold [] []
  | cons {e e' : Expr N} {es es' : List (Expr N)} : SameShapeFoldEq fold e e' → SameShapeFoldEqL fold es es' →
      SameShapeFoldEqL fold (e :: es) (e' :: es')
end

/-- an `Environment` that does not distinguish fold-equal names (up to the echo of the name in
    `FunctionNotFound`) -/
structure FoldRespecting (fold : Str → Str) (env : Env N) : Prop where
  var : ∀ n n', fold n = fold n' → env.var n = env.var n'
  call : ∀ n n' args, fold n = fold n' → normNE fold (env.call n args) = normNE fold (env.call n' args)

theorem staticEnv_foldRespecting (fold : Str → Str) (σ : StaticEnv N) : FoldRespecting fold (σ.toEnv fold) := by
  refine ⟨fun n n' h => by simp only [StaticEnv.toEnv, StaticEnv.getVariable, h], fun n n' args h => ?_⟩
  simp only [StaticEnv.toEnv, StaticEnv.call, ← h]
  cases alGet (fold n) σ.fns with
  | none => simp only [normNE, NativeError.foldN, h]
  | some f => rfl

section Eval
variable [NumOps N]

theorem call_norm {fold : Str → Str} {env : Env N} (henv : FoldRespecting fold env) {n n' : Str} (h : fold n = fold n')
    (vs : List (Value N)) (t t' : List (Event N)) (ht : t.map (Event.foldN fold) = t'.map (Event.foldN fold)) :
    normP fold ((match env.call n vs with | .ok v => Except.ok v | .error ne => .error (Err.native n ne)), t ++ [Event.call n vs])
    = normP fold ((match env.call n' vs with | .ok v => Except.ok v | .error ne => .error (Err.native n' ne)),
        t' ++ [Event.call n' vs]) := by
  have hc := henv.call n n' vs h
  simp only [normP, List.map_append, List.map_cons, List.map_nil, Event.foldN, ht, h]
  cases h1 : env.call n vs with
  | ok v =>
    cases h2 : env.call n' vs with
    | ok w => rw [h1, h2] at hc; simp only [normNE] at hc; cases hc; rfl
    | error e => rw [h1, h2] at hc; cases hc
  | error e =>
    cases h2 : env.call n' vs with
    | ok w => rw [h1, h2] at hc; cases hc
    | error e' =>
      rw [h1, h2] at hc; simp only [normNE] at hc
      injection hc with hc
      simp only [normX, Err.foldN, hc, h]

def Inv (fold : Str → Str) (env : Env N) (e : Expr N) : Prop :=
  ∀ e', SameShapeFoldEq fold e e' → normP fold (evalT env e) = normP fold (evalT env e')
def InvL (fold : Str → Str) (env : Env N) (es : List (Expr N)) : Prop :=
  ∀ es', SameShapeFoldEqL fold es es' → normP fold (evalList env es) = normP fold (evalList env es')

/-- equality of normal forms, taken apart -/
theorem normP_eq_cases {α : Type} {fold : Str → Str} {x x' : Except Err α × List (Event N)}
    (h : normP fold x = normP fold x') :
    (∃ v t t', x = (.ok v, t) ∧ x' = (.ok v, t') ∧ t.map (Event.foldN fold) = t'.map (Event.foldN fold)) ∨
    (∃ e e' t t', x = (.error e, t) ∧ x' = (.error e', t') ∧ e.foldN fold = e'.foldN fold ∧
      t.map (Event.foldN fold) = t'.map (Event.foldN fold)) := by
  obtain ⟨x1, x2⟩ := x; obtain ⟨y1, y2⟩ := x'
  simp only [normP, Prod.mk.injEq] at h
  obtain ⟨h1, h2⟩ := h
  cases x1 with
  | ok v =>
    cases y1 with
    | ok w => cases h1; exact .inl ⟨v, x2, y2, rfl, rfl, h2⟩
    | error e => cases h1
  | error e =>
    cases y1 with
    | ok w => cases h1
    | error e' => exact .inr ⟨e, e', x2, y2, rfl, rfl, Except.error.inj h1, h2⟩

theorem inv_array {fold : Str → Str} {env : Env N} (es : List (Expr N)) (ih : InvL fold env es) :
    Inv fold env (.array es) := by
  intro e' h
  cases h with
  | array hes =>
    simp only [evalT]
    rcases normP_eq_cases (ih _ hes) with ⟨vs, t, t', h1, h2, h3⟩ | ⟨e, e', t, t', h1, h2, h3, h4⟩ <;> rw [h1, h2]
    · simp only [normP, normX, h3]
    · simp only [normP, normX, h3, h4]

theorem inv_call {fold : Str → Str} {env : Env N} (henv : FoldRespecting fold env) (n : Str) (ps : List (Expr N))
    (ih : InvL fold env ps) : Inv fold env (.call n ps) := by
  intro e' h
  cases h with
  | call hn hps =>
    simp only [evalT]
    rcases normP_eq_cases (ih _ hps) with ⟨vs, t, t', h1, h2, h3⟩ | ⟨e, e', t, t', h1, h2, h3, h4⟩ <;> rw [h1, h2]
    · exact call_norm henv hn vs t t' h3
    · simp only [normP, normX, h3, h4]

theorem inv_cons {fold : Str → Str} {env : Env N} (e : Expr N) (es : List (Expr N)) (ih1 : Inv fold env e)
    (ih2 : InvL fold env es) : InvL fold env (e :: es) := by
  intro es' h
  cases h with
  | cons he hes =>
    simp only [evalList]
    rcases normP_eq_cases (ih1 _ he) with ⟨v, t, t', h1, h2, h3⟩ | ⟨e, e', t, t', h1, h2, h3, h4⟩ <;> rw [h1, h2]
    · rcases normP_eq_cases (ih2 _ hes) with ⟨vs, u, u', g1, g2, g3⟩ | ⟨e, e', u, u', g1, g2, g3, g4⟩ <;> rw [g1, g2]
      · simp only [normP, normX, List.map_append, h3, g3]
      · simp only [normP, normX, List.map_append, h3, g3, g4]
    · simp only [normP, normX, h3, h4]

/-- Evaluation is invariant under respelling (fold-equal) of every identifier in the tree: same value, same
    kind of failure, same sequence of environment events — identical after folding the names that error
    payloads and events carry.  Holds for every environment that respects `fold`. -/
theorem eval_case_invariant_env (fold : Str → Str) (env : Env N) (henv : FoldRespecting fold env) (e e' : Expr N)
    (h : SameShapeFoldEq fold e e') : normP fold (evalT env e) = normP fold (evalT env e') := by
  suffices hi : Inv fold env e from hi e' h
  refine Expr.rec (motive_1 := fun e => Inv fold env e) (motive_2 := fun es => InvL fold env es)
    ?_ ?_ ?_ ?_ ?_ ?_ ?_ ?_ ?_ e
  · intro r op ih e' h
    cases h with
    | unary _ hr => simp only [evalT]; rw [un_norm, un_norm, ih _ hr]
  · intro l r op ihl ihr e' h
    cases h with
    | binary _ hl hr => simp only [evalT]; rw [bin_norm, bin_norm, ihl _ hl, ihr _ hr]
  · intro l m r op ihl ihm ihr e' h
    cases h with
    | ternary _ hl hm hr => simp only [evalT]; rw [tern_norm, tern_norm, ihl _ hl, ihm _ hm, ihr _ hr]
  · intro es ih; exact inv_array es ih
  · intro v e' h; cases h; rfl
  · intro n e' h
    cases h with
    | var hn => simp only [evalT, henv.var _ _ hn]; cases env.var _ <;> simp only [normP, normX, Err.foldN, hn, List.map, Event.foldN]
  · intro n ps ih; exact inv_call henv n ps ih
  · intro es' h; cases h; rfl
  · intro e es ih1 ih2; exact inv_cons e es ih1 ih2

/-- C19, consequence: evaluating a tree against a static environment is unaffected by changing the letter case
    (any fold-equal spelling) of the identifiers in it **or** of the names used at registration
    (`SimEnv`: same history, other spellings — see `spelling_irrelevant`). -/
theorem eval_case_invariant (fold : Str → Str) (σ σ' : StaticEnv N) (hσ : SimEnv fold σ σ') (e e' : Expr N)
    (h : SameShapeFoldEq fold e e') :
    normP fold (evalT (σ.toEnv fold) e) = normP fold (evalT (σ'.toEnv fold) e') := by
  rw [← toEnv_sim fold hσ]
  exact eval_case_invariant_env fold _ (staticEnv_foldRespecting fold σ) e e' h

/-- in particular a successful evaluation returns the identical value under every spelling -/
theorem eval_case_invariant_ok (fold : Str → Str) (σ σ' : StaticEnv N) (hσ : SimEnv fold σ σ') (e e' : Expr N)
    (h : SameShapeFoldEq fold e e') (v : Value N) :
    evalR (σ.toEnv fold) e = .ok v ↔ evalR (σ'.toEnv fold) e' = .ok v := by
  have := congrArg Prod.fst (eval_case_invariant fold σ σ' hσ e e' h)
  simp only [normP] at this
  simp only [evalR]
  rw [← normX_ok_iff fold, this, normX_ok_iff]

end Eval

/-- `c` and `d` are the same character up to ASCII letter case -/
def charCaseVariant (c d : Char) : Prop :=
  c = d ∨ (Unicode.inRange c 0x41 0x5A = true ∧ d = Char.ofNat (c.toNat + 32)) ∨
          (Unicode.inRange d 0x41 0x5A = true ∧ c = Char.ofNat (d.toNat + 32))

/-- same length and characterwise equal up to ASCII letter case -/
def asciiCaseVariant : Str → Str → Prop
  | [], [] => True
  | c :: cs, d :: ds => charCaseVariant c d ∧ asciiCaseVariant cs ds
  | _, _ => False

theorem upper_cases : ∀ i : Fin 26,
    Unicode.asciiLowerChar (Char.ofNat (65 + i.val)) = Unicode.asciiLowerChar (Char.ofNat (65 + i.val + 32)) := by
  decide

theorem asciiLowerChar_upper {c : Char} (h : Unicode.inRange c 0x41 0x5A = true) :
    Unicode.asciiLowerChar c = Unicode.asciiLowerChar (Char.ofNat (c.toNat + 32)) := by
  simp only [Unicode.inRange, Bool.and_eq_true, decide_eq_true_eq] at h
  have hc : c = Char.ofNat (65 + (c.toNat - 65)) := by
    rw [show 65 + (c.toNat - 65) = c.toNat by omega, Char.ofNat_toNat]
  have := upper_cases ⟨c.toNat - 65, by omega⟩
  simp only at this
  rw [show 65 + (c.toNat - 65) = c.toNat by omega, Char.ofNat_toNat] at this
  exact this

theorem charCaseVariant_fold {c d : Char} (h : charCaseVariant c d) :
    Unicode.asciiLowerChar c = Unicode.asciiLowerChar d := by
  rcases h with rfl | ⟨h, rfl⟩ | ⟨h, rfl⟩
  · rfl
  · exact asciiLowerChar_upper h
  · exact (asciiLowerChar_upper h).symm

/-- ASCII case variants have the same ASCII fold — so with `fold := Unicode.asciiLower` every theorem above applies
    to names that differ in ASCII letter case. -/
theorem ascii_fold : ∀ {n n' : Str}, asciiCaseVariant n n' → Unicode.asciiLower n = Unicode.asciiLower n'
  | [], [], _ => rfl
  | c :: cs, d :: ds, h => by
    simp only [asciiCaseVariant] at h
    simp only [Unicode.asciiLower, List.map_cons, charCaseVariant_fold h.1]
    exact congrArg _ (ascii_fold h.2)
  | [], _ :: _, h => h.elim
  | _ :: _, [], h => h.elim

section Examples
open Unicode

def fMax : Fn N := ⟨['M','a','x'], .polyadic 2 0, true, fun _ => .ok (.bool true), 1⟩
def fMax' : Fn N := ⟨['m','A','X'], .variadic, false, fun args => .ok (.arr args), 2⟩

/-- a history that adds, overwrites under another spelling, looks up, calls, removes, clears and lists -/
def exOps : List (EnvOp N) :=
  [.addVar ['A','b'] (.bool true), .addFn fMax, .addVar ['a','B'] (.str ['x']), .getVar ['A','B'],
   .fnExists ['M','A','X'] 2, .addFn fMax', .fnExists ['m','a','x'] 2, .fnExists ['M','a','X'] 0,
   .call ['m','a','x'] [.bool false], .addVar ['m','a','x'] (.bool false), .removeVar ['a','b'], .varExists ['A','b'],
   .clearVars, .listFns, .getVar ['M','A','X'], .removeFn ['M','A','x'], .call ['M','a','x'] [], .listFns]

example : (run (N := N) asciiLower .empty exOps).2 =
    [.done, .done, .done, .var (some (.str ['x'])),
     .fnRes (.exist true), .done, .fnRes (.exist false), .fnRes (.wrongArity 1 99),
     .result (.ok (.arr [.bool false])), .done, .var (some (.str ['x'])), .bool false,
     .done, .fns [fMax'], .var none, .fn (some fMax'), .result (.error (.functionNotFound ['M','a','x'])), .fns []] := by
  rfl

/-- `env_refines` on this history: the model's 18 answers are the map's answers -/
example (fold : Str → Str) : AllRel (Agree fold) (run (N := N) fold .empty exOps).2 (srun fold .empty exOps).2 :=
  (env_refines fold exOps).1

/-- the same history under other spellings: hypotheses of `spelling_irrelevant` are satisfiable -/
example : AllRel (OpVariant (N := N) asciiLower)
    [.addVar ['A','b'] (.bool true), .addFn fMax, .call ['m','a','x'] [], .removeFn ['M','A','X'], .call ['M','a','x'] []]
    [.addVar ['a','B'] (.bool true), .addFn { fMax with name := ['m','a','x'] }, .call ['M','A','X'] [],
     .removeFn ['m','a','x'], .call ['m','A','x'] []] :=
  .cons (.addVar _ (by decide)) (.cons (.addFn ⟨by rfl, rfl, rfl, rfl, rfl⟩) (.cons (.call _ (by decide))
    (.cons (.removeFn (by decide)) (.cons (.call _ (by decide)) .nil))))

/-- a variable and a function of the same name coexist and do not interact -/
def exBoth : StaticEnv N :=
  ((StaticEnv.empty (N := N)).addVariable asciiLower ['x'] (.bool true)).addFunction asciiLower
    ⟨['X'], .none, true, fun _ => .ok (.str []), 7⟩
example : (exBoth (N := N)).getVariable asciiLower ['X'] = some (.bool true) ∧
    (exBoth (N := N)).functionExists asciiLower ['x'] 0 = .exist true ∧
    ((exBoth (N := N)).removeVariable asciiLower ['X']).1.functionExists asciiLower ['x'] 0 = .exist true ∧
    ((exBoth (N := N)).removeFunction asciiLower ['x']).1.getVariable asciiLower ['x'] = some (.bool true) ∧
    (step asciiLower (step asciiLower (exBoth (N := N)) (.removeVar ['X'])).1 (.fnExists ['x'] 0)).2 =
      (step asciiLower exBoth (.fnExists ['x'] 0)).2 :=
  ⟨rfl, rfl, rfl, rfl, (namespaces_disjoint asciiLower exBoth (.removeVar ['X']) (.fnExists ['x'] 0) rfl rfl).2.2.1⟩

example : asciiCaseVariant ['A','b','_','1'] ['a','B','_','1'] :=
  ⟨.inr (.inl ⟨rfl, rfl⟩), .inr (.inr ⟨rfl, rfl⟩), .inl rfl, .inl rfl, trivial⟩
example : asciiLower ['A','b','_','1'] = asciiLower ['a','B','_','1'] :=
  ascii_fold ⟨.inr (.inl ⟨rfl, rfl⟩), .inr (.inr ⟨rfl, rfl⟩), .inl rfl, .inl rfl, trivial⟩
/-- non-ASCII letters are NOT identified by the ASCII fold (`Ä` vs `ä`), and `asciiCaseVariant` does not claim so -/
example : asciiLower [Char.ofNat 0xC4] ≠ asciiLower [Char.ofNat 0xE4] := by decide

section
variable [NumOps N]
/-- `Ab = max(aB, [X])`  versus  `aB = MAX(AB, [x])` -/
def exTree : Expr N := .binary (.var ['A','b']) (.call ['m','a','x'] [.var ['a','B'], .array [.var ['X']]]) .equal
def exTree' : Expr N := .binary (.var ['a','B']) (.call ['M','A','X'] [.var ['A','B'], .array [.var ['x']]]) .equal

theorem exTree_same : SameShapeFoldEq (N := N) asciiLower exTree exTree' :=
  .binary _ (.var (by decide)) (.call (by decide) (.cons (.var (by decide))
    (.cons (.array (.cons (.var (by decide)) .nil)) .nil)))

def exReg : List (EnvOp N) := [.addVar ['A','B'] (.bool true), .addFn fMax', .addVar ['x'] (.str ['s'])]
def exReg' : List (EnvOp N) :=
  [.addVar ['a','b'] (.bool true), .addFn { fMax' with name := ['M','a','x'] }, .addVar ['X'] (.str ['s'])]
def exEnv : StaticEnv N := (run asciiLower .empty exReg).1
def exEnv' : StaticEnv N := (run asciiLower .empty exReg').1

theorem exEnv_sim : SimEnv (N := N) asciiLower exEnv exEnv' :=
  (spelling_irrelevant asciiLower (ops := exReg) (ops' := exReg')
    (.cons (.addVar _ (by decide)) (.cons (.addFn ⟨by rfl, rfl, rfl, rfl, rfl⟩) (.cons (.addVar _ (by decide)) .nil)))
    (SimEnv.refl _ .empty)).1

example : normP asciiLower (evalT ((exEnv (N := N)).toEnv asciiLower) exTree) =
    normP asciiLower (evalT (exEnv'.toEnv asciiLower) exTree') :=
  eval_case_invariant asciiLower exEnv exEnv' exEnv_sim exTree exTree' exTree_same

/-- an unregistered name: the error echoes the spelling, the normal forms agree -/
example : evalR ((StaticEnv.empty (N := N)).toEnv asciiLower) (.call ['F'] []) = .error (.native ['F'] (.functionNotFound ['F'])) ∧
    evalR ((StaticEnv.empty (N := N)).toEnv asciiLower) (.call ['f'] []) = .error (.native ['f'] (.functionNotFound ['f'])) ∧
    normP asciiLower (evalT ((StaticEnv.empty (N := N)).toEnv asciiLower) (.call ['F'] [])) =
      normP asciiLower (evalT ((StaticEnv.empty (N := N)).toEnv asciiLower) (.call ['f'] [])) :=
  ⟨rfl, rfl, eval_case_invariant asciiLower _ _ (SimEnv.refl _ _) _ _ (.call (by decide) .nil)⟩
end

end Examples

end Slac.C19
