/-
  SlacProps.C01Parser — the hand-written parser model (SlacModel/Parser.lean), about which every parser theorem of C01 / C07 is
  stated, IS the function that tools/rs2lean_parser.py translates from the current text of src/compiler.rs
  (SlacModel/Generated/SrcParser.lean), for every fuel, token vector and cursor:

    parsePrec_is_source    parse_precedence   (cursor c  ↔  remaining tokens `toks.drop c`)
    doPrefix_is_source     do_prefix          (`previous()` is the token before the cursor)
    infixLoop_is_source    the `while` loop of parse_precedence
    doInfix_is_source      do_infix
    exprList_is_source     the `while` loop of expression_list followed by `chomp(end_token)`, for both end tokens
    parse_is_source        Compiler::compile_ast = Parser.parse        (same fuel on both sides)
    compile_ast_total      hence the translated source function needs no more than `parseFuel` levels of recursion and never
                           reaches the `usize` underflow in `previous()` / `PreviousTokenNotFound`

  The model passes the remaining tokens around, the source a cursor into a fixed vector: `view` maps one outcome to the other.
  The proofs run the translated function at a cursor and never look at the names of its locals or the order of its `match` arms.
-/
import SlacModel.Parser
import SlacModel.Generated.SrcParser
import SlacProofs.ParserTotal
import SlacProps.C01Source
set_option autoImplicit false
set_option linter.unusedSimpArgs false
namespace Slac.C01Parser
open Slac Slac.Parser Slac.SrcParser Slac.Generated Slac.Generated.SrcParser
variable {N : Type} {α β : Type}

/-- a source outcome (value, cursor) seen as a model outcome (value, remaining tokens) -/
def view (toks : List (Token N)) : COut N (α × Nat) → St N α
  | .ok (a, c) => .ok (a, toks.drop c)
  | .err e => .err e
  | .outOfFuel => .outOfFuel
  | .panic => .panic

/-- what `chomp(end_token)` does after the loop of `expression_list` stopped at cursor `c` -/
def finishList (toks : List (Token N)) (b : Bool) : COut N (List (Expr N) × Nat) → St N (List (Expr N))
  | .ok (es, c) =>
    match toks.drop c with
    | [] => .err .eof
    | t :: rest => if isClose b t then .ok (es, rest) else .err (.invalidToken t)
  | .err e => .err e
  | .outOfFuel => .outOfFuel
  | .panic => .panic

/-- the loop of `expression_list` pushes onto the vector it was started with -/
def prepend (acc : List (Expr N)) : St N (List (Expr N)) → St N (List (Expr N))
  | .ok (es, r) => .ok (acc ++ es, r)
  | .err e => .err e
  | .outOfFuel => .outOfFuel
  | .panic => .panic

theorem cursor_cases {γ : Type} (l : List γ) (c : Nat) :
    (l[c]? = none ∧ l.length ≤ c ∧ l.drop c = []) ∨ (∃ t, l[c]? = some t ∧ c < l.length ∧ l.drop c = t :: l.drop (c + 1)) := by
  rcases Nat.lt_or_ge c l.length with h | h
  · exact .inr ⟨l[c], List.getElem?_eq_getElem h, h, List.drop_eq_getElem_cons h⟩
  · exact .inl ⟨List.getElem?_eq_none h, h, List.drop_eq_nil_of_le h⟩

/-- the outcome of `x >>= k`, given the outcome of `x` -/
def bindOut (r : COut N (α × Nat)) (k : α → PM N β) : COut N (β × Nat) :=
  match r with
  | .ok (a, c') => k a c'
  | .err e => .err e
  | .outOfFuel => .outOfFuel
  | .panic => .panic
@[simp] theorem bindOut_ok (a : α) (c : Nat) (k : α → PM N β) : bindOut (.ok (a, c)) k = k a c := rfl
@[simp] theorem bindOut_err (e : CErr N) (k : α → PM N β) : bindOut (.err e : COut N (α × Nat)) k = .err e := rfl
@[simp] theorem bindOut_oof (k : α → PM N β) : bindOut (.outOfFuel : COut N (α × Nat)) k = .outOfFuel := rfl
@[simp] theorem bindOut_panic (k : α → PM N β) : bindOut (.panic : COut N (α × Nat)) k = .panic := rfl
@[simp] theorem bind_apply (x : PM N α) (k : α → PM N β) (c : Nat) : (PM.bind x k) c = bindOut (x c) k := rfl
@[simp] theorem pure_apply (a : α) (c : Nat) : (PM.pure a : PM N α) c = .ok (a, c) := rfl
@[simp] theorem getCur_apply (c : Nat) : (getCur : PM N Nat) c = .ok (c, c) := rfl
@[simp] theorem setCur_apply (n c : Nat) : (setCur n : PM N Unit) c = .ok ((), n) := rfl
@[simp] theorem throwE_apply (e : CErr N) (c : Nat) : (throwE e : PM N α) c = .err e := rfl
@[simp] theorem outOfFuel_apply (c : Nat) : (SrcParser.outOfFuel : PM N α) c = .outOfFuel := rfl
@[simp] theorem okOr_some (a : α) (e : CErr N) (c : Nat) : (okOr (some a) e : PM N α) c = .ok (a, c) := rfl
@[simp] theorem okOr_none (e : CErr N) (c : Nat) : (okOr none e : PM N α) c = .err e := rfl
@[simp] theorem usub_apply (a b c : Nat) : (usub a b : PM N Nat) c = if b ≤ a then .ok (a - b, c) else .panic := rfl
@[simp] theorem ite_app {p : Prop} [Decidable p] (x y : PM N α) (c : Nat) : (if p then x else y) c = if p then x c else y c := by
  split <;> rfl
theorem bindOut_ite {p : Prop} [Decidable p] (x y : COut N (α × Nat)) (k : α → PM N β) :
    bindOut (if p then x else y) k = if p then bindOut x k else bindOut y k := by
  split <;> rfl

theorem bind_ok {x : PM N α} {k : α → PM N β} {c c' : Nat} {a : α} (h : x c = .ok (a, c')) : (x >>= k) c = k a c' := by
  show bindOut (x c) k = _; rw [h]; rfl

/-- the model answers what the source answers, unless the model has run out of its fuel: the model spends a level of fuel on the
    end-of-input test of `expression()` in `grouping`, which the source performs before it recurses, so with fuel 1 the model says
    `outOfFuel` on `(` at the end of the input where the source already says `Eof`.  With the fuel `parse` uses the model never runs
    out (`parse_total`), so the top-level statement `parse_is_source` is an equation. -/
def R (x y : COut N α) : Prop := x = .outOfFuel ∨ x = y
theorem R.of_eq {x y : COut N α} (h : x = y) : R x y := .inr h
theorem R.oof {y : COut N α} : R (.outOfFuel : COut N α) y := .inl rfl

/-- `R` is a congruence for sequencing -/
theorem R.bind {toks : List (Token N)} {x : St N α} {y : COut N (α × Nat)} (h : R x (view toks y))
    {k : α × List (Token N) → St N β} {k' : α → PM N β} (hk : ∀ a c, R (k (a, toks.drop c)) (view toks (k' a c))) :
    R (andThen x k) (view toks (bindOut y k')) := by
  rcases h with rfl | rfl
  · exact .oof
  · cases y with
    | ok a => exact hk a.1 a.2
    | _ => exact .of_eq rfl

/-- the statements proved together by induction on the fuel -/
structure Sim (toks : List (Token N)) (f : Nat) : Prop where
  pp : ∀ p c, R (parsePrec f p (toks.drop c)) (view toks (parse_precedence f toks p c))
  dp : ∀ c t, 1 ≤ c → toks[c - 1]? = some t → R (doPrefix f t (toks.drop c)) (view toks (do_prefix f toks c))
  il : ∀ p l c, R (infixLoop f p l (toks.drop c)) (view toks (parse_precedence_loop1 f toks p l c))
  di : ∀ c t l, 1 ≤ c → toks[c - 1]? = some t → R (doInfix f t l (toks.drop c)) (view toks (do_infix f toks l c))
  la : ∀ acc c, R (prepend acc (exprList f false (toks.drop c))) (finishList toks false (do_prefix_loop1 f toks acc c))
  lc : ∀ acc c, R (prepend acc (exprList f true (toks.drop c))) (finishList toks true (do_infix_loop1 f toks acc c))

theorem pp_succ {toks : List (Token N)} {f : Nat} (ih : Sim toks f) (p c : Nat) :
    R (parsePrec (f + 1) p (toks.drop c)) (view toks (parse_precedence (f + 1) toks p c)) := by
  rcases cursor_cases toks c with ⟨_, hl, hd⟩ | ⟨t, h, hl, hd⟩
  · simp only [parse_precedence, bind, bind_apply, bindOut_ok, getCur_apply, throwE_apply, ite_app, ge_iff_le, hl, decide_true, if_true]
    rw [hd]
    exact .of_eq rfl
  · simp only [parse_precedence, bind, pure, bind_apply, bindOut_ok, pure_apply, getCur_apply, setCur_apply, ite_app,
      ge_iff_le, hl, Nat.not_le.2 hl, decide_true, decide_false, if_true, if_false, Bool.false_eq_true]
    rw [hd, parsePrec_cons]
    exact R.bind (ih.dp (c + 1) t (Nat.le_add_left 1 c) h) (ih.il p)

theorem il_succ {toks : List (Token N)} {f : Nat} (ih : Sim toks f) (p : Nat) (l : Expr N) (c : Nat) :
    R (infixLoop (f + 1) p l (toks.drop c)) (view toks (parse_precedence_loop1 (f + 1) toks p l c)) := by
  rcases cursor_cases toks c with ⟨h, _, hd⟩ | ⟨t, h, hl, hd⟩
  · simp only [parse_precedence_loop1, bind, pure, bind_apply, bindOut_ok, pure_apply, getCur_apply, ite_app, h]
    rw [hd]
    exact .of_eq (by simp [view, hd, infixLoop_nil])
  · simp only [parse_precedence_loop1, bind, pure, bind_apply, bindOut_ok, pure_apply, getCur_apply, setCur_apply, ite_app,
      h, hl, decide_true, if_true, decide_eq_true_eq]
    rw [hd, infixLoop_cons, C01Source.prec_is_source]
    split
    · exact R.bind (ih.di (c + 1) t l (Nat.le_add_left 1 c) h) (ih.il p)
    · exact .of_eq (by simp [view, hd])

theorem prepend_nil (x : St N (List (Expr N))) : prepend [] x = x := by
  cases x <;> rfl

theorem prepend_step (acc : List (Expr N)) (e : Expr N) (x : St N (List (Expr N))) :
    prepend acc (andThen x fun y => .ok (e :: y.1, y.2)) = prepend (acc ++ [e]) x := by
  cases x with
  | ok a => simp [prepend, andThen]
  | _ => rfl

/-- the cursor after `if self.current() == Some(&Token::Comma) { self.advance(); }` -/
def skipComma (toks : List (Token N)) (c : Nat) : Nat :=
  match toks[c]? with
  | some .comma => c + 1
  | _ => c

theorem dropComma_drop (toks : List (Token N)) (c : Nat) : dropComma (toks.drop c) = toks.drop (skipComma toks c) := by
  unfold skipComma
  rcases cursor_cases toks c with ⟨h, _, hd⟩ | ⟨t, h, _, hd⟩
  · rw [h, hd]; rfl
  · rw [h, hd]; cases t <;> first | rfl | exact hd.symm

/-- `mb` is the source's test `current() == Some(&Token::Comma)`, a variable so that no statement names a generated matcher -/
theorem skipComma_eval {toks : List (Token N)} {c : Nat} {mb : Bool}
    (hm : mb = match toks[c]? with | some .comma => true | _ => false) (k : Nat → β) :
    (if mb = true then (if decide (c < toks.length) = true then k (c + 1) else k c) else k c) = k (skipComma toks c) := by
  subst hm; unfold skipComma
  rcases cursor_cases toks c with ⟨h, _, _⟩ | ⟨t, h, hl, _⟩
  · rw [h]; rfl
  · rw [h]; cases t <;> first | rfl | simp [hl]

/-- one iteration of the loop of `expression_list(end)` at a cursor -/
def listStep (toks : List (Token N)) (b : Bool) (item : PM N (Expr N)) (next : List (Expr N) → PM N (List (Expr N)))
    (acc : List (Expr N)) : PM N (List (Expr N)) := fun c =>
  match toks[c]? with
  | none => .ok (acc, c)
  | some t =>
    if isClose b t then .ok (acc, c)
    else bindOut (item c) fun e c1 => next (acc ++ [e]) (skipComma toks c1)

theorem list_succ {toks : List (Token N)} {f : Nat} (b : Bool) (loop : Nat → List (Token N) → List (Expr N) → PM N (List (Expr N)))
    (ihpp : ∀ p c, R (parsePrec f p (toks.drop c)) (view toks (parse_precedence f toks p c)))
    (ihl : ∀ acc c, R (prepend acc (exprList f b (toks.drop c))) (finishList toks b (loop f toks acc c)))
    (acc : List (Expr N)) (c : Nat)
    (hloop : loop (f + 1) toks acc c = listStep toks b (parse_precedence f toks 1) (loop f toks) acc c) :
    R (prepend acc (exprList (f + 1) b (toks.drop c))) (finishList toks b (loop (f + 1) toks acc c)) := by
  rw [hloop, listStep]
  rcases cursor_cases toks c with ⟨h, _, hd⟩ | ⟨t, h, _, hd⟩
  · simp only [h, hd, exprList_nil]; exact .of_eq (by simp [prepend, finishList, hd])
  · simp only [h, hd, exprList_cons]
    split
    · rename_i hc; exact .of_eq (by simp [prepend, finishList, hd, hc])
    · rw [← hd]
      rcases ihpp 1 c with h1 | h1
      · rw [h1]; exact .oof
      · rw [h1]
        cases parse_precedence f toks 1 c with
        | ok a => simp only [view, andThen_ok, bindOut_ok, dropComma_drop, prepend_step]; exact ihl _ _
        | _ => exact .of_eq rfl

theorem ite_not_eq {γ : Type} {mb b : Bool} (hm : mb = b) {x x' y : γ} (hx : x = x') :
    (if (!mb) = true then x else y) = if b = true then y else x' := by
  subst hm hx; cases mb <;> rfl

theorem loopA_eq (toks : List (Token N)) (f : Nat) (acc : List (Expr N)) (c : Nat) :
    do_prefix_loop1 (f + 1) toks acc c = listStep toks false (parse_precedence f toks 1) (do_prefix_loop1 f toks) acc c := by
  rcases cursor_cases toks c with ⟨h, _, _⟩ | ⟨t, h, hl, _⟩
  · simp only [do_prefix_loop1, listStep, bind, pure, bind_apply, bindOut_ok, pure_apply, getCur_apply, ite_app, h, Bool.false_eq_true, if_false]
  · simp only [do_prefix_loop1, listStep, bind, pure, bind_apply, bindOut_ok, pure_apply, getCur_apply, throwE_apply, ite_app, h, hl, decide_true, if_true]
    refine ite_not_eq (by cases t <;> rfl) (congrArg _ (funext fun e => funext fun c1 => ?_))
    simp only [bind_apply, bindOut_ok, pure_apply, getCur_apply, setCur_apply, ite_app, bindOut_ite]
    exact skipComma_eval rfl _

theorem loopC_eq (toks : List (Token N)) (f : Nat) (acc : List (Expr N)) (c : Nat) :
    do_infix_loop1 (f + 1) toks acc c = listStep toks true (parse_precedence f toks 1) (do_infix_loop1 f toks) acc c := by
  rcases cursor_cases toks c with ⟨h, _, _⟩ | ⟨t, h, hl, _⟩
  · simp only [do_infix_loop1, listStep, bind, pure, bind_apply, bindOut_ok, pure_apply, getCur_apply, ite_app, h, Bool.false_eq_true, if_false]
  · simp only [do_infix_loop1, listStep, bind, pure, bind_apply, bindOut_ok, pure_apply, getCur_apply, throwE_apply, ite_app, h, hl, decide_true, if_true]
    refine ite_not_eq (by cases t <;> rfl) (congrArg _ (funext fun e => funext fun c1 => ?_))
    simp only [bind_apply, bindOut_ok, pure_apply, getCur_apply, setCur_apply, ite_app, bindOut_ite]
    exact skipComma_eval rfl _

/-- `expression()` tests for the end of the input before it recurses; the model spends a level of fuel on that test -/
theorem R.expr {toks : List (Token N)} {f : Nat} (ih : Sim toks f) (p c : Nat) :
    R (parsePrec f p (toks.drop c))
      (view toks (if decide (c < toks.length) = true then parse_precedence f toks p c else .err .eof)) := by
  rcases Nat.lt_or_ge c toks.length with hl | hl
  · rw [decide_eq_true hl, if_pos rfl]; exact ih.pp p c
  · rw [decide_eq_false (Nat.not_lt.2 hl), if_neg Bool.false_ne_true, List.drop_eq_nil_of_le hl]
    cases f with
    | zero => exact .oof
    | succ f => exact .of_eq rfl

/-- `chomp(end)`, then return `a`; `mb` as in `skipComma_eval` -/
theorem view_chomp {toks : List (Token N)} {c : Nat} {b mb : Bool} (a : α)
    (hm : mb = match toks[c]? with | some t => isClose b t | none => false) :
    view toks (if mb = true then (if decide (c < toks.length) = true then .ok (a, c + 1) else .ok (a, c))
      else .err (match toks[c]? with | some t => .invalidToken t | none => .eof)) =
    match toks.drop c with
    | [] => .err .eof
    | t :: rest => if isClose b t then .ok (a, rest) else .err (.invalidToken t) := by
  subst hm
  rcases cursor_cases toks c with ⟨h, _, hd⟩ | ⟨t, h, hl, hd⟩
  · rw [h, hd]; rfl
  · rw [h, hd]; simp only [hl, decide_true, if_true]; split <;> rfl

theorem chompParen_eq (e : Expr N) (l : List (Token N)) :
    chompParen e l = match l with
      | [] => .err .eof
      | t :: rest => if isClose true t then .ok (e, rest) else .err (.invalidToken t) := by
  rcases l with _ | ⟨t, r⟩
  · rfl
  · cases t <;> rfl

/-- `finishList` is the loop followed by `chomp(end)` -/
theorem R.list {toks : List (Token N)} {b : Bool} {x : St N (List (Expr N))} {y : COut N (List (Expr N) × Nat)}
    (h : R (prepend [] x) (finishList toks b y)) {k : List (Expr N) → PM N (List (Expr N))}
    (hk : ∀ es c, view toks (k es c) = finishList toks b (.ok (es, c))) : R x (view toks (bindOut y k)) := by
  rw [prepend_nil] at h
  cases y with
  | ok a => rw [bindOut_ok, hk]; exact h
  | _ => exact h

theorem dp_succ {toks : List (Token N)} {f : Nat} (ih : Sim toks f) (c : Nat) (t : Token N) (hc : 1 ≤ c) (ht : toks[c - 1]? = some t) :
    R (doPrefix (f + 1) t (toks.drop c)) (view toks (do_prefix (f + 1) toks c)) := by
  unfold do_prefix
  rw [doPrefix_succ, bind_ok (a := t) (c' := c) ?prev]
  case prev => simp only [bind, bind_apply, bindOut_ok, getCur_apply, usub_apply, hc, if_true, ht, okOr_some]
  cases t
  case leftParen =>
    simp only [bind, pure, bind_apply, bindOut_ok, getCur_apply, throwE_apply, ite_app]
    refine R.bind (R.expr ih 1 c) fun e c1 => .of_eq ?_
    simp only [bind_apply, bindOut_ok, pure_apply, getCur_apply, setCur_apply, throwE_apply, ite_app, bindOut_ite, bindOut_err]
    rw [chompParen_eq]
    refine (view_chomp e ?_).symm
    rcases toks[c1]? with _ | t; rfl; cases t <;> rfl
  case leftBracket =>
    simp only [bind, pure, bind_apply]
    refine R.bind (R.list (ih.la [] c) fun es c1 => ?_) fun _ _ => .of_eq rfl
    simp only [bind_apply, bindOut_ok, pure_apply, getCur_apply, setCur_apply, throwE_apply, ite_app, bindOut_ite, bindOut_err]
    refine view_chomp es ?_
    rcases toks[c1]? with _ | t; rfl; cases t <;> rfl
  case minus | not =>
    simp only [bind, pure, bind_apply, bindOut_ok, getCur_apply, usub_apply, hc, if_true, ht, okOr_some]
    -- `tokenOperator` in a second call, when its argument is a constructor: in the first it would be unfolded under the binders too
    simp only [Grammar.tokenOperator, okOr_some, bindOut_ok, bind_apply]
    exact R.bind (ih.pp 8 c) fun _ _ => .of_eq rfl
  all_goals exact .of_eq rfl

theorem di_succ {toks : List (Token N)} {f : Nat} (ih : Sim toks f) (c : Nat) (t : Token N) (l : Expr N) (hc : 1 ≤ c)
    (ht : toks[c - 1]? = some t) :
    R (doInfix (f + 1) t l (toks.drop c)) (view toks (do_infix (f + 1) toks l c)) := by
  unfold do_infix
  rw [doInfix_succ, bind_ok (a := t) (c' := c) ?prev]
  case prev => simp only [bind, bind_apply, bindOut_ok, getCur_apply, usub_apply, hc, if_true, ht, okOr_some]
  cases t
  case leftParen =>
    cases l
    case var name =>
      simp only [bind, pure, bind_apply]
      refine R.bind (R.list (ih.lc [] c) fun es c1 => ?_) fun _ _ => .of_eq rfl
      simp only [bind_apply, bindOut_ok, pure_apply, getCur_apply, setCur_apply, throwE_apply, ite_app, bindOut_ite, bindOut_err]
      refine view_chomp es ?_
      rcases toks[c1]? with _ | t; rfl; cases t <;> rfl
    all_goals
      simp only [bind, bind_apply, bindOut_ok, getCur_apply, usub_apply, hc, if_true, ht, okOr_some, throwE_apply]
      exact .of_eq rfl
  case minus | plus | star | slash | div | mod | equal | notEqual | greater | greaterEqual | less | lessEqual | and | or | xor =>
    simp only [Token.binOp?, bind, pure, bind_apply, bindOut_ok, getCur_apply, usub_apply, hc, if_true, ht, okOr_some]
    simp only [Grammar.tokenOperator, okOr_some, bindOut_ok, bind_apply, getCur_apply, usub_apply, hc, if_true, ht]
    exact R.bind (ih.pp _ c) fun _ _ => .of_eq rfl
  all_goals exact .of_eq rfl

/-- the simulation, for every fuel -/
theorem sim (toks : List (Token N)) : ∀ f, Sim toks f
  | 0 => ⟨fun _ _ => .oof, fun _ _ _ _ => .oof, fun _ _ _ => .oof, fun _ _ _ _ _ => .oof, fun _ _ => .oof, fun _ _ => .oof⟩
  | f + 1 =>
    have ih := sim toks f
    { pp := pp_succ ih, dp := dp_succ ih, il := il_succ ih, di := di_succ ih
      la := fun acc c => list_succ false do_prefix_loop1 ih.pp ih.la acc c (loopA_eq toks f acc c)
      lc := fun acc c => list_succ true do_infix_loop1 ih.pp ih.lc acc c (loopC_eq toks f acc c) }

/-- `parse_precedence`, translated from the source, computes what `parsePrec` computes (cursor `c` ↔ tokens from `c` on), unless the
    model's fuel is exhausted -/
theorem parsePrec_is_source (toks : List (Token N)) (f p c : Nat) :
    parsePrec f p (toks.drop c) = .outOfFuel ∨ parsePrec f p (toks.drop c) = view toks (parse_precedence f toks p c) := (sim toks f).pp p c
theorem doPrefix_is_source (toks : List (Token N)) (f c : Nat) (t : Token N) (hc : 1 ≤ c) (ht : toks[c - 1]? = some t) :
    doPrefix f t (toks.drop c) = .outOfFuel ∨ doPrefix f t (toks.drop c) = view toks (do_prefix f toks c) := (sim toks f).dp c t hc ht
theorem infixLoop_is_source (toks : List (Token N)) (f p : Nat) (l : Expr N) (c : Nat) :
    infixLoop f p l (toks.drop c) = .outOfFuel ∨ infixLoop f p l (toks.drop c) = view toks (parse_precedence_loop1 f toks p l c) :=
  (sim toks f).il p l c
theorem doInfix_is_source (toks : List (Token N)) (f c : Nat) (t : Token N) (l : Expr N) (hc : 1 ≤ c) (ht : toks[c - 1]? = some t) :
    doInfix f t l (toks.drop c) = .outOfFuel ∨ doInfix f t l (toks.drop c) = view toks (do_infix f toks l c) := (sim toks f).di c t l hc ht
/-- `expression_list(end)`: the loop followed by `chomp(end)`, for `]` (b = false) and `)` (b = true) -/
theorem exprList_is_source (toks : List (Token N)) (f c : Nat) :
    (exprList f false (toks.drop c) = .outOfFuel ∨ exprList f false (toks.drop c) = finishList toks false (do_prefix_loop1 f toks [] c)) ∧
    (exprList f true (toks.drop c) = .outOfFuel ∨ exprList f true (toks.drop c) = finishList toks true (do_infix_loop1 f toks [] c)) := by
  have a := (sim toks f).la [] c; have b := (sim toks f).lc [] c
  rw [prepend_nil] at a b; exact ⟨a, b⟩

/-- with at least the fuel the model's `parse` uses, the translated `Compiler::compile_ast` returns exactly what `parse` returns -/
theorem compile_ast_eq_parse (toks : List (Token N)) (f : Nat) (hf : 3 * toks.length + 1 ≤ f) : compile_ast f toks = parse toks := by
  have hfine : Fine (parsePrec f 1 toks) := parsePrec_fine hf
  have h := R.expr (sim toks f) 1 0
  rw [List.drop_zero] at h
  rcases h with h | h
  · rw [h] at hfine; exact hfine.elim
  · rw [parse_eq_finish hf, h]
    simp only [compile_ast, compile, run, bind, pure, bind_apply, pure_apply, getCur_apply, throwE_apply, ite_app, bindOut_ok]
    cases (if decide (0 < toks.length) = true then parse_precedence f toks 1 0 else COut.err CErr.eof) with
    | ok a =>
      obtain ⟨e, c1⟩ := a
      simp only [bindOut_ok, bind_apply, getCur_apply, pure_apply, view]
      rcases cursor_cases toks c1 with ⟨h2, _, hd⟩ | ⟨t, h2, _, hd⟩ <;> rw [h2, hd] <;> rfl
    | _ => rfl

/-- `Compiler::compile_ast` as translated from the current source IS the model's `parse` -/
theorem parse_is_source (toks : List (Token N)) : compile_ast (parseFuel toks.length) toks = parse toks :=
  compile_ast_eq_parse toks _ (parseFuel_ge _)

/-- the translated source function never reaches the `usize` underflow of `previous()` (outcome `panic`) and does not need more than
    `3 * n + 1` levels of recursion on `n` tokens -/
theorem compile_ast_total (toks : List (Token N)) (f : Nat) (hf : 3 * toks.length + 1 ≤ f) :
    compile_ast f toks ≠ .panic ∧ compile_ast f toks ≠ .outOfFuel := by
  rw [compile_ast_eq_parse toks f hf]; exact fine_ne (parse_fine toks)

/-- non-vacuity: the translated source function on `a + b * c`, evaluated by the kernel -/
example : compile_ast (N := Nat) 16 [.identifier ['a'], .plus, .identifier ['b'], .star, .identifier ['c']]
    = .ok (.binary (.var ['a']) (.binary (.var ['b']) (.var ['c']) .multiply) .plus) := by rfl

end Slac.C01Parser
