/-
  C02 — the token sequence depends only on the lexical content of the source.

  Model: `Slac.Scanner.scan` (SlacModel/Scanner.lean, mirrors src/scanner.rs).  Everything holds for every
  `CharClass` (the Unicode tables Lean lacks) satisfying `AsciiOk` — alphabetic / numeric / to_lowercase behave on
  ASCII text as in Rust — and for every number type `N`.

  Vocabulary (SlacProofs/Scanner*.lean):
  * `IsSep s`     — `s` is a sequence of whitespace characters (space, tab, CR, LF), `// … LF` line comments and
                    balanced, possibly nested `{ … }` block comments;
    `IsTrail s`   — separators, then possibly a `// …` without line end or a never closed `{ …` (end of input only).
  * `Lexeme cc t x` — the text `x` is a spelling of token `t`: fixed punctuation; an identifier-shaped text whose
                    lower-casing is a keyword (any letter case!) for and/or/xor/not/div/mod/true/false; an
                    identifier-shaped text that is no keyword for `identifier x` (exact spelling); a number-shaped
                    text `x` with `NumOps.parse x = some v` for `literal (num v)`; `quote s` for `literal (str s)`.
  * `fuse cc t x c` — the character `c` right after the lexeme `x` of `t` would be read as part of it;
    `NoCont cc t x rest` — the first character of `rest` (if any) does not fuse.
  * `needsSep t t'` — token-level, conservative: the two lexemes may not touch.
-/
import SlacProofs.ScannerLits
import SlacProofs.ScannerSepDec
set_option autoImplicit false
namespace Slac.C02
open Slac.Scanner
variable {N : Type} [NumOps N]

/-! ## 1. separators are invisible -/

/-- `skip_whitespace` skips exactly the separators: whitespace, line comments, nested block comments -/
theorem skipWs_sep {s : Str} (hs : IsSep s) (rest : Str) :
    skipWs .code (s ++ rest) = skipWs .code rest :=
  Scanner.skipWs_sep hs rest

/-- after the last token, an unterminated comment swallows the rest of the input -/
theorem skipWs_trail {s : Str} (hs : IsTrail s) : skipWs .code s = [] :=
  Scanner.skipWs_trail hs

/-- separator invariance at a token boundary: a separator in front of any text — in particular in front of
    the whole source — never changes the result (tokens or error value) -/
theorem scan_sep_invariant (cc : CharClass) {s : Str} (hs : IsSep s) (rest : Str) :
    scan (N := N) cc (s ++ rest) = scan cc rest :=
  Scanner.scan_sep cc hs rest

/-- a source made of separators only (even with an open comment at its end) has no tokens: `Error::Eof` -/
theorem scan_only_separators (cc : CharClass) {s : Str} (hs : IsTrail s) : scan (N := N) cc s = .err .eof := by
  unfold scan; rw [scanAll_trail cc hs]

/-- a non-trivial separator: ` { a{n}//} ⏎// x⏎⇥` (nested block comment containing `//`, line comment) -/
example : IsSep [' ', '{', ' ', 'a', '{', 'n', '}', '/', '/', '}', ' ', '\n', '/', '/', ' ', 'x', '\n', '\t'] := by
  refine .ws (by decide) (.block (body := [' ', 'a', '{', 'n', '}', '/', '/', '}']) ?_
    (.ws (by decide) (.ws (by decide) (.line (body := [' ', 'x']) (by decide) (.ws (by decide) .nil)))))
  repeat (first | exact .close0 | apply Body.close | apply Body.open_ | (apply Body.other (by decide) (by decide)))

example : skipWs .code ([' ', '{', '{', '}', '/', '/', '}', '\n', '/', '/', 'x', '\n'] ++ ['y', ' ']) = ['y', ' '] :=
  skipWs_sep (.ws (by decide) (.block (body := ['{', '}', '/', '/', '}'])
    (.open_ (.close (.other (by decide) (by decide) (.other (by decide) (by decide) .close0))))
    (.ws (by decide) (.line (body := ['x']) (by decide) .nil)))) _

example : scan (N := N) CharClass.ascii [' ', '/', '/', 'x', '\n', '{', 'a', '{', 'b', '}'] = .err .eof :=
  scan_only_separators _ (.sep (.ws (by decide) (.line (body := ['x']) (by decide) .nil))
    (.blockEof (.other (by decide) (by decide) (.open_ (.other (by decide) (by decide) (.close .nil))))))

/-- separator invariance also preserves error values -/
example : scan (N := N) CharClass.ascii ([' ', '{', 'x', '{', '}', '}', '/', '/', '\n'] ++ ['a', '$']) =
    scan CharClass.ascii ['a', '$'] :=
  scan_sep_invariant _ (sepB_sound (by decide)) _

/-! ## 2. string literals -/

/-- A string literal denotes exactly its contents, `''` standing for one quote — for every content: quotes,
    comment markers, line breaks, any Unicode. -/
theorem scan_string_literal {cc : CharClass} (hcc : cc.AsciiOk) (s : Str) :
    scan (N := N) cc (quote s) = .ok [.literal (.str s)] :=
  scan_single hcc .str

omit [NumOps N] in
/-- The scanner's procedure (take the raw text between the outer quotes, then `replace("''", "'")` if a doubled
    quote was seen) computes the "unescape" reading `strDirect` on every input, terminated or not. -/
theorem string_replace_eq_unescape (cs : Str) :
    Scanner.string (N := N) cs = match strDirect cs with
      | none => .error .unterminatedStringLiteral
      | some (s, rest) => .ok (.literal (.str s), rest) :=
  string_eq_direct cs

example : quote ['i', 't', '\'', 's', ' ', '{', '/', '/', '\n', '\'', '\''] =
    ['\'', 'i', 't', '\'', '\'', 's', ' ', '{', '/', '/', '\n', '\'', '\'', '\'', '\'', '\''] := by decide

example : scan (N := N) CharClass.ascii
      ['\'', 'i', 't', '\'', '\'', 's', ' ', '{', '/', '/', '\n', '\'', '\'', '\'', '\'', '\''] =
    .ok [.literal (.str ['i', 't', '\'', 's', ' ', '{', '/', '/', '\n', '\'', '\''])] :=
  scan_string_literal CharClass.ascii_ok ['i', 't', '\'', 's', ' ', '{', '/', '/', '\n', '\'', '\'']

/-! ## 3. keywords in any letter case; identifiers keep their spelling -/

/-- every ASCII case variant `x` of a keyword `kw` (`asciiLower x = kw`) scans to the keyword's token
    (`true` / `false`: the boolean literal) -/
theorem keyword_case {cc : CharClass} (hcc : cc.AsciiOk) {x kw : Str} {t : Token N}
    (hkw : (kw, t) ∈ keywords N) (hx : Unicode.asciiLower x = kw) : scan cc x = .ok [t] :=
  scan_single hcc (keyword_variant_lexeme hcc hkw hx)

/-- an identifier-shaped text that is not a keyword scans to `identifier` with its exact spelling -/
theorem identifier_exact {cc : CharClass} (hcc : cc.AsciiOk) {x : Str} (hshape : identShape cc x = true)
    (hk : cc.lowerStr x ∉ keywordTexts) : scan (N := N) cc x = .ok [.identifier x] :=
  scan_single hcc (.ident hshape (kwToken_eq_none_iff.mpr hk))

example : scan (N := N) CharClass.ascii ['x', 'O', 'r'] = .ok [.xor] :=
  keyword_case CharClass.ascii_ok (kw := ['x', 'o', 'r']) (by simp [keywords]) (by decide)

example : scan (N := N) CharClass.ascii ['F', 'a', 'L', 'S', 'e'] = .ok [.literal (.bool false)] :=
  keyword_case CharClass.ascii_ok (kw := ['f', 'a', 'l', 's', 'e']) (by simp [keywords]) (by decide)

example : scan (N := N) CharClass.ascii ['_', 'A', 'n', 'd', 'Y', '1'] = .ok [.identifier ['_', 'A', 'n', 'd', 'Y', '1']] :=
  identifier_exact CharClass.ascii_ok (by decide) (by decide)

/-! ## 4. layout -/

/-- the one-token lemma: at a token boundary, a lexeme of `t` followed by text that does not continue it is
    read as `t` and leaves exactly that text (`ReadsAs`: `skipWs` stops at it and `nextToken` returns `(t, rest)`) -/
theorem one_token {cc : CharClass} (hcc : cc.AsciiOk) {t : Token N} {x : Str} (rest : Str)
    (hx : Lexeme cc t x) (hr : NoCont cc t x rest) : ReadsAs cc (x ++ rest) t rest :=
  lexeme_reads hcc rest hx hr

/-- The layout theorem.  For tokens t₁…tₙ (n ≥ 1) with spellings x₁…xₙ and separators s₀…sₙ, where the text after
    each lexeme does not continue it, and a trailing text (possibly an open comment):
    `scan (s₀ ++ x₁ ++ s₁ ++ … ++ xₙ ++ sₙ ++ trail) = ok [t₁, …, tₙ]`. -/
theorem scan_layout {cc : CharClass} (hcc : cc.AsciiOk) (items : List (Item N)) (s0 trail : Str)
    (hne : items ≠ []) (hs0 : IsSep s0) (hitems : ∀ i ∈ items, Lexeme cc i.tok i.text ∧ IsSep i.sep)
    (hjoin : Joinable cc items trail) (htrail : IsTrail trail) :
    scan cc (s0 ++ render items trail) = .ok (items.map (·.tok)) :=
  Scanner.scan_layout hcc items s0 trail hne hs0 hitems hjoin htrail

/-- a non-empty separator never continues the lexeme before it — unless it begins with `/` right after the
    token `/` (`SepFits`) -/
theorem sep_noCont {cc : CharClass} (hcc : cc.AsciiOk) (t : Token N) (x s rest : Str) (hs : IsSep s)
    (hne : s ≠ []) (hfit : SepFits t s) : NoCont cc t x (s ++ rest) :=
  noCont_sep hcc t x s rest hs hne hfit

/-- two lexemes may touch when `needsSep` is false -/
theorem adjacent_noCont {cc : CharClass} (hcc : cc.AsciiOk) {t t' : Token N} {x x' : Str} (rest : Str)
    (hx' : Lexeme cc t' x') (hn : needsSep t t' = false) : NoCont cc t x (x' ++ rest) := by
  obtain ⟨c, tl, he, hc⟩ := hx'.start
  rw [he]
  exact HeadNot.cons (fuse_start hcc _ _ _ _ hc hn)

/-- The layout theorem with the token-level side condition: separators sᵢ may be empty wherever
    `needsSep tᵢ tᵢ₊₁ = false`; a separator after the token `/` must not begin with `/`. -/
theorem scan_layout_tok {cc : CharClass} (hcc : cc.AsciiOk) (items : List (Item N)) (s0 trail : Str)
    (hne : items ≠ []) (hs0 : IsSep s0) (hitems : ∀ i ∈ items, Lexeme cc i.tok i.text ∧ IsSep i.sep)
    (hjoin : JoinableTok items trail) (htrail : IsTrail trail) :
    scan cc (s0 ++ render items trail) = .ok (items.map (·.tok)) :=
  Scanner.scan_layout hcc items s0 trail hne hs0 hitems (joinable_of_tok hcc items trail hitems htrail hjoin) htrail

/-- Consequently: two sources with the same tokens — whatever their whitespace, comments, keyword case or
    spelling of equal numbers — scan to the same result. -/
theorem layout_irrelevant {cc : CharClass} (hcc : cc.AsciiOk) (items items' : List (Item N))
    (s0 s0' trail trail' : Str) (hsame : items.map (·.tok) = items'.map (·.tok)) (hne : items ≠ [])
    (hs0 : IsSep s0) (hs0' : IsSep s0')
    (hitems : ∀ i ∈ items, Lexeme cc i.tok i.text ∧ IsSep i.sep)
    (hitems' : ∀ i ∈ items', Lexeme cc i.tok i.text ∧ IsSep i.sep)
    (hjoin : JoinableTok items trail) (hjoin' : JoinableTok items' trail')
    (htrail : IsTrail trail) (htrail' : IsTrail trail') :
    scan (N := N) cc (s0 ++ render items trail) = scan cc (s0' ++ render items' trail') := by
  have hne' : items' ≠ [] := by
    intro h; subst h; cases items with
    | nil => exact hne rfl
    | cons i r => simp at hsame
  rw [scan_layout_tok hcc items s0 trail hne hs0 hitems hjoin htrail,
    scan_layout_tok hcc items' s0' trail' hne' hs0' hitems' hjoin' htrail', hsame]

/-- the grammars are exactly what the skipping machine accepts (and decidable, for examples) -/
theorem isSep_iff (s : Str) : IsSep s ↔ sepB s = true := Scanner.isSep_iff s
theorem isTrail_iff (s : Str) : IsTrail s ↔ skipWs .code s = [] := Scanner.isTrail_iff s

section example_layout
variable (v : N) (hp : NumOps.parse (N := N) ['1', '.', '5'] = some v)

/-- the five lexemes of both example sources -/
def exItems (v : N) (s1 s2 s3 s4 s5 : Str) (kw : Str) : List (Item N) :=
  [ ⟨.identifier ['a'], ['a'], s1⟩, ⟨.lessEqual, ['<', '='], s2⟩, ⟨.literal (.num v), ['1', '.', '5'], s3⟩,
    ⟨.and, kw, s4⟩, ⟨.literal (.str ['i', 't', '\'', 's']), quote ['i', 't', '\'', 's'], s5⟩ ]

include hp in
theorem exLexemes (s1 s2 s3 s4 s5 kw : Str) (hkw : Unicode.asciiLower kw = ['a', 'n', 'd'])
    (hs : sepB s1 = true ∧ sepB s2 = true ∧ sepB s3 = true ∧ sepB s4 = true ∧ sepB s5 = true) :
    ∀ i ∈ exItems v s1 s2 s3 s4 s5 kw, Lexeme CharClass.ascii i.tok i.text ∧ IsSep i.sep := by
  intro i hi
  simp only [exItems, List.mem_cons, List.not_mem_nil, or_false] at hi
  rcases hi with rfl | rfl | rfl | rfl | rfl
  · exact ⟨.ident (show identShape CharClass.ascii ['a'] = true by decide) rfl, sepB_sound hs.1⟩
  · exact ⟨.punct (by simp [punct]), sepB_sound hs.2.1⟩
  · exact ⟨.num (show numShape CharClass.ascii ['1', '.', '5'] = true by decide) hp, sepB_sound hs.2.2.1⟩
  · exact ⟨keyword_variant_lexeme CharClass.ascii_ok (kw := ['a', 'n', 'd']) (by simp [keywords]) hkw, sepB_sound hs.2.2.2.1⟩
  · exact ⟨.str, sepB_sound hs.2.2.2.2⟩

omit [NumOps N] in
/-- the example lexemes may touch everywhere except `1.5` and the keyword after it -/
theorem exJoinable (v : N) (s1 s2 s3 s4 s5 kw trail : Str) (h : s3 ≠ []) : JoinableTok (exItems v s1 s2 s3 s4 s5 kw) trail := by
  simp [exItems, JoinableTok, needsSep, lexClass, startClass, SepFits, h]

include hp in
/-- source 1, tightly packed: `a<=1.5 aNd'it''s'` (only `1.5`·`aNd` needs the space) -/
example : scan CharClass.ascii
      ['a', '<', '=', '1', '.', '5', ' ', 'a', 'N', 'd', '\'', 'i', 't', '\'', '\'', 's', '\''] =
    .ok [.identifier ['a'], .lessEqual, .literal (.num v), .and, .literal (.str ['i', 't', '\'', 's'])] :=
  scan_layout_tok CharClass.ascii_ok (exItems v [] [] [' '] [] [] ['a', 'N', 'd']) [] [] (by simp [exItems]) .nil
    (exLexemes v hp _ _ _ _ _ _ (by decide) (by decide))
    (exJoinable v _ _ _ _ _ _ _ (by simp)) .nil

include hp in
/-- source 2, same lexemes with comments everywhere, other keyword case, and an open comment at the end:
    `{c}a <= // x⏎ 1.5 AND{n{e}s}'it''s' {open` -/
example : scan CharClass.ascii
      ['{', 'c', '}', 'a', ' ', '<', '=', ' ', '/', '/', ' ', 'x', '\n', ' ', '1', '.', '5', ' ', 'A', 'N', 'D',
       '{', 'n', '{', 'e', '}', 's', '}', '\'', 'i', 't', '\'', '\'', 's', '\'', ' ', '{', 'o', 'p', 'e', 'n'] =
    .ok [.identifier ['a'], .lessEqual, .literal (.num v), .and, .literal (.str ['i', 't', '\'', 's'])] :=
  scan_layout_tok CharClass.ascii_ok
    (exItems v [' '] [' ', '/', '/', ' ', 'x', '\n', ' '] [' '] ['{', 'n', '{', 'e', '}', 's', '}'] [' '] ['A', 'N', 'D'])
    ['{', 'c', '}'] ['{', 'o', 'p', 'e', 'n'] (by simp [exItems]) (sepB_sound (by decide))
    (exLexemes v hp _ _ _ _ _ _ (by decide) (by decide))
    (exJoinable v _ _ _ _ _ _ _ (by simp))
    ((isTrail_iff _).mpr (by decide))

/-- a place where the separator matters: `a /// b` is `a` followed by a comment, not `a / …` -/
example : scan (N := N) CharClass.ascii ['a', ' ', '/', '/', '/', ' ', 'b'] = .ok [.identifier ['a']] :=
  scan_layout_tok CharClass.ascii_ok [⟨.identifier ['a'], ['a'], [' ']⟩] [] ['/', '/', '/', ' ', 'b'] (by simp) .nil
    (by simp; exact ⟨.ident (by decide) rfl, sepB_sound (by decide)⟩)
    (by simp [JoinableTok, SepFits, lexClass]) ((isTrail_iff _).mpr (by decide))

include hp in
/-- the two sources above, compared directly -/
example : scan (N := N) CharClass.ascii
      (['{', 'c', '}'] ++ render (exItems v [' '] [' ', '/', '/', ' ', 'x', '\n', ' '] [' ']
        ['{', 'n', '{', 'e', '}', 's', '}'] [' '] ['A', 'N', 'D']) ['{', 'o', 'p', 'e', 'n']) =
    scan CharClass.ascii ([] ++ render (exItems v [] [] [' '] [] [] ['a', 'N', 'd']) []) :=
  layout_irrelevant (N := N) CharClass.ascii_ok
    (exItems v [' '] [' ', '/', '/', ' ', 'x', '\n', ' '] [' '] ['{', 'n', '{', 'e', '}', 's', '}'] [' '] ['A', 'N', 'D'])
    (exItems v [] [] [' '] [] [] ['a', 'N', 'd']) ['{', 'c', '}'] [] ['{', 'o', 'p', 'e', 'n'] []
    rfl (by simp [exItems]) (sepB_sound (by decide)) .nil
    (exLexemes v hp _ _ _ _ _ _ (by decide) (by decide)) (exLexemes v hp _ _ _ _ _ _ (by decide) (by decide))
    (exJoinable v _ _ _ _ _ _ _ (by simp))
    (exJoinable v _ _ _ _ _ _ _ (by simp))
    ((isTrail_iff _).mpr (by decide)) .nil

/-- `<` directly before `<=` is fine (`needsSep` false), and is read as `<` leaving `<= b` -/
example : ReadsAs (N := N) CharClass.ascii (['<'] ++ (['<', '='] ++ [' ', 'b'])) .less (['<', '='] ++ [' ', 'b']) :=
  one_token CharClass.ascii_ok _ (.punct (by simp [punct]))
    (adjacent_noCont CharClass.ascii_ok _ (.punct (t := .lessEqual) (by simp [punct])) rfl)

/-- a comment directly after a number does not continue it -/
example (x : N) : NoCont CharClass.ascii (.literal (.num x)) ['1'] (['{', '}'] ++ ['.', '5']) :=
  sep_noCont CharClass.ascii_ok _ _ _ _ (sepB_sound (by decide)) (by simp) (by simp [SepFits, lexClass])

end example_layout

/-! ## 5. number literals -/

/-- A decimal number literal — digits, digits., .digits, digits.digits over ASCII digits — scans to the number
    `x` exactly when Rust's `str::parse::<f64>` (the `NumOps.parse` of the model, tied to the real parser by the
    `num` stream) yields `x`: the literal denotes what the parser says, i.e. the nearest double. -/
theorem scan_number {cc : CharClass} (hcc : cc.AsciiOk) {text : Str} (ht : DecimalText text) (x : N) :
    scan cc text = .ok [.literal (.num x)] ↔ NumOps.parse text = some x := by
  rw [scan_numShape hcc (decimal_numShape hcc ht)]
  cases NumOps.parse (N := N) text with
  | none => simp
  | some w => simp

/-- and if the parse fails (it cannot, for the real parser, on these four shapes) the result is `InvalidNumber` -/
theorem scan_number_invalid {cc : CharClass} (hcc : cc.AsciiOk) {text : Str} (hs : numShape cc text = true)
    (hp : NumOps.parse (N := N) text = none) : scan (N := N) cc text = .err .invalidNumber := by
  rw [scan_numShape hcc hs, hp]

example (x : N) : scan CharClass.ascii ['3', '0', '.'] = .ok [.literal (.num x)] ↔
    NumOps.parse ['3', '0', '.'] = some x :=
  scan_number CharClass.ascii_ok (.intDot (a := ['3', '0']) (by simp) (by decide)) x

example (x : N) : scan CharClass.ascii ['.', '4', '2'] = .ok [.literal (.num x)] ↔
    NumOps.parse ['.', '4', '2'] = some x :=
  scan_number CharClass.ascii_ok (.dotFrac (by simp) (by decide)) x

example (x : N) : scan CharClass.ascii ['2', '0', '.', '4'] = .ok [.literal (.num x)] ↔
    NumOps.parse ['2', '0', '.', '4'] = some x :=
  scan_number CharClass.ascii_ok (.intFrac (a := ['2', '0']) (b := ['4']) (by simp) (by simp) (by decide) (by decide)) x

end Slac.C02
