/-
  C01 / C02 — the translator leg of the tie.  `SlacModel/Generated/Grammar.lean` is REGENERATED on every check run
  by /verif/tools/translate.py from the current text of src/token.rs, operator.rs, scanner.rs, compiler.rs.
  The theorems below say that the hand-written model of the scanner and the Pratt parser is exactly those source
  tables plugged into the skeleton: token → precedence, `Precedence::next`, token → operator, the prefix / infix
  dispatch, the levels `expression()`, `unary()` and `binary()` parse at, the loop condition, the keyword table and
  its case folding, and the punctuation tables.  A change of any of these in the source changes the generated file
  and breaks one of these proofs (proof obligation), independently of the behavioural comparison.
-/
import SlacModel.Generated.Grammar
import SlacModel.Parser
import SlacModel.Scanner
set_option autoImplicit false
namespace Slac.C01Source
open Slac.Generated Slac.Parser
variable {N : Type}

/-- token → precedence is the table of `impl From<&Token> for Precedence` -/
theorem prec_is_source (t : Token N) : Token.prec t = Grammar.tokenPrec t := by cases t <;> rfl

/-- every level the table mentions exists in `enum Precedence` -/
theorem prec_in_range (t : Token N) : Grammar.tokenPrec t < Grammar.precCount := by
  cases t <;> exact Nat.le_of_ble_eq_true rfl

/-- `nextPrec` is `Precedence::next` on all levels of the enum -/
theorem next_is_source : ∀ p, p < Grammar.precCount → nextPrec p = Grammar.precNext p := by decide

/-- the operator of a binary node: `do_infix` sends exactly the tokens of kind 0 to `binary`, which converts the token
    with `Operator::try_from` -/
theorem binop_is_source (t : Token N) :
    Token.binOp? t = if Grammar.infixKind t = 0 then Grammar.tokenOperator t else none := by cases t <;> rfl

/-- `do_prefix`, arm by arm, with the levels taken from the source -/
theorem prefix_is_source (f : Nat) (t : Token N) (rest : List (Token N)) :
    (Grammar.prefixKind t = 0 → ∃ v, t = .literal v ∧ doPrefix (f + 1) t rest = .ok (.lit v, rest)) ∧
    (Grammar.prefixKind t = 1 → ∃ s, t = .identifier s ∧ doPrefix (f + 1) t rest = .ok (.var s, rest)) ∧
    (Grammar.prefixKind t = 2 → doPrefix (f + 1) t rest =
        andThen (parsePrec f Grammar.entryLevel rest) fun x => chompParen x.1 x.2) ∧
    (Grammar.prefixKind t = 3 → doPrefix (f + 1) t rest =
        andThen (exprList f false rest) fun x => .ok (.array x.1, x.2)) ∧
    (Grammar.prefixKind t = 4 → ∃ op, Grammar.tokenOperator t = some op ∧ doPrefix (f + 1) t rest =
        andThen (parsePrec f Grammar.unaryOperandLevel rest) fun x => .ok (.unary x.1 op, x.2)) ∧
    (Grammar.prefixKind t = 5 → doPrefix (f + 1) t rest = .err (.noValidPrefixToken t)) := by
  cases t
  case literal v => exact ⟨fun _ => ⟨v, rfl, rfl⟩, nofun, nofun, nofun, nofun, nofun⟩
  case identifier s => exact ⟨nofun, fun _ => ⟨s, rfl, rfl⟩, nofun, nofun, nofun, nofun⟩
  case leftParen => exact ⟨nofun, nofun, fun _ => rfl, nofun, nofun, nofun⟩
  case leftBracket => exact ⟨nofun, nofun, nofun, fun _ => rfl, nofun, nofun⟩
  case not | minus => exact ⟨nofun, nofun, nofun, nofun, fun _ => ⟨_, rfl, rfl⟩, nofun⟩
  all_goals exact ⟨nofun, nofun, nofun, nofun, nofun, fun _ => rfl⟩

/-- `do_infix`, arm by arm: binary operators parse their right operand one level above their own (left
    associativity) iff the source says `.next()` -/
theorem infix_is_source (f : Nat) (t : Token N) (left : Expr N) (rest : List (Token N)) :
    (Grammar.infixKind t = 0 → ∃ op, Grammar.tokenOperator t = some op ∧ doInfix (f + 1) t left rest =
        andThen (parsePrec f (if Grammar.binaryOperandNext then Grammar.precNext (Grammar.tokenPrec t) else Grammar.tokenPrec t) rest)
          fun x => .ok (.binary left x.1 op, x.2)) ∧
    (Grammar.infixKind t = 1 → doInfix (f + 1) t left rest =
        match left with
        | .var name => andThen (exprList f true rest) fun x => .ok (.call name x.1, x.2)
        | _ => .err (.callNotOnVariable t)) ∧
    (Grammar.infixKind t = 2 → doInfix (f + 1) t left rest = .err (.noValidInfixToken t)) := by
  cases t
  case minus | plus | star | slash | div | mod | equal | notEqual | greater | greaterEqual | less | lessEqual | and | or | xor =>
    exact ⟨fun _ => ⟨_, rfl, rfl⟩, nofun, nofun⟩
  case leftParen => exact ⟨nofun, fun _ => by cases left <;> rfl, nofun⟩
  all_goals exact ⟨nofun, nofun, fun _ => rfl⟩

/-- the `while` loop of `parse_precedence` continues exactly under the source's condition -/
theorem loop_is_source (f p : Nat) (left : Expr N) (t : Token N) (rest : List (Token N)) :
    infixLoop (f + 1) p left (t :: rest) =
      if (if Grammar.loopAbsorbsEqual then decide (p ≤ Grammar.tokenPrec t) else decide (p < Grammar.tokenPrec t)) then
        andThen (doInfix f t left rest) fun x => infixLoop f p x.1 x.2
      else .ok (left, t :: rest) := by
  rw [infixLoop.eq_def]; simp only [prec_is_source, Grammar.loopAbsorbsEqual, if_true, decide_eq_true_eq]

/-- list items, the grouping and the whole input are parsed at the level `expression()` uses -/
theorem entry_is_source (toks : List (Token N)) (f : Nat) (b : Bool) (t : Token N) (rest : List (Token N)) :
    parse toks = finish (parsePrec (parseFuel toks.length) Grammar.entryLevel toks) ∧
    (isClose b t = false → exprList (f + 1) b (t :: rest) =
      andThen (parsePrec f Grammar.entryLevel (t :: rest)) fun x =>
        andThen (exprList f b (dropComma x.2)) fun y => .ok (x.1 :: y.1, y.2)) := by
  refine ⟨rfl, fun h => ?_⟩
  rw [exprList.eq_def]; simp only [h, Grammar.entryLevel]; rfl

/-- the keyword table and its folding (the model lower-cases with the `CharClass`'s `to_lowercase`) -/
theorem keywords_are_source : Scanner.keywords N = Grammar.keywords N ∧ Grammar.keywordFolding = .lower := ⟨rfl, rfl⟩

/-- punctuation: a character with a direct arm in `match next` gives that token (when it is not an identifier start
    or numeric character, which `next_token` tests first) -/
theorem punctuation_is_source [NumOps N] (cc : Scanner.CharClass) (c : Char) (cs : Str) (t : Token N)
    (h : Grammar.charToken c = some t) (h1 : Scanner.isIdentStart cc c = false) (h2 : cc.isNumeric c = false) :
    Scanner.nextToken (N := N) cc c cs = .ok (t, cs) := by
  unfold Grammar.charToken at h
  split at h <;> first | (cases h; simp [Scanner.nextToken, h1, h2]) | cases h

/-- the arms of `match next` that call a scanner method, and the two-character operator tables -/
theorem methods_are_source :
    Grammar.charMethod = [('\'', 0), ('.', 1), ('>', 2), ('<', 3)] ∧
    (∀ cs : Str, Scanner.greater (N := N) cs = match cs with
      | c :: r => (match (Grammar.greaterTable (N := N)).1.lookup c with | some t => (t, r) | none => ((Grammar.greaterTable (N := N)).2, cs))
      | [] => ((Grammar.greaterTable (N := N)).2, cs)) ∧
    (∀ cs : Str, Scanner.lesser (N := N) cs = match cs with
      | c :: r => (match (Grammar.lesserTable (N := N)).1.lookup c with | some t => (t, r) | none => ((Grammar.lesserTable (N := N)).2, cs))
      | [] => ((Grammar.lesserTable (N := N)).2, cs)) := by
  refine ⟨rfl, ?_, ?_⟩
  · intro cs; cases cs with
    | nil => rfl
    | cons c r =>
      by_cases h : c = '='
      · subst h; rfl
      · have e : (c == '=') = false := by simp [h]
        simp [Scanner.greater, Grammar.greaterTable, List.lookup, h, e]
  · intro cs; cases cs with
    | nil => rfl
    | cons c r =>
      by_cases h : c = '='
      · subst h; rfl
      · have e : (c == '=') = false := by simp [h]
        by_cases h' : c = '>'
        · subst h'; rfl
        · have e' : (c == '>') = false := by simp [h']
          simp [Scanner.lesser, Grammar.lesserTable, List.lookup, h, h', e, e']

end Slac.C01Source
