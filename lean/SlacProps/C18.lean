/-
  C18 — regex builtins are mutually consistent and fail cleanly on bad patterns.
  PARTIAL about the crate.  The wrappers of src/stdlib/regex.rs are modelled over an abstract `Engine`; every
  sentence of the property is proved RELATIVE to explicitly stated engine laws (`LawfulEngine`), except
  `invalid_pattern`, which needs none.  The laws are theorems for the model of regex-lite (SlacProps.C18Engine) and
  are sampled as tests of the library by the `relaw` stream.
-/
import SlacModel.Regex
set_option autoImplicit false
namespace Slac.C18
open Slac.Regex
open Slac.Stdlib (Res defaultString defaultNumber)
variable {N : Type} [NumX N] {Re : Type}

/-- what the property needs from the engine (regex-lite's documented behaviour) -/
structure LawfulEngine (E : Engine Re) : Prop where
  isMatch_iff : ∀ re h, E.isMatch re h = !(E.findIter re h).isEmpty
  captures_none : ∀ re h, E.captures re h = none ↔ E.findIter re h = []
  captures_some : ∀ re h cs, E.captures re h = some cs →
      cs.length = E.capturesLen re ∧ ∃ m ms, E.findIter re h = m :: ms ∧ cs.head? = some (some m)
  capturesLen_pos : ∀ re, 0 < E.capturesLen re

set_option linter.unusedSectionVars false in
/-- `re_is_match` is true iff `re_find` returns at least one match. -/
theorem is_match_iff_find (E : Engine Re) (hE : LawfulEngine E) (h p : Str) (b : Bool) (ms : List (Value N))
    (h1 : isMatch E [.str h, .str p] = (.ok (.bool b) : Res N)) (h2 : Regex.find E [.str h, .str p] = .ok (.arr ms)) :
    (b = true ↔ ms ≠ []) := by
  simp only [isMatch, Regex.find, withRe] at h1 h2
  cases hc : E.compile p with
  | error msg => rw [hc] at h1; cases h1
  | ok re =>
    rw [hc] at h1 h2
    simp only [Except.ok.injEq, Value.bool.injEq, Value.arr.injEq] at h1 h2
    subst h1; subst h2
    rw [hE.isMatch_iff]
    cases E.findIter re h <;> simp

set_option linter.unusedSectionVars false in
/-- `re_capture`: when nothing matches, a list of `captures_len` empty strings; when something matches, one entry per
    group, the first being the first match `re_find` reports. -/
theorem capture_shape (E : Engine Re) (hE : LawfulEngine E) (h p : Str) (re : Re) (hc : E.compile p = .ok re) :
    ∃ out : List (Value N), capture E [.str h, .str p] = .ok (.arr out) ∧ out.length = E.capturesLen re ∧
      ((E.findIter re h = [] ∧ out = List.replicate (E.capturesLen re) (.str [])) ∨
       (∃ m ms, E.findIter re h = m :: ms ∧ out.head? = some (.str m))) := by
  simp only [capture, withRe, hc]
  cases hcap : E.captures re h with
  | none =>
    refine ⟨_, rfl, by simp, .inl ⟨(hE.captures_none re h).mp hcap, rfl⟩⟩
  | some cs =>
    obtain ⟨hl, m, ms, hf, hh⟩ := hE.captures_some re h cs hcap
    refine ⟨_, rfl, by simp [hl], .inr ⟨m, ms, hf, ?_⟩⟩
    cases cs with
    | nil => simp at hh
    | cons c cs' => simp only [List.head?_cons, Option.some.injEq] at hh; subst hh; rfl

/-- the unmatched case and the matched case return lists of the same length -/
theorem capture_same_length (E : Engine Re) (hE : LawfulEngine E) (h h' p : Str) (re : Re) (hc : E.compile p = .ok re)
    (o o' : List (Value N)) (h1 : capture E [.str h, .str p] = .ok (.arr o)) (h2 : capture E [.str h', .str p] = .ok (.arr o')) :
    o.length = o'.length := by
  obtain ⟨x, hx, hl, _⟩ := capture_shape (N := N) E hE h p re hc
  obtain ⟨y, hy, hl', _⟩ := capture_shape (N := N) E hE h' p re hc
  rw [hx] at h1; rw [hy] at h2
  cases h1; cases h2; omega

/-- An invalid pattern yields an error value from every wrapper — no engine law needed. -/
theorem invalid_pattern (E : Engine Re) (h p : Str) (msg : Str) (hc : E.compile p = .error msg) (rest : List (Value N)) :
    isMatch E [.str h, .str p] = (.error (.custom msg) : Res N) ∧
    Regex.find E [.str h, .str p] = (.error (.custom msg) : Res N) ∧
    capture E [.str h, .str p] = (.error (.custom msg) : Res N) ∧
    (∀ r, Regex.replace E (.str h :: .str p :: rest) = (.ok r : Res N) → False) := by
  refine ⟨by simp [isMatch, withRe, hc], by simp [Regex.find, withRe, hc], by simp [capture, withRe, hc], ?_⟩
  intro r hr
  simp only [Regex.replace] at hr
  split at hr
  · cases hr
  · split at hr
    · cases hr
    · simp [withRe, hc] at hr

/-- `re_replace`: the limit argument is `usize_from_f64` of the 4th parameter (default 0 = all matches), the
    replacement defaults to the empty string; the wrapper adds nothing else to the engine's `replacen`. -/
theorem replace_is_replacen (E : Engine Re) (h p : Str) (re : Re) (hc : E.compile p = .ok re) :
    Regex.replace E [.str h, .str p] = (.ok (.str (E.replacen re h (NumX.floorUsize (NumOps.zero : N)) [])) : Res N) ∧
    (∀ rep, Regex.replace E [.str h, .str p, .str rep] = (.ok (.str (E.replacen re h (NumX.floorUsize (NumOps.zero : N)) rep)) : Res N)) ∧
    (∀ rep (n : N), Regex.replace E [.str h, .str p, .str rep, .num n] = (.ok (.str (E.replacen re h (NumX.floorUsize n) rep)) : Res N)) := by
  refine ⟨?_, ?_, ?_⟩ <;> intros <;> simp [Regex.replace, defaultString, defaultNumber, withRe, hc]

/-- engine law for replacement with plain text: splice the replacement for the first n matches (all when n = 0) -/
def ReplacenSplices (E : Engine Re) (splice : Str → List Str → Nat → Str → Str) : Prop :=
  ∀ re h n rep, E.replacen re h n rep = splice h (E.findIter re h) n rep

/-- relative to that law: with limit n only the first n of the matches `re_find` reports are rewritten, with
    limit 0 (or absent) all of them — `re_replace` is a function of `re_find`'s answer. -/
theorem replace_rewrites_found_matches (E : Engine Re) (splice : Str → List Str → Nat → Str → Str)
    (hS : ReplacenSplices E splice) (h p rep : Str) (re : Re) (hc : E.compile p = .ok re) (n : N)
    (ms : List (Value N)) (hf : Regex.find E [.str h, .str p] = .ok (.arr ms)) :
    ms = (E.findIter re h).map .str ∧
    Regex.replace E [.str h, .str p, .str rep, .num n] = (.ok (.str (splice h (E.findIter re h) (NumX.floorUsize n) rep)) : Res N) := by
  simp only [Regex.find, withRe, hc, Except.ok.injEq, Value.arr.injEq] at hf
  refine ⟨hf.symm, ?_⟩
  rw [(replace_is_replacen (N := N) E h p re hc).2.2 rep n, hS]

/-- engine law for escaped literals: the matches are the leftmost non-overlapping occurrences of the literal -/
def LiteralLaw (E : Engine Re) (escape : Str → Str) : Prop :=
  ∀ lit re h, E.compile (escape lit) = .ok re →
    (E.findIter re h).length = Seq.countOcc lit h ∧ (∀ rep, E.replacen re h 0 rep = Seq.replaceSeq lit rep h)

theorem literal_pattern_of (E : Engine Re) (hE : LawfulEngine E) (hz : NumX.floorUsize (NumOps.zero : N) = 0)
    (lit p h rep : Str) (re : Re) (hc : E.compile p = .ok re) (hlen : (E.findIter re h).length = Seq.countOcc lit h)
    (hrep : E.replacen re h 0 rep = Seq.replaceSeq lit rep h) :
    isMatch E [.str h, .str p] = (Stdlib.contains [.str h, .str lit] : Res N) ∧
    (∃ ms, Regex.find E [.str h, .str p] = (.ok (.arr ms) : Res N) ∧ Stdlib.count [.str h, .str lit] = (.ok (.num (NumX.ofNat ms.length)) : Res N)) ∧
    Regex.replace E [.str h, .str p, .str rep] = (Stdlib.replace [.str h, .str lit, .str rep] : Res N) := by
  refine ⟨?_, ?_, ?_⟩
  · simp only [isMatch, withRe, hc, Stdlib.contains, hE.isMatch_iff, Seq.containsSeq, ← hlen]
    cases E.findIter re h <;> simp
  · exact ⟨(E.findIter re h).map .str, by simp [Regex.find, withRe, hc], by simp [Stdlib.count, hlen]⟩
  · rw [(replace_is_replacen (N := N) E h p re hc).2.1 rep, hz, hrep]
    simp [Stdlib.replace, defaultString]

/-- relative to the literal law: an escaped literal behaves like `contains`, `count` and `replace` on that literal. -/
theorem literal_pattern (E : Engine Re) (hE : LawfulEngine E) (escape : Str → Str) (hL : LiteralLaw E escape)
    (hz : NumX.floorUsize (NumOps.zero : N) = 0)
    (lit h rep : Str) (re : Re) (hc : E.compile (escape lit) = .ok re) :
    isMatch E [.str h, .str (escape lit)] = (Stdlib.contains [.str h, .str lit] : Res N) ∧
    (∃ ms, Regex.find E [.str h, .str (escape lit)] = (.ok (.arr ms) : Res N) ∧ Stdlib.count [.str h, .str lit] = (.ok (.num (NumX.ofNat ms.length)) : Res N)) ∧
    Regex.replace E [.str h, .str (escape lit), .str rep] = (Stdlib.replace [.str h, .str lit, .str rep] : Res N) :=
  literal_pattern_of E hE hz lit _ h rep re hc (hL lit re h hc).1 ((hL lit re h hc).2 rep)

/-- Non-vacuity: a toy engine (the pattern is a single character, anchored at the start of the haystack)
    satisfies the laws. -/
def toyEngine : Engine Char where
  compile := fun p => match p with | [c] => .ok c | _ => .error ['b','a','d']
  isMatch := fun c h => h.head? == some c
  findIter := fun c h => if h.head? == some c then [[c]] else []
  captures := fun c h => if h.head? == some c then some [some [c]] else none
  capturesLen := fun _ => 1
  replacen := fun c h _ rep => if h.head? == some c then rep ++ h.tail else h

example : LawfulEngine toyEngine where
  isMatch_iff := by intro c h; simp only [toyEngine]; split <;> simp_all
  captures_none := by intro c h; simp only [toyEngine]; split <;> simp_all
  captures_some := by
    intro c h cs hcs; simp only [toyEngine] at hcs ⊢
    split at hcs
    · cases hcs; rename_i hm; exact ⟨rfl, [c], [], by simp [hm], rfl⟩
    · cases hcs
  capturesLen_pos := by intro _; simp [toyEngine]

example : Regex.isMatch (N := Float) toyEngine [.str ['a','b'], .str ['a']] = .ok (.bool true) := rfl
example : Regex.isMatch (N := Float) toyEngine [.str ['a','b'], .str ['a','b']] = .error (.custom ['b','a','d']) := rfl

end Slac.C18
