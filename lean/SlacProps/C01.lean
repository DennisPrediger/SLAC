/-
  C01 (parser half) — compiling inverts rendering.

  "For every expression tree that can be written in source syntax, rendering it to text — fully parenthesised, or with
  only the parentheses required by the documented precedence order (or < and < xor < equality < comparison < additive
  < multiplicative < unary < call) and left-associativity of binary operators — and compiling that text yields exactly
  that tree.  Conversely, whenever compile accepts a text, re-rendering the tree it produced and compiling again
  reproduces the same tree."

  This file is the token-level half (`Compiler::compile_ast`, modelled by `Slac.Parser.parse`); the text level
  (scanner / un-lexer) is a separate file.

  * "every parenthesisation style" is the judgement `Rn 1 e ts` of SlacModel.Render: required parentheses present,
    any number of redundant ones anywhere.  `renderMin` (only required) and `renderFull` (all) are two instances.
  * "every source-expressible tree" is `SrcExpr e`: unary ∈ {minus, not}, binary ∈ the 15 binary operators, no ternary
    node, arbitrary literal values and names, arrays and calls of any length, any shape and depth.
  * `parse` runs the model with the fixed fuel `4 * length + 4`; no theorem below has a fuel side condition.
-/
import SlacProofs.ParserKey
import SlacProofs.ParserRender
set_option autoImplicit false
namespace Slac.C01
open Slac.Parser Slac.Render
variable {N : Type}

/-- Pratt-loop lemma at top level: some fuel parses a rendering of `e` to exactly `e`, consuming everything. -/
theorem parse_of_renders {e : Expr N} {ts : List (Token N)} (h : Rn 1 e ts) :
    ∃ f, parsePrec f 1 ts = .ok (e, []) := by
  have := key_rn h 1 [] (Nat.le_refl _) (by omega) (Nat.zero_le _) (Nat.zero_le _) 1 (e, []) rfl
  rwa [List.append_nil] at this

/-- … and so does the fixed fuel of `parse` (no hypothesis on `e` needed: `Rn` only renders source trees). -/
theorem parse_rendering {e : Expr N} {ts : List (Token N)} (h : Rn 1 e ts) : parse ts = .ok e := by
  obtain ⟨f, hf⟩ := parse_of_renders h
  rw [parse_eq_ok, parsePrec_agree (fine_of_eq_ok hf) (parsePrec_fine (parseFuel_ge _)), hf]

theorem parse_renders {e : Expr N} {ts : List (Token N)} (_ : SrcExpr e) (h : Rn 1 e ts) : parse ts = .ok e :=
  parse_rendering h

/-- what `Rn` can render is exactly the source-expressible trees (⊆ here, ⊇ is `renderMin_renders`) -/
theorem renders_src {q : Nat} {e : Expr N} {ts : List (Token N)} (h : Rn q e ts) : SrcExpr e := by
  obtain ⟨f, hf⟩ := key_rn h 0 [] (Nat.zero_le _) (Nat.zero_le _) (Nat.zero_le _) (Nat.zero_le _) 1 (e, []) rfl
  exact parser_wf hf

theorem renderMin_renders {e : Expr N} (h : SrcExpr e) : Rn 1 e (renderMin e) := renderAt_renders 1 h

theorem renderFull_renders {e : Expr N} (h : SrcExpr e) : Rn 1 e (renderFull e) :=
  renderFull_full e h 1 (by omega)

theorem parse_renderMin {e : Expr N} (h : SrcExpr e) : parse (renderMin e) = .ok e :=
  parse_renders h (renderMin_renders h)

theorem parse_renderFull {e : Expr N} (h : SrcExpr e) : parse (renderFull e) = .ok e :=
  parse_renders h (renderFull_renders h)

theorem parse_wf {ts : List (Token N)} {e : Expr N} (h : parse ts = .ok e) : SrcExpr e :=
  parser_wf (parse_eq_ok.1 h)

theorem reparse {ts : List (Token N)} {e : Expr N} (h : parse ts = .ok e) : parse (renderMin e) = .ok e :=
  parse_renderMin (parse_wf h)

theorem reparse_full {ts : List (Token N)} {e : Expr N} (h : parse ts = .ok e) : parse (renderFull e) = .ok e :=
  parse_renderFull (parse_wf h)

/-- any re-rendering, not just the two executable ones -/
theorem reparse_any {ts ts' : List (Token N)} {e : Expr N} (_ : parse ts = .ok e) (h' : Rn 1 e ts') :
    parse ts' = .ok e :=
  parse_rendering h'

/-- consequently two renderings of different trees are different token lists -/
theorem renders_injective {e e' : Expr N} {ts : List (Token N)} (h : Rn 1 e ts) (h' : Rn 1 e' ts) : e = e' := by
  have h1 := parse_rendering h
  rw [parse_rendering h'] at h1
  cases h1; rfl

section tests
private abbrev a : Expr Nat := .var ['a']
private abbrev b : Expr Nat := .var ['b']
private abbrev c : Expr Nat := .var ['c']
private abbrev ta : Token Nat := .identifier ['a']
private abbrev tb : Token Nat := .identifier ['b']
private abbrev tc : Token Nat := .identifier ['c']

/- left associativity, `a - b - c` = `(a - b) - c` -/
example : parse [ta, .minus, tb, .minus, tc] = .ok (.binary (.binary a b .minus) c .minus) := rfl
/- `a - (b - c)` keeps its parentheses -/
example : parse [ta, .minus, .leftParen, tb, .minus, tc, .rightParen] = .ok (.binary a (.binary b c .minus) .minus) := rfl
example : renderMin (.binary a (.binary b c .minus) .minus) = [ta, .minus, .leftParen, tb, .minus, tc, .rightParen] := rfl
example : renderMin (.binary (.binary a b .minus) c .minus) = [ta, .minus, tb, .minus, tc] := rfl
/- precedence, `a + b * c` = `a + (b * c)`, `a * b + c` = `(a * b) + c` -/
example : parse [ta, .plus, tb, .star, tc] = .ok (.binary a (.binary b c .multiply) .plus) := rfl
example : parse [ta, .star, tb, .plus, tc] = .ok (.binary (.binary a b .multiply) c .plus) := rfl
/- `not a and b` = `(not a) and b`;  `-a * b` = `(-a) * b` -/
example : parse [.not, ta, .and, tb] = .ok (.binary (.unary a .not) b .and) := rfl
example : parse [.minus, ta, .star, tb] = .ok (.binary (.unary a .minus) b .multiply) := rfl
/- `not (a and b)` needs its parentheses -/
example : renderMin (.unary (.binary a b .and) .not) = [.not, .leftParen, ta, .and, tb, .rightParen] := rfl
/- or < and < xor < equality < comparison -/
example : parse [ta, .or, tb, .and, tc] = .ok (.binary a (.binary b c .and) .or) := rfl
example : parse [ta, .and, tb, .xor, tc] = .ok (.binary a (.binary b c .xor) .and) := rfl
example : parse [ta, .xor, tb, .equal, tc] = .ok (.binary a (.binary b c .equal) .xor) := rfl
example : parse [ta, .equal, tb, .less, tc] = .ok (.binary a (.binary b c .less) .equal) := rfl
example : parse [ta, .less, tb, .plus, tc] = .ok (.binary a (.binary b c .plus) .less) := rfl
example : parse [ta, .star, tb, .div, tc] = .ok (.binary (.binary a b .multiply) c .div) := rfl
/- calls and arrays; commas are optional and a trailing comma is accepted (quirk of expression_list) -/
example : parse [ta, .leftParen, tb, .comma, tc, .rightParen] = .ok (.call ['a'] [b, c]) := rfl
example : parse [ta, .leftParen, tb, tc, .comma, .rightParen] = .ok (.call ['a'] [b, c]) := rfl
example : parse [.leftBracket, .rightBracket] = .ok (.array ([] : List (Expr Nat))) := rfl
example : parse [.leftBracket, ta, .comma, .leftBracket, tb, .rightBracket, .rightBracket]
    = .ok (.array [a, .array [b]]) := rfl
/- the error values of compiler.rs -/
example : parse ([] : List (Token Nat)) = .err .eof := rfl
example : parse ([.minus] : List (Token Nat)) = .err .eof := rfl
example : parse [ta, .plus] = .err .eof := rfl
example : parse [.leftParen, ta] = .err .eof := rfl
example : parse [ta, .leftParen] = .err .eof := rfl
example : parse [.leftBracket, ta] = .err .eof := rfl
example : parse [ta, tb] = .err (.multipleExpressions tb) := rfl
example : parse [ta, .rightParen] = .err (.multipleExpressions .rightParen) := rfl
example : parse [.leftParen, ta, tb] = .err (.invalidToken tb) := rfl
example : parse ([.leftBracket, .comma, .rightBracket] : List (Token Nat)) = .err (.noValidPrefixToken .comma) := rfl
example : parse ([.star] : List (Token Nat)) = .err (.noValidPrefixToken .star) := rfl
example : parse ([.literal (.num 1), .leftParen, .rightParen] : List (Token Nat))
    = .err (.callNotOnVariable .leftParen) := rfl
example : parse [.leftParen, ta, .plus, tb, .rightParen, .leftParen, .rightParen]
    = .err (.callNotOnVariable .leftParen) := rfl
/- quirk: a parenthesised variable can still be called, `(a)(b)` = `a(b)`; no rendering has this shape -/
example : parse [.leftParen, ta, .rightParen, .leftParen, tb, .rightParen] = .ok (.call ['a'] [b]) := rfl

/- a rendering with redundant parentheses, `((a)) - (b - (c))`, is an `Rn 1` and parses (hypotheses of
   `parse_renders` are satisfiable by something that is neither `renderMin` nor `renderFull`) -/
example : Rn 1 (.binary a (.binary b c .minus) .minus)
    [.leftParen, .leftParen, ta, .rightParen, .rightParen, .minus,
     .leftParen, tb, .minus, .leftParen, tc, .rightParen, .rightParen] :=
  .bare (by decide)
    (.binary (t := .minus) (tl := [.leftParen, .leftParen, ta, .rightParen, .rightParen])
      (tr := [.leftParen, tb, .minus, .leftParen, tc, .rightParen, .rightParen]) rfl
      (.paren (ts := [.leftParen, ta, .rightParen]) (.paren (ts := [ta]) (.bare (by decide) (.var _))))
      (.paren (ts := [tb, .minus, .leftParen, tc, .rightParen])
        (.bare (by decide) (.binary (t := .minus) (tl := [tb]) (tr := [.leftParen, tc, .rightParen]) rfl
          (.bare (by decide) (.var _)) (.paren (ts := [tc]) (.bare (by decide) (.var _)))))))

/- instances of the theorems on a tree with every constructor -/
private def big : Expr Nat :=
  .binary (.unary (.call ['f'] [.array [a, .lit (.bool true)], .binary a b .or]) .not)
    (.binary (.lit (.str ['x'])) (.binary b c .mod) .minus) .and
example : SrcExpr big := by decide
example : parse (renderMin big) = .ok big := parse_renderMin (by decide)
example : parse (renderFull big) = .ok big := parse_renderFull (by decide)
example : (renderMin big).length = 19 ∧ (renderFull big).length = 29 := by decide
/- trees outside `SrcExpr` (ternary node; `not` as a binary operator) do not round-trip, so the hypothesis is needed -/
example : ¬ SrcExpr (.ternary a b c .ternaryCondition : Expr Nat) := by decide
example : ¬ SrcExpr (.binary a b .not : Expr Nat) := by decide
end tests

end Slac.C01
