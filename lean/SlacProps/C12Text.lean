/-
  C12 through JSON TEXT — for the concrete text layer (`serde_json::to_string` / `serde_json::from_str`, model:
  SlacModel.JsonText) the hypothesis of `C12.json_roundtrip_text`, `parse (print j) = some j`, holds exactly for the
  printable values nested at most 127 deep (`json_roundtrip_text_hyp`), which covers the JSON of every tree that deep.
  * `parse_print_string`: every list of Unicode scalar values survives escaping and reading back;
  * `parse_print_number`: every finite double survives printing (shortest digits, zmij/ryu layout) and reading back
    (nearest double) — bit for bit;
  * `parse_print`: `parseJson (printJson j) = some j` for every JSON value with finite numbers, in-range integer nodes
    and nesting depth ≤ 127;  `parse_print_too_deep`: from depth 128 on `from_str` FAILS (serde_json's recursion limit);
  * `json_roundtrip_text_concrete`: C12 through text for every tree with finite literals and `exprDepth e ≤ 127`, with no
    hypothesis about the text layer;  `json_text_too_deep`: for deeper trees the stored text does not load — the
    text half of C12 is false for them (the in-memory half, `C12.json_roundtrip`, is unaffected).
  Tie: the driver prints `printJson (Json.ofExpr jnFloat e)` and the harness compares it byte for byte with
  `serde_json::to_string`.
-/
import SlacProps.C12
import SlacProofs.JsonText
set_option autoImplicit false
namespace Slac.C12
open Slac.Json Slac.JsonText Slac.F64

/-- strings: the string reader returns the contents of the printed literal — for EVERY list of Unicode scalar
    values (quotes, backslashes, control characters, U+007F, U+2028, non-BMP, …) — and stops right after it -/
theorem parse_print_string (s rest : Str) : parseString (printString s ++ rest) = some (s, rest) :=
  parseString_printString s rest

/-- … and as a whole document -/
theorem parse_print_string_doc (s : Str) : parseJson (printString s) = some (.str s) := by
  have := parseJson_printJson (.str s) (by simp only [PrintOk]) (by simp only [depth]; omega)
  simpa only [printJson] using this

/-- numbers: the number reader on the printed text of a finite double gives that double back (zmij layout, what
    the locked serde_json 1.0.151 prints: `1e+21`) -/
theorem parse_print_number (x : Float) (h : F64.isFinite x = true) : numOfTok (printNum x) = some (.num x) :=
  numOfTok_printNum true x h

/-- … the same for ryu's layout (`1e21`; serde_json < 1.0.150) -/
theorem parse_print_number_ryu (x : Float) (h : F64.isFinite x = true) :
    numOfTok (printNumWith false x) = some (.num x) :=
  numOfTok_printNum false x h

/-- … in context: followed by anything that cannot continue a number (`,` `]` `}` whitespace, end of text) -/
theorem parse_print_number_ctx (x : Float) (h : F64.isFinite x = true) (rest : Str) (hr : NumEnd rest) :
    parseNumber (printNum x ++ rest) = some (.num x, rest) :=
  parseNumber_printNum true x h rest hr

/-- the text layer of `F64.parse`: what is read back is the double nearest to the printed decimal; in particular
    the printed text parses (as a Rust float literal as well) to x -/
theorem parse_print_number_f64 (x : Float) (h : F64.isFinite x = true) : F64.parse (printNum x) = some x := by
  obtain ⟨T, hT, _, hP⟩ := printNum_split true x h
  unfold printNum; rw [hT, hP]

/-- the whole data model: `from_str (to_string j) = Ok j` — every number finite, every integer node within
    [-2^63, 2^64) (`PrintOk`; `ofExpr` produces no integer nodes), keys and strings arbitrary, nesting depth ≤ 127 -/
theorem parse_print (j : Json Float) (h : PrintOk j) (hd : depth j ≤ 127) : parseJson (printJson j) = some j :=
  parseJson_printJson j h hd

/-- beyond the depth limit `from_str` fails -/
theorem parse_print_too_deep (j : Json Float) (h : PrintOk j) (hd : 128 ≤ depth j) : parseJson (printJson j) = none :=
  parseJson_too_deep j h hd

/-- exactly: a printable value is read back iff it is nested at most 127 deep -/
theorem parse_print_iff (j : Json Float) (h : PrintOk j) : parseJson (printJson j) = some j ↔ depth j ≤ 127 := by
  rw [parseJson_printJson_eq j h, Option.ite_none_right_eq_some, and_iff_left rfl]
  omega

theorem printOk_ofValue (v : Value Float) : PrintOk (ofValue jnFloat v) := by
  refine Value.rec (motive_1 := fun v => PrintOk (ofValue jnFloat v))
    (motive_2 := fun vs => PrintOkL (ofValues jnFloat vs)) ?_ ?_ ?_ ?_ ?_ ?_ v
  · intro b; simp only [ofValue, PrintOk]
  · intro s; simp only [ofValue, PrintOk]
  · intro x
    simp only [ofValue]
    split
    · rename_i h; simp only [PrintOk]; exact h
    · simp only [PrintOk]
  · intro vs ih; simp only [ofValue, PrintOk]; exact ih
  · simp only [ofValues, PrintOkL]
  · intro v vs ih1 ih2; simp only [ofValues, PrintOkL]; exact ⟨ih1, ih2⟩

/-- every serialised tree is printable (a non-finite literal has already become `null`) -/
theorem printOk_ofExpr (e : Expr Float) : PrintOk (ofExpr jnFloat e) := by
  refine Expr.rec (motive_1 := fun e => PrintOk (ofExpr jnFloat e))
    (motive_2 := fun es => PrintOkL (ofExprs jnFloat es)) ?_ ?_ ?_ ?_ ?_ ?_ ?_ ?_ ?_ e
  · intro r op ih; simp only [ofExpr, PrintOk, PrintOkF, and_true, true_and]; exact ih
  · intro l r op ihl ihr; simp only [ofExpr, PrintOk, PrintOkF, and_true, true_and]; exact ⟨ihl, ihr⟩
  · intro l m r op ihl ihm ihr; simp only [ofExpr, PrintOk, PrintOkF, and_true, true_and]; exact ⟨ihl, ihm, ihr⟩
  · intro es ih; simp only [ofExpr, PrintOk, PrintOkF, and_true, true_and]; exact ih
  · intro v; simp only [ofExpr, PrintOk, PrintOkF, and_true, true_and]; exact printOk_ofValue v
  · intro n; simp only [ofExpr, PrintOk, PrintOkF, and_true]
  · intro n ps ih; simp only [ofExpr, PrintOk, PrintOkF, and_true, true_and]; exact ih
  · simp only [ofExprs, PrintOkL]
  · intro e es ih1 ih2; simp only [ofExprs, PrintOkL]; exact ⟨ih1, ih2⟩

/-! ### the nesting depth of a tree's JSON, on the tree -/
mutual
def valueDepth : Value Float → Nat
  | .arr vs => 1 + valuesDepth vs
  | _ => 0
def valuesDepth : List (Value Float) → Nat
  | [] => 0
  | v :: vs => max (valueDepth v) (valuesDepth vs)
end

mutual
/-- number of nested JSON containers of the serialised tree: one object per node, one more array level for
    `array` / `call` nodes and for every level of an array literal -/
def exprDepth : Expr Float → Nat
  | .unary r _ => 1 + exprDepth r
  | .binary l r _ => 1 + max (exprDepth l) (exprDepth r)
  | .ternary l m r _ => 1 + max (exprDepth l) (max (exprDepth m) (exprDepth r))
  | .array es => 2 + exprsDepth es
  | .lit v => 1 + valueDepth v
  | .var _ => 1
  | .call _ ps => 2 + exprsDepth ps
def exprsDepth : List (Expr Float) → Nat
  | [] => 0
  | e :: es => max (exprDepth e) (exprsDepth es)
end

theorem depth_ofValue (v : Value Float) : depth (ofValue jnFloat v) = valueDepth v := by
  refine Value.rec (motive_1 := fun v => depth (ofValue jnFloat v) = valueDepth v)
    (motive_2 := fun vs => depthL (ofValues jnFloat vs) = valuesDepth vs) ?_ ?_ ?_ ?_ ?_ ?_ v
  · intro b; simp only [ofValue, depth, valueDepth]
  · intro s; simp only [ofValue, depth, valueDepth]
  · intro x; simp only [ofValue, valueDepth]; split <;> simp only [depth]
  · intro vs ih; simp only [ofValue, depth, valueDepth, ih]
  · simp only [ofValues, depthL, valuesDepth]
  · intro v vs ih1 ih2; simp only [ofValues, depthL, valuesDepth, ih1, ih2]

theorem depth_ofExpr (e : Expr Float) : depth (ofExpr jnFloat e) = exprDepth e := by
  refine Expr.rec (motive_1 := fun e => depth (ofExpr jnFloat e) = exprDepth e)
    (motive_2 := fun es => depthL (ofExprs jnFloat es) = exprsDepth es) ?_ ?_ ?_ ?_ ?_ ?_ ?_ ?_ ?_ e
  · intro r op ih; simp only [ofExpr, depth, depthF, exprDepth, ih, Nat.max_zero, Nat.zero_max]
  · intro l r op ihl ihr; simp only [ofExpr, depth, depthF, exprDepth, ihl, ihr, Nat.max_zero, Nat.zero_max]
  · intro l m r op ihl ihm ihr; simp only [ofExpr, depth, depthF, exprDepth, ihl, ihm, ihr, Nat.max_zero, Nat.zero_max]
  · intro es ih; simp only [ofExpr, depth, depthF, exprDepth, ih, Nat.max_zero, Nat.zero_max]; omega
  · intro v; simp only [ofExpr, depth, depthF, exprDepth, depth_ofValue, Nat.max_zero, Nat.zero_max]
  · intro n; simp only [ofExpr, depth, depthF, exprDepth, Nat.max_zero]
  · intro n ps ih; simp only [ofExpr, depth, depthF, exprDepth, ih, Nat.max_zero, Nat.zero_max]; omega
  · simp only [ofExprs, depthL, exprsDepth]
  · intro e es ih1 ih2; simp only [ofExprs, depthL, exprsDepth, ih1, ih2]

theorem text_route_eq (e : Expr Float) :
    (parseJson (printJson (ofExpr jnFloat e))).bind (toExpr jnFloat) =
      if exprDepth e < 128 then toExpr jnFloat (ofExpr jnFloat e) else none := by
  rw [parseJson_printJson_eq _ (printOk_ofExpr e), depth_ofExpr]
  split <;> rfl

/-- **C12 through JSON text, no hypothesis about the text layer**: serialise (`Serialize` + `to_string`), store,
    load (`from_str` + `Deserialize`) — the identical tree comes back, for every tree whose number literals are finite
    and whose JSON nests at most 127 deep -/
theorem json_roundtrip_text_concrete (e : Expr Float) (h : FiniteLits jnFloat e) (hd : exprDepth e ≤ 127) :
    (parseJson (printJson (ofExpr jnFloat e))).bind (toExpr jnFloat) = some e := by
  rw [text_route_eq, if_pos (by omega)]
  exact json_roundtrip jnFloat e h

/-- the hypothesis of the abstract `json_roundtrip_text`, on the values for which it holds -/
theorem json_roundtrip_text_hyp (j : Json Float) (h : PrintOk j) (hd : depth j ≤ 127) :
    parseJson (printJson j) = some j := parse_print j h hd

/-- **FINDING: deep trees do not survive the text route.** serde_json's `from_str` has a recursion limit of 128
    (`remaining_depth`, no `unbounded_depth` feature): a tree whose JSON nests 128 or more levels deep is serialised
    to text without complaint, and the text cannot be loaded — whatever the literals are.  (`slac::compile` has no
    depth limit: `-(-(…(1)))` with 127 minus signs, or an array literal nested 64 deep, are such trees.) -/
theorem json_text_too_deep (e : Expr Float) (hd : 128 ≤ exprDepth e) :
    (parseJson (printJson (ofExpr jnFloat e))).bind (toExpr jnFloat) = none := by
  rw [text_route_eq, if_neg (by omega)]

/-- exactly: a tree with finite literals survives the text route iff its JSON nests at most 127 deep -/
theorem json_roundtrip_text_iff (e : Expr Float) (h : FiniteLits jnFloat e) :
    (parseJson (printJson (ofExpr jnFloat e))).bind (toExpr jnFloat) = some e ↔ exprDepth e ≤ 127 := by
  rw [text_route_eq, json_roundtrip jnFloat e h, Option.ite_none_right_eq_some, and_iff_left rfl]
  omega

/-- consequently the reloaded tree behaves like the original under every function of the tree -/
theorem reloaded_text_behaves_alike {α : Type} (F : Expr Float → α) (e e' : Expr Float) (h : FiniteLits jnFloat e)
    (hd : exprDepth e ≤ 127) (hl : (parseJson (printJson (ofExpr jnFloat e))).bind (toExpr jnFloat) = some e') :
    F e' = F e := by
  rw [json_roundtrip_text_concrete e h hd] at hl; cases hl; rfl

/-- test: strings — quote, backslash, newline, U+0001, U+001F are escaped (`\u00XX`, lower-case hex); U+007F, U+2028, an
    emoji and `/` are written raw; the reader returns the original -/
example : printString ['a', '"', 'b', '\\', 'c', '\n', '\x01', '\x1f', '\x7f', '\u2028', (Char.ofNat 0x1F600), '/'] =
      ['"', 'a', '\\', '"', 'b', '\\', '\\', 'c', '\\', 'n', '\\', 'u', '0', '0', '0', '1', '\\', 'u', '0', '0', '1', 'f', '\x7f', '\u2028', (Char.ofNat 0x1F600), '/', '"'] ∧
    parseString ['"', 'a', '\\', '"', 'b', '\\', '\\', 'c', '\\', 'n', '\\', 'u', '0', '0', '0', '1', '\\', 'u', '0', '0', '1', 'f', '\x7f', '\u2028', (Char.ofNat 0x1F600), '/', '"'] =
      some (['a', '"', 'b', '\\', 'c', '\n', '\x01', '\x1f', '\x7f', '\u2028', (Char.ofNat 0x1F600), '/'], []) := by decide +kernel

/-- the text of `1 + x` -/
example : printJson (ofExpr jnFloat (.binary (.lit (.num (Float.ofBits 0x3FF0000000000000))) (.var ['x']) .plus)) =
    ['{', '"', 't', 'y', 'p', 'e', '"', ':', '"', 'b', 'i', 'n', 'a', 'r', 'y', '"', ',', '"', 'l', 'e', 'f', 't', '"', ':', '{', '"', 't', 'y', 'p', 'e', '"', ':', '"', 'l', 'i', 't', 'e', 'r', 'a', 'l', '"', ',', '"', 'v', 'a', 'l', 'u', 'e', '"', ':', '1', '.', '0', '}', ',', '"', 'r', 'i', 'g', 'h', 't', '"', ':', '{', '"', 't', 'y', 'p', 'e', '"', ':', '"', 'v', 'a', 'r', 'i', 'a', 'b', 'l', 'e', '"', ',', '"', 'n', 'a', 'm', 'e', '"', ':', '"', 'x', '"', '}', ',', '"', 'o', 'p', 'e', 'r', 'a', 't', 'o', 'r', '"', ':', '"', 'p', 'l', 'u', 's', '"', '}'] := by decide +kernel

/-- test: a call with an array literal and a unary node -/
example : printJson (ofExpr jnFloat (.call ['f'] [.lit (.arr [.num (Float.ofBits 0x4004000000000000), .str ['a'], .bool true]),
      .unary (.var ['b']) .not])) =
    ['{', '"', 't', 'y', 'p', 'e', '"', ':', '"', 'c', 'a', 'l', 'l', '"', ',', '"', 'n', 'a', 'm', 'e', '"', ':', '"', 'f', '"', ',', '"', 'p', 'a', 'r', 'a', 'm', 's', '"', ':', '[', '{', '"', 't', 'y', 'p', 'e', '"', ':', '"', 'l', 'i', 't', 'e', 'r', 'a', 'l', '"', ',', '"', 'v', 'a', 'l', 'u', 'e', '"', ':', '[', '2', '.', '5', ',', '"', 'a', '"', ',', 't', 'r', 'u', 'e', ']', '}', ',', '{', '"', 't', 'y', 'p', 'e', '"', ':', '"', 'u', 'n', 'a', 'r', 'y', '"', ',', '"', 'r', 'i', 'g', 'h', 't', '"', ':', '{', '"', 't', 'y', 'p', 'e', '"', ':', '"', 'v', 'a', 'r', 'i', 'a', 'b', 'l', 'e', '"', ',', '"', 'n', 'a', 'm', 'e', '"', ':', '"', 'b', '"', '}', ',', '"', 'o', 'p', 'e', 'r', 'a', 't', 'o', 'r', '"', ':', '"', 'n', 'o', 't', '"', '}', ']', '}'] := by decide +kernel

/-- test: reading text that the printer would not write — whitespace, `\u` escapes with a surrogate pair, `\/`, an
    integer, an exponent with `+`, a duplicate key (kept, in order) -/
example : (parseJson [' ', '{', ' ', '"', 'a', '"', ' ', ':', ' ', '[', ' ', '1', ' ', ',', ' ', '-', '2', '.', '5', 'e', '+', '0', ' ', ',', '\t', '"', '\\', 'u', '0', '0', '4', '1', '\\', 'u', 'd', '8', '3', 'd', '\\', 'u', 'd', 'e', '0', '0', '\\', '/', '"', ' ', ']', ' ', ',', '\r', '\n', ' ', '"', 'a', '"', ' ', ':', ' ', 'n', 'u', 'l', 'l', ' ', '}', ' ']).map printJson =
    some ['{', '"', 'a', '"', ':', '[', '1', ',', '-', '2', '.', '5', ',', '"', 'A', (Char.ofNat 0x1F600), '/', '"', ']', ',', '"', 'a', '"', ':', 'n', 'u', 'l', 'l', '}'] := by decide +kernel

/-- test: integer literals — u64::MAX and i64::MIN stay integers, one beyond becomes a float, `-0` is the float -0.0;
    leading zero, bare fraction, overflow, trailing comma, lone surrogate are errors -/
example : (parseJson ['[', '1', '8', '4', '4', '6', '7', '4', '4', '0', '7', '3', '7', '0', '9', '5', '5', '1', '6', '1', '5', ',', '-', '9', '2', '2', '3', '3', '7', '2', '0', '3', '6', '8', '5', '4', '7', '7', '5', '8', '0', '8', ',', '1', '8', '4', '4', '6', '7', '4', '4', '0', '7', '3', '7', '0', '9', '5', '5', '1', '6', '1', '6', ',', '-', '9', '2', '2', '3', '3', '7', '2', '0', '3', '6', '8', '5', '4', '7', '7', '5', '8', '0', '9', ',', '-', '0', ']']).map printJson =
      some ['[', '1', '8', '4', '4', '6', '7', '4', '4', '0', '7', '3', '7', '0', '9', '5', '5', '1', '6', '1', '5', ',', '-', '9', '2', '2', '3', '3', '7', '2', '0', '3', '6', '8', '5', '4', '7', '7', '5', '8', '0', '8', ',', '1', '.', '8', '4', '4', '6', '7', '4', '4', '0', '7', '3', '7', '0', '9', '5', '5', '2', 'e', '+', '1', '9', ',', '-', '9', '.', '2', '2', '3', '3', '7', '2', '0', '3', '6', '8', '5', '4', '7', '7', '6', 'e', '+', '1', '8', ',', '-', '0', '.', '0', ']'] ∧
    (parseJson ['0', '1']).isNone = true ∧ (parseJson ['1', '.']).isNone = true ∧ (parseJson ['.', '5']).isNone = true ∧
    (parseJson ['1', 'e', '9', '9', '9']).isNone = true ∧ (parseJson ['[', '1', ',', ']']).isNone = true ∧
    (parseJson ['"', '\\', 'u', 'd', '8', '3', 'd', '"']).isNone = true := by decide +kernel

/-- the bit pattern of a parsed float (tests compare bit patterns: `Float` has no decidable `=`) -/
def bitsOf : Option (Json Float) → Option Nat
  | some (.num x) => some (bits x)
  | _ => none

/-! tests of the number layer: the printed text of the double with the given bit pattern, and the bit pattern read back -/

example : printNum (Float.ofBits 4607182418800017408) = ['1', '.', '0'] ∧
    bitsOf (numOfTok ['1', '.', '0']) = some 4607182418800017408 := by decide +kernel

example : printNum (Float.ofBits 4591870180066957722) = ['0', '.', '1'] ∧
    bitsOf (numOfTok ['0', '.', '1']) = some 4591870180066957722 := by decide +kernel

example : printNum (Float.ofBits 4921056587992461136) = ['1', 'e', '+', '2', '1'] ∧
    bitsOf (numOfTok ['1', 'e', '+', '2', '1']) = some 4921056587992461136 := by decide +kernel

example : printNum (Float.ofBits 4502148214488346440) = ['1', 'e', '-', '7'] ∧
    bitsOf (numOfTok ['1', 'e', '-', '7']) = some 4502148214488346440 := by decide +kernel

example : printNum (Float.ofBits 4907451598986591450) = ['1', '.', '2', '3', '4', '5', '6', '7', '8', '9', '0', '1', '2', '3', '4', '5', '6', '8', 'e', '+', '2', '0'] ∧
    bitsOf (numOfTok ['1', '.', '2', '3', '4', '5', '6', '7', '8', '9', '0', '1', '2', '3', '4', '5', '6', '8', 'e', '+', '2', '0']) = some 4907451598986591450 := by decide +kernel

example : printNum (Float.ofBits 9223372036854775808) = ['-', '0', '.', '0'] ∧
    bitsOf (numOfTok ['-', '0', '.', '0']) = some 9223372036854775808 := by decide +kernel

/-- the smallest subnormal -/
example : printNum (Float.ofBits 1) = ['5', 'e', '-', '3', '2', '4'] ∧
    bitsOf (numOfTok ['5', 'e', '-', '3', '2', '4']) = some 1 := by decide +kernel

/-- f64::MAX -/
example : printNum (Float.ofBits 9218868437227405311) = ['1', '.', '7', '9', '7', '6', '9', '3', '1', '3', '4', '8', '6', '2', '3', '1', '5', '7', 'e', '+', '3', '0', '8'] ∧
    bitsOf (numOfTok ['1', '.', '7', '9', '7', '6', '9', '3', '1', '3', '4', '8', '6', '2', '3', '1', '5', '7', 'e', '+', '3', '0', '8']) = some 9218868437227405311 := by decide +kernel

/-- 2^50+0.25, an exact tie: ryu/zmij pick the even digit -/
example : printNum (Float.ofBits 4832362400168542209) = ['1', '1', '2', '5', '8', '9', '9', '9', '0', '6', '8', '4', '2', '6', '2', '4', '.', '2'] ∧
    bitsOf (numOfTok ['1', '1', '2', '5', '8', '9', '9', '9', '0', '6', '8', '4', '2', '6', '2', '4', '.', '2']) = some 4832362400168542209 := by decide +kernel

/-- 1e16: first exponent form -/
example : printNum (Float.ofBits 4846369599423283200) = ['1', 'e', '+', '1', '6'] ∧
    bitsOf (numOfTok ['1', 'e', '+', '1', '6']) = some 4846369599423283200 := by decide +kernel

/-- 1e15: last plain form -/
example : printNum (Float.ofBits 4831355200913801216) = ['1', '0', '0', '0', '0', '0', '0', '0', '0', '0', '0', '0', '0', '0', '0', '0', '.', '0'] ∧
    bitsOf (numOfTok ['1', '0', '0', '0', '0', '0', '0', '0', '0', '0', '0', '0', '0', '0', '0', '0', '.', '0']) = some 4831355200913801216 := by decide +kernel

/-- 1e-5: last 0.000ddd form -/
example : printNum (Float.ofBits 4532020583610935537) = ['0', '.', '0', '0', '0', '0', '1'] ∧
    bitsOf (numOfTok ['0', '.', '0', '0', '0', '0', '1']) = some 4532020583610935537 := by decide +kernel

example : printNum (Float.ofBits 4504762867522569078) = ['1', '.', '5', 'e', '-', '7'] ∧
    bitsOf (numOfTok ['1', '.', '5', 'e', '-', '7']) = some 4504762867522569078 := by decide +kernel

example : printNum (Float.ofBits 13846598529327300608) = ['-', '1', '2', '.', '5'] ∧
    bitsOf (numOfTok ['-', '1', '2', '.', '5']) = some 13846598529327300608 := by decide +kernel

/-- `n` nested unary minus signs around a tree -/
def nestNeg : Nat → Expr Float → Expr Float
  | 0, e => e
  | n + 1, e => .unary (nestNeg n e) .minus

theorem exprDepth_nestNeg (n : Nat) (e : Expr Float) : exprDepth (nestNeg n e) = n + exprDepth e := by
  induction n with
  | zero => simp [nestNeg]
  | succ n ih => simp only [nestNeg, exprDepth, ih]; omega

theorem finiteLits_nestNeg (n : Nat) (e : Expr Float) (h : FiniteLits jnFloat e) : FiniteLits jnFloat (nestNeg n e) := by
  induction n with
  | zero => exact h
  | succ n ih => simp only [nestNeg, FiniteLits]; exact ih

theorem finite_one : FiniteLits jnFloat (.lit (.num (Float.ofBits 0x3FF0000000000000))) := by
  simp only [FiniteLits, FinV, jnFloat]; decide +kernel

/-- test (witness of the finding): `-(-(…(1)))` with 126 minus signs survives the text route, with 127 it does not
    (as observed on the crate: `recursion limit exceeded`), although both survive the in-memory route -/
example :
    (parseJson (printJson (ofExpr jnFloat (nestNeg 126 (.lit (.num (Float.ofBits 0x3FF0000000000000))))))).bind
        (toExpr jnFloat) = some (nestNeg 126 (.lit (.num (Float.ofBits 0x3FF0000000000000)))) ∧
    (parseJson (printJson (ofExpr jnFloat (nestNeg 127 (.lit (.num (Float.ofBits 0x3FF0000000000000))))))).bind
        (toExpr jnFloat) = none ∧
    toExpr jnFloat (ofExpr jnFloat (nestNeg 127 (.lit (.num (Float.ofBits 0x3FF0000000000000))))) =
      some (nestNeg 127 (.lit (.num (Float.ofBits 0x3FF0000000000000)))) :=
  ⟨json_roundtrip_text_concrete _ (finiteLits_nestNeg _ _ finite_one) (by rw [exprDepth_nestNeg]; simp [exprDepth, valueDepth]),
   json_text_too_deep _ (by rw [exprDepth_nestNeg]; simp [exprDepth, valueDepth]),
   json_roundtrip _ _ (finiteLits_nestNeg _ _ finite_one)⟩

/-- non-vacuity: a concrete tree with a conditional, a call, a nested array literal, a negative zero, the largest and
    the smallest double satisfies the hypotheses of the text round trip -/
example :
    (parseJson (printJson (ofExpr jnFloat
      (.ternary (.binary (.var ['a']) (.lit (.num (Float.ofBits 0x8000000000000000))) .lessEqual)
        (.call ['f'] [.lit (.arr [.str ['x', '"'], .arr [.num (Float.ofBits 9218868437227405311)]]), .unary (.var ['b']) .not])
        (.array [.lit (.num (Float.ofBits 1))]) .ternaryCondition)))).bind (toExpr jnFloat) =
    some (.ternary (.binary (.var ['a']) (.lit (.num (Float.ofBits 0x8000000000000000))) .lessEqual)
        (.call ['f'] [.lit (.arr [.str ['x', '"'], .arr [.num (Float.ofBits 9218868437227405311)]]), .unary (.var ['b']) .not])
        (.array [.lit (.num (Float.ofBits 1))]) .ternaryCondition) :=
  json_roundtrip_text_concrete _
    (by simp only [FiniteLits, FiniteLitsL, FinV, FinVs, jnFloat, and_true, true_and]; decide +kernel)
    (by decide)

/-- non-vacuity of `parse_print`: integer nodes at both ends of the range, a float, nested containers, an escaped key -/
example : parseJson (printJson (.obj [(['k', '"', '\n'], .arr [.int 18446744073709551615, .int (-9223372036854775808), .null,
      .num (Float.ofBits 0x4004000000000000), .obj [], .arr [.bool false]]), ([], .str ['\\'])])) =
    some (.obj [(['k', '"', '\n'], .arr [.int 18446744073709551615, .int (-9223372036854775808), .null,
      .num (Float.ofBits 0x4004000000000000), .obj [], .arr [.bool false]]), ([], .str ['\\'])]) :=
  parse_print _ (by simp only [PrintOk, PrintOkL, PrintOkF, and_true, true_and]; decide +kernel) (by decide)

end Slac.C12
