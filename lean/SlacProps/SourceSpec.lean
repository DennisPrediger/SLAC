/-
  SourceSpec — the property theorems restated DIRECTLY about the Lean functions that tools/rs2lean.py generates from the current
  Rust source (SlacModel/Generated/Src*.lean), with the hand-written model eliminated from the statement:

      Rust text  --(translator, every run)-->  Src*.lean  ==(C04Source, C05Source, C10Source, C13Source)==  model  --(C03 … C13)-->  property

  Each theorem below is the composition of a `…Source` equality with a property theorem; these are the statements to look at: "the function the translator read off interpreter.rs computes the value the language definition
  prescribes", "the optimizer read off optimizer.rs preserves it, terminates and leaves no foldable node", "a tree accepted by the validator
  read off validate.rs never hits an unresolved name when run by the interpreter read off interpreter.rs", …
-/
import SlacProps.C03
import SlacProps.C04
import SlacProps.C05
import SlacProps.C06
import SlacProps.C10
import SlacProps.C11
import SlacProps.C13
import SlacProps.C04Source
import SlacProps.C05Source
import SlacProps.C10Source
import SlacProps.C13Source
set_option autoImplicit false
namespace Slac.SourceSpec
open Slac.Generated Slac.Opt
variable {N : Type} [NumOps N]

/-- `execute` as read off interpreter.rs: run from the empty log, keep the result -/
def srcExecute (env : Env N) (e : Expr N) : Except Err (Value N) := (SrcInterp.interp_expression env e []).1
/-- the environment events `execute` performs, as read off interpreter.rs -/
def srcEvents (env : Env N) (e : Expr N) : List (Event N) := (SrcInterp.interp_expression env e []).2

theorem srcExecute_eq (env : Env N) (e : Expr N) : srcExecute env e = evalR env e := C04Source.execute_is_source env e

/-- C03: the interpreter read off the source returns exactly the value, or the error of the first failing sub-expression in evaluation
    order, that the language definition prescribes — every tree, every environment, every number type. -/
theorem source_execute_eq_spec (env : Env N) (e : Expr N) : srcExecute env e = (spec env e).1.toExcept := by
  rw [srcExecute_eq]; exact C03.execute_eq_spec env e

/-- C04: the sequence of lookups and native calls (with argument values) it performs is exactly the prescribed one. -/
theorem source_events_eq_spec (env : Env N) (e : Expr N) : srcEvents env e = (spec env e).2 := by
  unfold srcEvents; rw [C04Source.trace_is_source]; exact C04.trace_eq_spec env e

/-- C05: the optimizer read off optimizer.rs, on a resolved tree with the standard `if_then`: a value before is the identical value after,
    for the optimized tree and for the partially rewritten tree a failed run leaves behind — both executed by the interpreter read off
    interpreter.rs. -/
theorem source_optimize_preserves_value (env : Env N) (fuel : Nat) (e e' : Expr N) (hr : Resolved env e) (hi : IfThenStd env)
    (v : Value N) (hv : srcExecute env e = .ok v) (h : (SrcOptimizer.optimize env fuel e).tree? = some e') : srcExecute env e' = .ok v := by
  rw [srcExecute_eq] at hv ⊢; rw [C05Source.optimize_is_source] at h
  exact C05.optimize_preserves_value env fuel e e' hr hi v hv h

/-- C06: it terminates within `mu e + 1` rounds … -/
theorem source_optimize_terminates (env : Env N) (fuel : Nat) (e : Expr N) (h : mu e < fuel) : SrcOptimizer.optimize env fuel e ≠ .outOfFuel := by
  rw [C05Source.optimize_is_source]; exact C06.optimize_terminates env fuel e h

/-- … its result is a fixpoint … -/
theorem source_optimize_idempotent (env : Env N) (fuel fuel' : Nat) (e e' : Expr N) (h : SrcOptimizer.optimize env fuel e = .ok e')
    (hf : fuel' > mu e') : SrcOptimizer.optimize env fuel' e' = .ok e' := by
  rw [C05Source.optimize_is_source] at h ⊢; exact C06.optimize_idempotent env fuel fuel' e e' h hf

/-- … and contains no constant-foldable node. -/
theorem source_no_foldable_node (env : Env N) (fuel : Nat) (e e' : Expr N) (h : SrcOptimizer.optimize env fuel e = .ok e') :
    ∀ n ∈ subterms e', ¬ Foldable env n := by
  rw [C05Source.optimize_is_source] at h; exact C06.no_foldable_node env fuel e e' h

/-- C10: a tree accepted by the validator read off validate.rs, run by the interpreter read off interpreter.rs, never fails with an
    undefined-variable or function-not-found error (for an environment whose four observations are consistent). -/
theorem source_validated_no_unresolved (env : Env N) (henv : C10.Lawful env) (e : Expr N)
    (hc : SrcValidate.check_variables_and_functions env e = .ok ()) :
    (∀ n, srcExecute env e ≠ .error (.undefinedVariable n)) ∧ (∀ f g, srcExecute env e ≠ .error (.native f (.functionNotFound g))) := by
  rw [← C10Source.checkVF_is_source] at hc; rw [srcExecute_eq]
  exact C10.check_ok_no_unresolved env henv e hc

/-- C11: a tree accepted by `check_boolean_result` (read off validate.rs) only ever evaluates to a Boolean, given that the variables and calls
    in result position do. -/
theorem source_bool_result (env : Env N) (e : Expr N) (hc : SrcValidate.check_boolean_result e = .ok ())
    (hres : ∀ x ∈ C11.resultPos e, ∀ v, srcExecute env x = .ok v → v.isBoolean = true)
    (v : Value N) (hv : srcExecute env e = .ok v) : v.isBoolean = true := by
  rw [← C10Source.checkBool_is_source] at hc; rw [srcExecute_eq] at hv
  exact C11.bool_result env e hc (fun x hx w hw => hres x hx w (by rw [srcExecute_eq]; exact hw)) v hv

/-- C13: the ordering read off value.rs is antisymmetric in the sense `cmp b a = (cmp a b).swap` for ALL values … -/
theorem source_cmp_swap [LawfulNum N] (a b : Value N) : SrcOrder.cmp b a = (SrcOrder.cmp a b).swap := by
  rw [← C13Source.cmp_is_source, ← C13Source.cmp_is_source]; exact C13.cmp_swap a b

/-- … and `=` as read off value.rs is the model's equality (so every equality law of C13 transfers). -/
theorem source_eq_is_model (a b : Value N) : SrcOrder.eq a b = Value.eq a b := (C13Source.eq_is_source a b).symm

end Slac.SourceSpec
