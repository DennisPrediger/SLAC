/-
  C11 — check_boolean_result.
  Model: SlacModel.Validate (`checkBool`, src/validate.rs `check_boolean_result`), SlacModel.Interp (`evalR`).
  If the check accepts a tree, every successful execution yields a Boolean — provided the variables and
  calls in result position (which the check documents as "type not known") yield Booleans.  Literals of other
  kinds, arrays, negation and arithmetic are rejected, at top level and in every checked position of a
  (nested) conditional.  All theorems hold for every number implementation and every environment.
-/
import SlacProofs.ValidateLemmas
import SlacProps.C03
set_option autoImplicit false
set_option linter.unusedSectionVars false
namespace Slac.C11
variable {N : Type} [NumOps N]

/-- The sub-trees whose value can become the result and whose kind the check does not know:
    the tree itself if it is a variable or a call; for a conditional those of its two branches
    (the condition is checked too, but does not flow into the result); nothing otherwise. -/
def resultPos : Expr N → List (Expr N)
  | .ternary _ m r op => if op = .ternaryCondition then resultPos m ++ resultPos r else []
  | .var n => [.var n]
  | .call n ps => [.call n ps]
  | _ => []

/-- acceptance of a conditional means acceptance of condition and both branches, and the operator is `?:` -/
theorem checkBool_ternary {l m r : Expr N} {op : Op} (h : checkBool (.ternary l m r op) = .ok ()) :
    op = .ternaryCondition ∧ checkBool l = .ok () ∧ checkBool m = .ok () ∧ checkBool r = .ok () := by
  cases op <;> first | (cases h; done) | skip
  obtain ⟨h1, h3⟩ := VErr.andThen_ok h
  obtain ⟨h1, h2⟩ := VErr.andThen_ok h1
  exact ⟨rfl, h1, h2, h3⟩

theorem checkBool_binary {l r : Expr N} {op : Op} (h : checkBool (.binary l r op) = .ok ()) : op ∈ boolOps := by
  cases op <;> first | (cases h; done) | decide

theorem checkBool_unary {r : Expr N} {op : Op} (h : checkBool (.unary r op) = .ok ()) : op = .not := by
  cases op <;> first | (cases h; done) | rfl

/-- the value of a conditional is the value of one of its branches -/
theorem ternary_value (env : Env N) (l m r : Expr N) (v : Value N)
    (h : evalR env (.ternary l m r .ternaryCondition) = .ok v) : evalR env m = .ok v ∨ evalR env r = .ok v := by
  simp only [evalR, evalT, ternModel] at h ⊢
  generalize evalT env l = c at h
  obtain ⟨c1, c2⟩ := c
  cases c1 with
  | ok cv =>
    simp only at h
    split at h
    · exact .inl h
    · exact .inr h
  | error e => cases h

def Goal (env : Env N) (e : Expr N) : Prop :=
  checkBool e = .ok () → (∀ x ∈ resultPos e, ∀ v, evalR env x = .ok v → v.isBoolean = true) →
    ∀ v, evalR env e = .ok v → v.isBoolean = true

/-- Main theorem: an accepted tree yields a Boolean whenever it succeeds, provided the variables and calls in
    result position do. -/
theorem bool_result (env : Env N) (e : Expr N) (hc : checkBool e = .ok ())
    (hres : ∀ x ∈ resultPos e, ∀ v, evalR env x = .ok v → v.isBoolean = true)
    (v : Value N) (hv : evalR env e = .ok v) : v.isBoolean = true := by
  suffices h : Goal env e from h hc hres v hv
  refine Expr.rec (motive_1 := fun e => Goal env e) (motive_2 := fun _ => True)
    ?_ ?_ ?_ ?_ ?_ ?_ ?_ ?_ ?_ e
  · intro r op _ hc _ v hv
    cases checkBool_unary hc
    exact C03.not_boolean env r v hv
  · intro l r op _ _ hc _ v hv
    exact C03.boolean_results env l r op (checkBool_binary hc) v hv
  · intro l m r op _ ihm ihr hc hres v hv
    obtain ⟨hop, _, hm, hr⟩ := checkBool_ternary hc
    subst hop
    simp only [resultPos, if_true, List.mem_append] at hres
    rcases ternary_value env l m r v hv with h | h
    · exact ihm hm (fun x hx => hres x (.inl hx)) v h
    · exact ihr hr (fun x hx => hres x (.inr hx)) v h
  · intro es _ hc; simp only [checkBool] at hc; cases hc
  · intro w hc _ v hv
    simp only [evalR, evalT] at hv
    injection hv with hv; subst hv
    cases w <;> simp only [checkBool] at hc <;> first | rfl | cases hc
  · intro n _ hres v hv; exact hres _ (by simp [resultPos]) v hv
  · intro n ps _ _ hres v hv; exact hres _ (by simp [resultPos]) v hv
  · trivial
  · intros; trivial

/-- Corollary: a tree without variables or calls in result position needs no side condition. -/
theorem bool_result_closed (env : Env N) (e : Expr N) (hc : checkBool e = .ok ()) (hnil : resultPos e = [])
    (v : Value N) (hv : evalR env e = .ok v) : v.isBoolean = true :=
  bool_result env e hc (by rw [hnil]; intro x hx; cases hx) v hv

/-- The side condition cannot be dropped: a bare variable is accepted and yields whatever is bound. -/
theorem side_condition_needed (x : N) :
    checkBool (N := N) (.var ['a']) = .ok () ∧
    evalR ⟨fun _ => some (.num x), fun _ _ => .error .wrongParameterType, fun _ => true, fun _ _ => .notFound⟩
      (.var ['a']) = .ok (.num x) := ⟨rfl, rfl⟩

def arithOrPlus : List Op := [.plus, .minus, .multiply, .divide, .div, .mod]

/-- a non-Boolean literal, an array, a negation or an arithmetic node -/
inductive Offending : Expr N → Prop
  | lit (v : Value N) : v.isBoolean = false → Offending (.lit v)
  | array (es : List (Expr N)) : Offending (.array es)
  | neg (r : Expr N) : Offending (.unary r .minus)
  | arith (l r : Expr N) (op : Op) : op ∈ arithOrPlus → Offending (.binary l r op)

/-- the error each offending node is rejected with -/
def offenceOf : Expr N → VErr
  | .unary _ op => .invalidUnaryOperator op
  | .binary _ _ op => .invalidBinaryOperator op
  | _ => .literalNotBoolean

theorem rejects_with {e : Expr N} (h : Offending e) : checkBool e = .error (offenceOf e) := by
  cases h with
  | lit v hv => cases v <;> first | rfl | cases hv
  | array es => rfl
  | neg r => rfl
  | arith l r op hop =>
    simp only [arithOrPlus, List.mem_cons, List.mem_nil_iff, or_false] at hop
    rcases hop with rfl | rfl | rfl | rfl | rfl | rfl <;> rfl

/-- Literals of other kinds, arrays, negation and arithmetic are always rejected. -/
theorem rejects {e : Expr N} (h : Offending e) : checkBool e ≠ .ok () := by
  rw [rejects_with h]; intro h'; cases h'

/-- `x` stands in a position of `e` that `check_boolean_result` inspects: `e` itself, or — through any nesting
    of conditionals — a branch (`mid`, `right`) or a condition (`cond`).  The operator of the enclosing ternary
    node is arbitrary (a ternary node with another operator is rejected anyway). -/
inductive Checked : Expr N → Expr N → Prop
  | here (e : Expr N) : Checked e e
  | cond {x l : Expr N} (m r : Expr N) (op : Op) : Checked x l → Checked x (.ternary l m r op)
  | mid {x m : Expr N} (l r : Expr N) (op : Op) : Checked x m → Checked x (.ternary l m r op)
  | right {x r : Expr N} (l m : Expr N) (op : Op) : Checked x r → Checked x (.ternary l m r op)

/-- `x` is a branch-descendant of `e`: only `mid`/`right` steps (the positions whose value is the result). -/
inductive InBranch : Expr N → Expr N → Prop
  | here (e : Expr N) : InBranch e e
  | mid {x m : Expr N} (l r : Expr N) (op : Op) : InBranch x m → InBranch x (.ternary l m r op)
  | right {x r : Expr N} (l m : Expr N) (op : Op) : InBranch x r → InBranch x (.ternary l m r op)

theorem InBranch.checked {x e : Expr N} (h : InBranch x e) : Checked x e := by
  induction h with
  | here => exact .here _
  | mid l r op _ ih => exact .mid l r op ih
  | right l m op _ ih => exact .right l m op ih

/-- An offending node in any checked position (condition or branch, at any nesting of conditionals) makes the
    check fail. -/
theorem rejects_in_checked {x e : Expr N} (hx : Offending x) (h : Checked x e) : checkBool e ≠ .ok () := by
  induction h with
  | here => exact rejects hx
  | cond m r op _ ih => intro hc; exact ih (checkBool_ternary hc).2.1
  | mid l r op _ ih => intro hc; exact ih (checkBool_ternary hc).2.2.1
  | right l m op _ ih => intro hc; exact ih (checkBool_ternary hc).2.2.2

/-- The same when such a node is the middle or right branch of a conditional, at any nesting of conditionals. -/
theorem rejects_in_branches {x e : Expr N} (hx : Offending x) (h : InBranch x e) : checkBool e ≠ .ok () :=
  rejects_in_checked hx h.checked

/-- What is accepted, exactly: `not`, the nine Boolean-valued binary operators, Boolean literals, variables,
    calls, and conditionals all of whose three operands are accepted. -/
theorem accepts_iff (e : Expr N) : checkBool e = .ok () ↔
    (∃ r, e = .unary r .not) ∨ (∃ l r op, e = .binary l r op ∧ op ∈ boolOps) ∨ (∃ b, e = .lit (.bool b)) ∨
    (∃ n, e = .var n) ∨ (∃ n ps, e = .call n ps) ∨
    (∃ l m r, e = .ternary l m r .ternaryCondition ∧ checkBool l = .ok () ∧ checkBool m = .ok () ∧
      checkBool r = .ok ()) := by
  constructor
  · intro h
    cases e with
    | unary r op => cases checkBool_unary h; exact .inl ⟨r, rfl⟩
    | binary l r op => exact .inr (.inl ⟨l, r, op, rfl, checkBool_binary h⟩)
    | ternary l m r op =>
      obtain ⟨rfl, h1, h2, h3⟩ := checkBool_ternary h
      exact .inr (.inr (.inr (.inr (.inr ⟨l, m, r, rfl, h1, h2, h3⟩))))
    | array es => simp only [checkBool] at h; cases h
    | lit v => cases v <;> simp only [checkBool] at h <;> first | exact .inr (.inr (.inl ⟨_, rfl⟩)) | cases h
    | var n => exact .inr (.inr (.inr (.inl ⟨n, rfl⟩)))
    | call n ps => exact .inr (.inr (.inr (.inr (.inl ⟨n, ps, rfl⟩))))
  · rintro (⟨r, rfl⟩ | ⟨l, r, op, rfl, hop⟩ | ⟨b, rfl⟩ | ⟨n, rfl⟩ | ⟨n, ps, rfl⟩ | ⟨l, m, r, rfl, h1, h2, h3⟩)
    · rfl
    · simp only [boolOps, List.mem_cons, List.mem_nil_iff, or_false] at hop
      rcases hop with rfl | rfl | rfl | rfl | rfl | rfl | rfl | rfl | rfl <;> rfl
    · rfl
    · rfl
    · rfl
    · simp only [checkBool, h1, h2, h3, VErr.andThen]

section Examples

/-- `flag ? (a < 1) : (not ok(2))` with every name bound to / returning `true` -/
def exTree : Expr N :=
  .ternary (.var ['f','l','a','g']) (.binary (.var ['a']) (.lit (.bool true)) .less)
    (.ternary (.lit (.bool false)) (.call ['o','k'] [.lit (.str ['x'])]) (.var ['b']) .ternaryCondition)
    .ternaryCondition
def exEnv : Env N := ⟨fun _ => some (.bool true), fun _ _ => .ok (.bool false), fun _ => true, fun _ _ => .exist true⟩

example : checkBool (exTree (N := N)) = .ok () := rfl
example : resultPos (exTree (N := N)) = [.call ['o','k'] [.lit (.str ['x'])], .var ['b']] := rfl
/-- hypotheses of `bool_result` are satisfiable on `exTree`/`exEnv`, and its conclusion is informative -/
example : ∀ v, evalR (exEnv (N := N)) exTree = .ok v → v.isBoolean = true := by
  intro v hv
  refine bool_result exEnv exTree rfl ?_ v hv
  intro x hx w hw
  simp only [exTree, resultPos, if_true, List.cons_append, List.nil_append,
    List.mem_cons, List.mem_nil_iff, or_false] at hx
  rcases hx with rfl | rfl
  · simp only [evalR, evalT, evalList, exEnv] at hw; cases hw; rfl
  · simp only [evalR, evalT, exEnv] at hw; cases hw; rfl
example : ∃ v, evalR (exEnv (N := N)) exTree = .ok v := ⟨_, rfl⟩

/-- `u or 5` with `u` undefined is accepted and yields a Boolean (finding D1 would break exactly this) -/
example (five : N) (env : Env N) (_hu : env.var ['u'] = none) :
    ∀ v, evalR env (.binary (.var ['u']) (.lit (.num five)) .or) = .ok v → v.isBoolean = true :=
  fun v hv => bool_result env _ rfl (by intro x hx; cases hx) v hv

example (x : N) : checkBool (N := N) (.lit (.num x)) ≠ .ok () := rejects (.lit _ rfl)
example : checkBool (N := N) (.lit (.str ['a'])) = .error .literalNotBoolean := rejects_with (.lit _ rfl)
example : checkBool (N := N) (.array [.lit (.bool true)]) ≠ .ok () := rejects (.array _)
example : checkBool (N := N) (.unary (.lit (.bool true)) .minus) = .error (.invalidUnaryOperator .minus) :=
  rejects_with (.neg _)
example (x : N) : checkBool (N := N) (.binary (.lit (.num x)) (.lit (.num x)) .plus) ≠ .ok () :=
  rejects (.arith _ _ _ (by decide))
/-- `c ? (d ? 1 + 1 : true) : false` — arithmetic two conditionals deep -/
example (x : N) : checkBool (N := N)
    (.ternary (.var ['c']) (.ternary (.var ['d']) (.binary (.lit (.num x)) (.lit (.num x)) .plus) (.lit (.bool true))
      .ternaryCondition) (.lit (.bool false)) .ternaryCondition) ≠ .ok () :=
  rejects_in_branches (.arith _ _ _ (by decide)) (.mid _ _ _ (.mid _ _ _ (.here _)))
/-- `-1 ? true : false` — negation as the condition -/
example (x : N) : checkBool (N := N)
    (.ternary (.unary (.lit (.num x)) .minus) (.lit (.bool true)) (.lit (.bool false)) .ternaryCondition) ≠ .ok () :=
  rejects_in_checked (.neg _) (.cond _ _ _ (.here _))

end Examples
end Slac.C11
