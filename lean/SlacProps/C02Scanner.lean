/-
  SlacProps.C02Scanner — the hand-written scanner model (SlacModel/Scanner.lean), about which the scanner theorems of C02 / C07 are stated, IS the
  function that tools/rs2lean_scanner.py translates from the current text of src/scanner.rs (SlacModel/Generated/SrcScanner.lean).
  The model works on the remaining text, the source on two cursors into a fixed character vector: the simulation relates a source state `s` to the
  model's remaining text `src.drop s.current`.
  Each method is first an equation with an explicit end cursor (`X_apply`); `Sim` states the same as a relation to the model's outcome, the form
  that `next_token_sim` combines along the model's `if` chain.
-/
import SlacModel.Scanner
import SlacModel.Generated.SrcScanner
import SlacProofs.ScannerLoop
import SlacProofs.SeqToy
set_option autoImplicit false
namespace Slac.C02Scanner
open Slac Slac.Scanner Slac.SrcScanner Slac.Generated Slac.Generated.SrcScanner
variable {N : Type} [NumOps N] {α β : Type}

section
set_option linter.unusedSectionVars false
/-- the outcome of `x >>= k`, given the outcome of `x` -/
def bindOut (r : COut N (α × SState)) (k : α → SM N β) : COut N (β × SState) :=
  match r with
  | .ok (a, s') => k a s'
  | .err e => .err e
  | .outOfFuel => .outOfFuel
  | .panic => .panic
@[simp] theorem bindOut_ok (a : α) (s : SState) (k : α → SM N β) : bindOut (.ok (a, s)) k = k a s := rfl
@[simp] theorem bindOut_err (e : CErr N) (k : α → SM N β) : bindOut (.err e : COut N (α × SState)) k = .err e := rfl
@[simp] theorem bindOut_oof (k : α → SM N β) : bindOut (.outOfFuel : COut N (α × SState)) k = .outOfFuel := rfl
@[simp] theorem bindOut_panic (k : α → SM N β) : bindOut (.panic : COut N (α × SState)) k = .panic := rfl
@[simp] theorem bind_apply (x : SM N α) (k : α → SM N β) (s : SState) : (SM.bind x k) s = bindOut (x s) k := rfl
@[simp] theorem pure_apply (a : α) (s : SState) : (SM.pure a : SM N α) s = .ok (a, s) := rfl
@[simp] theorem get_start_apply (s : SState) : (get_start : SM N Nat) s = .ok (s.start, s) := rfl
@[simp] theorem get_current_apply (s : SState) : (get_current : SM N Nat) s = .ok (s.current, s) := rfl
@[simp] theorem set_start_apply (n : Nat) (s : SState) : (set_start n : SM N Unit) s = .ok ((), { s with start := n }) := rfl
@[simp] theorem set_current_apply (n : Nat) (s : SState) : (set_current n : SM N Unit) s = .ok ((), { s with current := n }) := rfl
@[simp] theorem throwE_apply (e : CErr N) (s : SState) : (throwE e : SM N α) s = .err e := rfl
@[simp] theorem outOfFuel_apply (s : SState) : (SrcScanner.outOfFuel : SM N α) s = .outOfFuel := rfl
@[simp] theorem okOr_some (a : α) (e : CErr N) (s : SState) : (okOr (some a) e : SM N α) s = .ok (a, s) := rfl
@[simp] theorem okOr_none (e : CErr N) (s : SState) : (okOr none e : SM N α) s = .err e := rfl
@[simp] theorem usub_apply (a b : Nat) (s : SState) : (usub a b : SM N Nat) s = if b ≤ a then .ok (a - b, s) else .panic := rfl
@[simp] theorem ite_app {p : Prop} [Decidable p] (x y : SM N α) (s : SState) : (if p then x else y) s = if p then x s else y s := by
  split <;> rfl

end

variable (fuel : Nat) (cc : CharClass) (src : Str)

section
set_option linter.unusedSectionVars false

@[simp] theorem peek_ahead_apply (k : Nat) (s : SState) : (peek_ahead (N := N) fuel cc src k) s = .ok (src[s.current + k]?, s) := rfl
@[simp] theorem peek_apply (s : SState) : (peek (N := N) fuel cc src) s = .ok (src[s.current]?, s) := rfl
@[simp] theorem advance_apply (s : SState) : (advance (N := N) fuel cc src) s = .ok ((), { s with current := s.current + 1 }) := rfl
@[simp] theorem next_char_apply (s : SState) :
    (next_char (N := N) fuel cc src) s = .ok (src[s.current]?, { s with current := s.current + 1 }) := by
  simp [next_char, bind, pure]
@[simp] theorem is_at_end_apply (s : SState) : (is_at_end (N := N) fuel cc src) s = .ok (decide (s.current ≥ src.length), s) := rfl
end

omit [NumOps N] in
theorem get_content_apply (k : Nat) (s : SState) (h : k ≤ s.current) :
    (get_content (N := N) fuel cc src k) s = .ok ((src.take (s.current - k)).drop (s.start + k), s) := by
  simp [get_content, bind, pure, h]

theorem cursor_cases {γ : Type} (l : List γ) (c : Nat) :
    (l[c]? = none ∧ l.length ≤ c ∧ l.drop c = []) ∨ (∃ t, l[c]? = some t ∧ c < l.length ∧ l.drop c = t :: l.drop (c + 1)) := by
  rcases Nat.lt_or_ge c l.length with h | h
  · exact .inr ⟨l[c], List.getElem?_eq_getElem h, h, List.drop_eq_getElem_cons h⟩
  · exact .inl ⟨List.getElem?_eq_none h, h, List.drop_eq_nil_of_le h⟩

theorem cursor_some {γ : Type} {l : List γ} {c : Nat} {t : γ} (h : l[c]? = some t) : c < l.length ∧ l.drop c = t :: l.drop (c + 1) := by
  rcases cursor_cases l c with ⟨h', _⟩ | ⟨t', h', hl, hd⟩ <;> rw [h] at h' <;> cases h'
  exact ⟨hl, hd⟩

/-- where a `while peek() satisfies p { advance() }` loop started at cursor `c` stops -/
def adv (p : Char → Bool) (l : Str) (c : Nat) : Nat := c + ((l.drop c).takeWhile p).length

theorem adv_end {p : Char → Bool} {l : Str} {c : Nat} (h : l.drop c = []) : adv p l c = c := by
  simp [adv, h]
theorem adv_stop {p : Char → Bool} {l : Str} {c : Nat} {ch : Char} {r : Str} (h : l.drop c = ch :: r) (hp : p ch = false) : adv p l c = c := by
  simp [adv, h, hp]
theorem adv_step {p : Char → Bool} {l : Str} {c : Nat} {ch : Char} (h : l.drop c = ch :: l.drop (c + 1)) (hp : p ch = true) :
    adv p l c = adv p l (c + 1) := by
  simp [adv, h, hp]; omega

omit [NumOps N] in
/-- a translated `while peek() satisfies p { advance() }`: any loop with this step equation stops at `adv p src c` -/
theorem adv_loop (p : Char → Bool) (loop : Nat → SM N Unit)
    (step : ∀ f s, loop (f + 1) s =
      if (src[s.current]?).any p then loop f { s with current := s.current + 1 } else .ok ((), s))
    (f : Nat) (s : SState) (hf : src.length - s.current < f) :
    loop f s = .ok ((), { s with current := adv p src s.current }) := by
  induction f generalizing s with
  | zero => omega
  | succ f ih =>
    rw [step]
    rcases cursor_cases src s.current with ⟨h, _, hd⟩ | ⟨ch, h, hl, hd⟩ <;> rw [h]
    · simp only [Option.any_none, Bool.false_eq_true, if_false, adv_end hd]
    · cases hp : p ch with
      | true => rw [Option.any_some, if_pos hp, ih _ (by simp; omega), adv_step hd hp]
      | false => rw [Option.any_some, if_neg (ne_true_of_eq_false hp), adv_stop hd hp]

set_option linter.unusedSimpArgs false in
theorem ws_loop (f : Nat) (s : SState) (hf : src.length - s.current < f) :
    skip_whitespace_loop1_loop1 (N := N) fuel cc src f s = .ok ((), { s with current := adv isWs src s.current }) := by
  refine adv_loop src _ _ (fun f s => ?_) f s hf
  simp only [skip_whitespace_loop1_loop1, bind, pure, bind_apply, peek_apply, bindOut_ok, ite_app, advance_apply, pure_apply]
  cases src[s.current]? <;> simp [isWs, or_comm, or_left_comm, or_assoc]

theorem isIdent_eq (c : Char) : is_identifier cc c = isIdentCont cc c := rfl
theorem isIdentStart_eq (c : Char) : is_identifier_start cc c = isIdentStart cc c := rfl

theorem ident_loop (f : Nat) (s : SState) (hf : src.length - s.current < f) :
    identifier_loop1 (N := N) fuel cc src f s = .ok ((), { s with current := adv (isIdentCont cc) src s.current }) := by
  refine adv_loop src _ _ (fun f s => ?_) f s hf
  simp only [identifier_loop1, bind, pure, bind_apply, peek_apply, bindOut_ok, ite_app, advance_apply, pure_apply]
  cases src[s.current]? <;> rfl

theorem num_loop (f : Nat) (s : SState) (hf : src.length - s.current < f) :
    advance_numeric_loop1 (N := N) fuel cc src f s = .ok ((), { s with current := adv cc.isNumeric src s.current }) := by
  refine adv_loop src _ _ (fun f s => ?_) f s hf
  simp only [advance_numeric_loop1, bind, pure, bind_apply, peek_apply, bindOut_ok]
  cases src[s.current]? <;> simp

/-- the predicate of the inner loop of `string()`: not the quote -/
def nq : Char → Bool := fun c => c != '\''

theorem strq_loop (f : Nat) (s : SState) (hf : src.length - s.current < f) :
    string_loop1_loop1 (N := N) fuel cc src f s = .ok ((), { s with current := adv nq src s.current }) := by
  refine adv_loop src _ _ (fun f s => ?_) f s hf
  simp only [string_loop1_loop1, bind, pure, bind_apply, peek_apply, bindOut_ok, ite_app, advance_apply, pure_apply]
  cases src[s.current]? <;> rfl

set_option linter.unusedSimpArgs false in
@[simp] theorem advance_numeric_apply (s : SState) :
    advance_numeric (N := N) (src.length + 1) cc src s = .ok ((), { s with current := adv cc.isNumeric src s.current }) := by
  simp only [advance_numeric, bind, pure, bind_apply, pure_apply]
  rw [num_loop _ cc src (src.length + 1) s (by omega)]; rfl

theorem drop_adv (p : Char → Bool) (l : Str) (c : Nat) : l.drop (adv p l c) = (l.drop c).dropWhile p := by
  have := List.drop_left' (l₁ := (l.drop c).takeWhile p) (l₂ := (l.drop c).dropWhile p) rfl
  rwa [List.takeWhile_append_dropWhile, List.drop_drop] at this
theorem take_adv (p : Char → Bool) (l : Str) (c : Nat) : (l.take (adv p l c)).drop c = (l.drop c).takeWhile p := by
  have := List.take_left' (l₁ := (l.drop c).takeWhile p) (l₂ := (l.drop c).dropWhile p) rfl
  rwa [List.takeWhile_append_dropWhile, List.take_drop] at this
theorem adv_ge (p : Char → Bool) (l : Str) (c : Nat) : c ≤ adv p l c := by unfold adv; omega
theorem adv_le (p : Char → Bool) (l : Str) (c : Nat) (h : c ≤ l.length) : adv p l c ≤ l.length := by
  unfold adv
  have h1 : ((l.drop c).takeWhile p).length ≤ (l.drop c).length := by
    exact (List.takeWhile_sublist (l := l.drop c) p).length_le
  simp at h1; omega

/-- content of a token that started at `st` with character `ch` and ends where the cursor stands: `ch` and the text between -/
theorem take_drop_cons {l : Str} {st e : Nat} {ch : Char} (h : l[st]? = some ch) (he : st + 1 ≤ e) :
    (l.take e).drop st = ch :: (l.take e).drop (st + 1) := by
  have hl := (cursor_some h).1
  have : (l.take e)[st]? = some ch := by rw [List.getElem?_take]; simp [show st < e by omega, h]
  exact (cursor_some this).2

omit [NumOps N] in
theorem lookup_cons_ite {β : Type} (a k : Str) (b : β) (es : List (Str × β)) :
    List.lookup a ((k, b) :: es) = if a == k then some b else es.lookup a := by
  rw [List.lookup_cons]; cases a == k <;> rfl
theorem getD_ite {c : Prop} [Decidable c] (t : α) (r : Option α) (d : α) :
    (if c then some t else r).getD d = if c then t else r.getD d := by
  split <;> rfl
omit [NumOps N] in
theorem ok_ite {c : Prop} [Decidable c] (a b : α) (s : SState) :
    (COut.ok (if c then a else b, s) : COut N (α × SState)) = if c then .ok (a, s) else .ok (b, s) := by
  split <;> rfl

/-- the keyword table as the token-level function both sides compute -/
def kwOf (low ident : Str) : Token N := (kwToken (N := N) low).getD (.identifier ident)

omit [NumOps N] in
/-- `List.lookup` in the table is the `==` chain of `identifier()` -/
theorem kwOf_eq (low ident : Str) : kwOf (N := N) low ident =
    if low == ['t', 'r', 'u', 'e'] then .literal (.bool true) else
    if low == ['f', 'a', 'l', 's', 'e'] then .literal (.bool false) else
    if low == ['a', 'n', 'd'] then .and else if low == ['o', 'r'] then .or else if low == ['x', 'o', 'r'] then .xor else
    if low == ['n', 'o', 't'] then .not else if low == ['d', 'i', 'v'] then .div else if low == ['m', 'o', 'd'] then .mod else .identifier ident := by
  simp only [kwOf, kwToken, keywords, lookup_cons_ite, getD_ite, List.lookup_nil, Option.getD_none]

omit [NumOps N] in
theorem identifier_fst (c : Char) (cs : Str) : (Scanner.identifier (N := N) cc c cs).1 =
    kwOf (cc.lowerStr (c :: cs.takeWhile (isIdentCont cc))) (c :: cs.takeWhile (isIdentCont cc)) := by
  simp only [Scanner.identifier, kwOf]
  cases kwToken (N := N) (cc.lowerStr (c :: cs.takeWhile (isIdentCont cc))) <;> rfl

theorem identifier_apply (s : SState) (ch : Char) (h0 : src[s.start]? = some ch) (hc : s.current = s.start + 1) :
    SrcScanner.identifier (N := N) (src.length + 1) cc src s =
      .ok ((Scanner.identifier (N := N) cc ch (src.drop (s.start + 1))).1, { s with current := adv (isIdentCont cc) src (s.start + 1) }) := by
  have hl := (cursor_some h0).1
  have hcont : (List.take (adv (isIdentCont cc) src (s.start + 1)) src).drop s.start = ch :: (src.drop (s.start + 1)).takeWhile (isIdentCont cc) := by
    rw [take_drop_cons h0 (adv_ge _ _ _), take_adv]
  simp only [SrcScanner.identifier, bind, pure, bind_apply]
  rw [ident_loop _ cc src (src.length + 1) s (by omega)]
  simp only [bindOut_ok, bind_apply, get_content_apply _ cc src 0 _ (Nat.zero_le _), Nat.sub_zero, Nat.add_zero, hc, hcont, ite_app, pure_apply]
  -- both sides are the same `if` chain once `.ok (·, s)` is pushed through the right one
  rw [identifier_fst, kwOf_eq]
  simp only [ok_ite]

/-- where `number()` stops: after the integral digits, and after `.` and the fraction digits when a `.` follows -/
def numEnd (st : Nat) : Nat :=
  let c1 := adv cc.isNumeric src (st + 1)
  if src[c1]? = some '.' then adv cc.isNumeric src (c1 + 1) else c1

set_option linter.unusedVariables false in
theorem take_split (l : Str) (a b : Nat) (h : a ≤ b) : (l.take b).drop a = (l.drop a).take (b - a) := by
  rw [List.drop_take]

theorem take_drop_split (l : Str) {a b c : Nat} (hab : a ≤ b) (hbc : b ≤ c) :
    (l.take c).drop a = (l.take b).drop a ++ (l.take c).drop b := by
  simp only [List.drop_take]
  rw [show c - a = (b - a) + (c - b) by omega, List.take_add, List.drop_drop, show a + (b - a) = b by omega]

theorem numEnd_ge (st : Nat) : st + 1 ≤ numEnd cc src st := by
  unfold numEnd; simp only
  have h1 := adv_ge cc.isNumeric src (st + 1)
  split
  · have := adv_ge cc.isNumeric src (adv cc.isNumeric src (st + 1) + 1); omega
  · exact h1

theorem numberLex_spec (st : Nat) (ch : Char) :
    numberLex cc ch (src.drop (st + 1)) = (ch :: (src.take (numEnd cc src st)).drop (st + 1), src.drop (numEnd cc src st)) := by
  have h1 := adv_ge cc.isNumeric src (st + 1)
  unfold numberLex numEnd
  simp only [← drop_adv]
  rcases cursor_cases src (adv cc.isNumeric src (st + 1)) with ⟨h, _, hd⟩ | ⟨d, h, _, hd⟩ <;> rw [h, hd]
  · simp [hd, take_adv]
  · by_cases hdot : d = '.'
    · subst hdot
      have h2 := adv_ge cc.isNumeric src (adv cc.isNumeric src (st + 1) + 1)
      simp only [if_true]
      -- the text from st+1 to the end: integral digits, the dot, the fraction digits
      rw [take_drop_split src h1 (Nat.le_of_succ_le h2), take_drop_cons h h2, take_adv, take_adv, drop_adv]
    · simp [hdot, take_adv, hd]

set_option linter.unusedSimpArgs false in
theorem number_apply (s : SState) (ch : Char) (h0 : src[s.start]? = some ch) (hc : s.current = s.start + 1) :
    SrcScanner.number (N := N) (src.length + 1) cc src s =
      match NumOps.parse (N := N) (ch :: (src.take (numEnd cc src s.start)).drop (s.start + 1)) with
      | some x => .ok (.literal (.num x), { s with current := numEnd cc src s.start })
      | none => .err .invalidNumber := by
  -- wherever the cursor-moving part ends: if that is `numEnd`, the rest of `number()` is the right side
  have hfin : ∀ c', c' = numEnd cc src s.start →
      (bindOut (get_content (N := N) (src.length + 1) cc src 0 ⟨s.start, c'⟩) fun content =>
        (extract_number (src.length + 1) cc src content).bind fun number => SM.pure (Token.literal (Value.num number))) =
      match NumOps.parse (N := N) (ch :: (src.take (numEnd cc src s.start)).drop (s.start + 1)) with
      | some x => .ok (.literal (.num x), { s with current := numEnd cc src s.start })
      | none => .err .invalidNumber := by
    rintro _ rfl
    rw [get_content_apply _ cc src 0 _ (Nat.zero_le _)]
    simp only [bindOut_ok, Nat.sub_zero, Nat.add_zero, take_drop_cons h0 (numEnd_ge cc src s.start), extract_number, bind, pure]
    cases NumOps.parse (N := N) (ch :: (src.take (numEnd cc src s.start)).drop (s.start + 1)) <;> rfl
  simp only [SrcScanner.number, bind, pure, bind_apply, advance_numeric_apply, bindOut_ok, peek_apply, ite_app, advance_apply, pure_apply, hc, beq_iff_eq]
  by_cases hdot : src[adv cc.isNumeric src (s.start + 1)]? = some '.'
  · simp only [if_pos hdot, bindOut_ok, bind_apply, pure_apply, advance_apply, peek_apply]
    rcases cursor_cases src (adv cc.isNumeric src (s.start + 1) + 1) with ⟨h2, _, hd2⟩ | ⟨d2, h2, _, hd2⟩ <;> rw [h2]
    · exact hfin _ (by simp [numEnd, hdot, adv_end hd2])
    · cases hn : cc.isNumeric d2 with
      | true =>
        simp only [hn, if_true, ite_app, bind_apply, advance_numeric_apply, bindOut_ok, pure_apply]
        exact hfin _ (by simp [numEnd, hdot])
      | false =>
        simp only [hn, Bool.false_eq_true, if_false, ite_app, bind_apply, bindOut_ok, pure_apply]
        exact hfin _ (by simp [numEnd, hdot, adv_stop hd2 hn])
  · simp only [if_neg hdot, bindOut_ok, bind_apply, pure_apply]
    exact hfin _ (by simp [numEnd, hdot])

/-- what `strRaw` returns, in terms of how many characters it consumed (`k`, closing quote included) -/
theorem strRaw_facts (l : Str) : ∀ (raw rest : Str) (hasQ : Bool), strRaw l = some (raw, hasQ, rest) →
    ∃ k, 1 ≤ k ∧ k ≤ l.length ∧ raw = l.take (k - 1) ∧ rest = l.drop k := by
  intro raw rest hasQ h
  obtain rfl := strRaw_append l raw hasQ rest h
  exact ⟨raw.length + 1, by omega, by simp, by simp, by simp⟩

theorem strRaw_skip (l : Str) :
    strRaw l = (strRaw (l.dropWhile nq)).map (fun p => (l.takeWhile nq ++ p.1, p.2.1, p.2.2)) := by
  induction l with
  | nil => simp [strRaw]
  | cons c cs ih =>
    by_cases hc : c = '\''
    · subst hc; simp [List.dropWhile, List.takeWhile, nq]
    · have hq : nq c = true := by simp [nq, hc]
      conv => lhs; unfold strRaw
      simp only [hc, if_false]
      rw [ih]; simp only [List.dropWhile, List.takeWhile, hq]
      cases strRaw (cs.dropWhile nq) <;> simp

theorem adv_stops (p : Char → Bool) (l : Str) (c : Nat) (d : Char) (h : l[adv p l c]? = some d) : p d = false := by
  have := List.head?_dropWhile_not p (l.drop c)
  rwa [← drop_adv, (cursor_some h).2] at this

theorem str_loop (f : Nat) : ∀ (c : Nat) (flag : Bool) (st : Nat), src.length - c < f →
    string_loop1 (N := N) (src.length + 1) cc src f flag ⟨st, c⟩ =
      match strRaw (src.drop c) with
      | none => .err .unterminatedStringLiteral
      | some (_, hasQ, rest) => .ok (flag || hasQ, ⟨st, src.length - rest.length⟩) := by
  induction f with
  | zero => intro c flag st h; omega
  | succ f ih =>
    intro c flag st hf
    have hge := adv_ge nq src c
    simp only [string_loop1, bind, pure, bind_apply]
    rw [strq_loop _ cc src (src.length + 1) ⟨st, c⟩ (by simp; omega), strRaw_skip (src.drop c), ← drop_adv]
    simp only [bindOut_ok, is_at_end_apply, ite_app, throwE_apply, bind_apply, advance_apply, peek_apply, pure_apply, beq_iff_eq, ge_iff_le,
      decide_eq_true_eq]
    rcases cursor_cases src (adv nq src c) with ⟨_, hl, hd⟩ | ⟨d, h, hl, hd⟩ <;> rw [hd]
    · rw [if_pos hl]; rfl
    · -- the inner loop stopped at a quote; a second quote right after it continues the literal
      obtain rfl : d = '\'' := by simpa [nq] using adv_stops nq src c d h
      rw [if_neg (by omega)]
      by_cases h2 : src[adv nq src c + 1]? = some '\''
      · obtain ⟨hl2, hd2⟩ := cursor_some h2
        rw [if_pos h2, ih _ true st (by omega), hd2]
        simp only [strRaw, if_true]
        cases strRaw (src.drop (adv nq src c + 1 + 1)) with
        | none => rfl
        | some p => simp
      · rw [if_neg h2, strRaw_quote _ (by rwa [List.head?_drop])]
        simp; omega

theorem string_apply (s : SState) (hc : s.current = s.start + 1) (hl : s.start < src.length) :
    SrcScanner.string (N := N) (src.length + 1) cc src s =
      match Scanner.string (N := N) (src.drop (s.start + 1)) with
      | .error e => .err e
      | .ok (tok, rest) => .ok (tok, ⟨s.start, src.length - rest.length⟩) := by
  obtain ⟨st, cur⟩ := s
  simp only at hc hl; subst hc
  simp only [SrcScanner.string, Scanner.string, bind, pure, bind_apply]
  rw [str_loop cc src (src.length + 1) (st + 1) false st (by omega)]
  cases hr : strRaw (src.drop (st + 1)) with
  | none => simp
  | some p =>
    obtain ⟨raw, hasQ, rest⟩ := p
    have hd := strRaw_append _ raw hasQ rest hr
    have hlen := congrArg List.length hd
    simp only [List.length_drop, List.length_append, List.length_cons] at hlen
    simp only [bindOut_ok, Bool.false_or, bind_apply]
    rw [get_content_apply _ cc src 1 _ (by simp; omega)]
    have hcont : (List.take (src.length - rest.length - 1) src).drop (st + 1) = raw := by
      rw [List.drop_take, hd]; exact List.take_left' (by omega)
    simp only [bindOut_ok, hcont]
    cases hasQ <;> rfl

/-- the source outcome `x` (with `start = st`) is the model's outcome `y`: same error, or same value and the cursor at the model's remaining text -/
def Sim (st : Nat) (x : COut N (α × SState)) (y : Except (CErr N) (α × Str)) : Prop :=
  match y with
  | .error err => x = .err err
  | .ok (a, rest) => ∃ e, x = .ok (a, ⟨st, e⟩) ∧ src.drop e = rest

omit [NumOps N] in
variable {src} in
theorem Sim.ite {c : Prop} [Decidable c] {st : Nat} {x : COut N (α × SState)} {y₁ y₂ : Except (CErr N) (α × Str)}
    (h₁ : c → Sim src st x y₁) (h₂ : ¬ c → Sim src st x y₂) : Sim src st x (if c then y₁ else y₂) := by
  by_cases h : c
  · rw [if_pos h]; exact h₁ h
  · rw [if_neg h]; exact h₂ h

theorem number_model (st : Nat) (ch : Char) :
    Scanner.number (N := N) cc ch (src.drop (st + 1)) =
      match NumOps.parse (N := N) (ch :: (src.take (numEnd cc src st)).drop (st + 1)) with
      | some x => .ok (.literal (.num x), src.drop (numEnd cc src st))
      | none => .error .invalidNumber := by
  simp only [Scanner.number, numberLex_spec]
  cases NumOps.parse (N := N) (ch :: (src.take (numEnd cc src st)).drop (st + 1)) <;> rfl

theorem identifier_sim (st : Nat) (ch : Char) (h : src[st]? = some ch) :
    Sim src st (SrcScanner.identifier (N := N) (src.length + 1) cc src ⟨st, st + 1⟩) (.ok (Scanner.identifier cc ch (src.drop (st + 1)))) :=
  ⟨_, identifier_apply cc src ⟨st, st + 1⟩ ch h rfl, drop_adv _ _ _⟩

theorem number_sim (st : Nat) (ch : Char) (h : src[st]? = some ch) :
    Sim src st (SrcScanner.number (N := N) (src.length + 1) cc src ⟨st, st + 1⟩) (Scanner.number cc ch (src.drop (st + 1))) := by
  rw [number_apply cc src ⟨st, st + 1⟩ ch h rfl, number_model]
  cases NumOps.parse (N := N) (ch :: (src.take (numEnd cc src st)).drop (st + 1))
  · exact rfl
  · exact ⟨_, rfl, rfl⟩

theorem string_sim (st : Nat) (h : st < src.length) :
    Sim src st (SrcScanner.string (N := N) (src.length + 1) cc src ⟨st, st + 1⟩) (Scanner.string (src.drop (st + 1))) := by
  rw [string_apply cc src ⟨st, st + 1⟩ rfl h]
  cases hs : Scanner.string (N := N) (src.drop (st + 1)) with
  | error e => exact rfl
  | ok p =>
    obtain ⟨tok, rest⟩ := p
    refine ⟨_, rfl, ?_⟩
    simp only [Scanner.string] at hs
    split at hs
    · cases hs
    · rename_i raw hasQ rest' hr
      cases hs
      obtain ⟨k, _, hk, _, rfl⟩ := strRaw_facts _ raw rest hasQ hr
      simp only [List.length_drop] at hk ⊢
      rw [List.drop_drop]; congr 1; omega

theorem greater_sim (s : SState) :
    Sim src s.start (SrcScanner.greater (N := N) fuel cc src s) (.ok (Scanner.greater (N := N) (src.drop s.current))) := by
  simp only [SrcScanner.greater, Scanner.greater, bind, pure, bind_apply, peek_apply, bindOut_ok, ite_app, encounter_double, advance_apply, pure_apply, beq_iff_eq]
  rcases cursor_cases src s.current with ⟨h, _, hd⟩ | ⟨d, h, _, hd⟩ <;> rw [h, hd]
  · exact ⟨_, rfl, hd⟩
  · by_cases he : d = '='
    · subst he; exact ⟨_, rfl, rfl⟩
    · simp only [Option.some.injEq, he, if_false]; exact ⟨_, rfl, hd⟩

theorem lesser_sim (s : SState) :
    Sim src s.start (SrcScanner.lesser (N := N) fuel cc src s) (.ok (Scanner.lesser (N := N) (src.drop s.current))) := by
  simp only [SrcScanner.lesser, Scanner.lesser, bind, pure, bind_apply, peek_apply, bindOut_ok, ite_app, encounter_double, advance_apply, pure_apply, beq_iff_eq]
  rcases cursor_cases src s.current with ⟨h, _, hd⟩ | ⟨d, h, _, hd⟩ <;> rw [h, hd]
  · exact ⟨_, rfl, hd⟩
  · by_cases he : d = '='
    · subst he; exact ⟨_, rfl, rfl⟩
    · by_cases hg : d = '>'
      · subst hg; exact ⟨_, rfl, rfl⟩
      · simp only [Option.some.injEq, he, hg, if_false]; exact ⟨_, rfl, hd⟩

set_option linter.unusedSimpArgs false in
theorem next_token_sim (s : SState) (ch : Char) (h : src[s.current]? = some ch) :
    Sim src s.current (SrcScanner.next_token (N := N) (src.length + 1) cc src s) (nextToken cc ch (src.drop (s.current + 1))) := by
  have one : ∀ t : Token N, Sim (N := N) src s.current (.ok (t, ⟨s.current, s.current + 1⟩)) (.ok (t, src.drop (s.current + 1))) :=
    fun _ => ⟨_, rfl, rfl⟩
  simp only [SrcScanner.next_token, nextToken, bind, pure, bind_apply, get_current_apply, set_start_apply, bindOut_ok, next_char_apply, h,
    okOr_some, ite_app, pure_apply, throwE_apply, isIdentStart_eq, beq_iff_eq]
  -- along the model's chain: where its condition holds the source's chain is evaluated, where it fails that arm goes from the source's too
  refine .ite (fun hc => ?_) fun hc => ?_
  · rw [if_pos hc]; exact identifier_sim cc src _ ch h
  rw [if_neg hc]
  refine .ite (fun hc => ?_) fun hc => ?_
  · rw [if_pos hc]; exact number_sim cc src _ ch h
  rw [if_neg hc]
  refine .ite (fun hc => ?_) fun hc => ?_
  · subst hc; simp only [Char.reduceEq, ↓reduceIte]; exact string_sim cc src _ (cursor_some h).1
  rw [if_neg hc]
  refine .ite (fun hc => ?_) fun hc => ?_
  · subst hc; simp only [Char.reduceEq, ↓reduceIte]; exact number_sim cc src _ _ h
  rw [if_neg hc]
  iterate 10
    refine .ite (fun hc => ?_) fun hc => ?_
    · subst hc; simp only [Char.reduceEq, ↓reduceIte]; exact one _
    rw [if_neg hc]
  refine .ite (fun hc => ?_) fun hc => ?_
  · subst hc; simp only [Char.reduceEq, ↓reduceIte]; exact greater_sim _ cc src ⟨_, _⟩
  rw [if_neg hc]
  refine .ite (fun hc => ?_) fun hc => ?_
  · subst hc; simp only [Char.reduceEq, ↓reduceIte]; exact lesser_sim _ cc src ⟨_, _⟩
  rw [if_neg hc]
  rfl

theorem next_token_apply (s : SState) (ch : Char) (h : src[s.current]? = some ch) :
    ∃ e, SrcScanner.next_token (N := N) (src.length + 1) cc src s =
        (match nextToken (N := N) cc ch (src.drop (s.current + 1)) with
         | .error err => .err err
         | .ok (tok, _) => .ok (tok, ⟨s.current, e⟩)) ∧
      (∀ tok rest, nextToken (N := N) cc ch (src.drop (s.current + 1)) = .ok (tok, rest) → src.drop e = rest) := by
  have hs := next_token_sim (N := N) cc src s ch h
  cases hm : nextToken (N := N) cc ch (src.drop (s.current + 1)) with
  | error err => rw [hm] at hs; exact ⟨0, hs, nofun⟩
  | ok p =>
    obtain ⟨tok, rest⟩ := p
    rw [hm] at hs
    obtain ⟨e, he, hr⟩ := hs
    exact ⟨e, he, fun _ _ h' => by cases h'; exact hr⟩

theorem line_loop (f : Nat) : ∀ (s : SState), src.length - s.current < f →
    ∃ e, skip_comments_loop1 (N := N) fuel cc src f s = .ok ((), ⟨s.start, e⟩) ∧ s.current + 1 ≤ e ∧
      skipWs .code (src.drop e) = skipWs .line (src.drop s.current) := by
  induction f with
  | zero => intro s h; omega
  | succ f ih =>
    intro s hf
    simp only [skip_comments_loop1, bind, pure, bind_apply, next_char_apply, bindOut_ok, ite_app, pure_apply]
    rcases cursor_cases src s.current with ⟨h, hge, hd⟩ | ⟨ch, h, hl, hd⟩ <;> rw [h, hd]
    · exact ⟨s.current + 1, rfl, Nat.le_refl _, by rw [List.drop_eq_nil_of_le (by omega)]; rfl⟩
    · rw [skipWs_line_cons]
      by_cases hn : ch = '\n'
      · exact ⟨s.current + 1, by simp [hn], Nat.le_refl _, by rw [if_pos hn]⟩
      · obtain ⟨e, he1, hge, he2⟩ := ih ⟨s.start, s.current + 1⟩ (by simp; omega)
        exact ⟨e, by simpa [hn] using he1, by simp at hge; omega, by rw [if_neg hn]; exact he2⟩

theorem block_loop (f : Nat) : ∀ (s : SState) (d : Nat), src.length - s.current < f →
    ∃ e r, skip_comments_loop2 (N := N) fuel cc src f ((d : Int) + 1) s = .ok (r, ⟨s.start, e⟩) ∧ s.current + 1 ≤ e ∧
      skipWs .code (src.drop e) = skipWs (.block d) (src.drop s.current) := by
  induction f with
  | zero => intro s d h; omega
  | succ f ih =>
    intro s d hf
    simp only [skip_comments_loop2, bind, pure, bind_apply, next_char_apply, bindOut_ok, ite_app, pure_apply, beq_iff_eq,
      show decide ((d : Int) + 1 > 0) = true by simp, if_true]
    rcases cursor_cases src s.current with ⟨h, hge, hd⟩ | ⟨ch, h, hl, hd⟩ <;> rw [h, hd]
    · exact ⟨s.current + 1, (d : Int) + 1, by simp, Nat.le_refl _, by rw [List.drop_eq_nil_of_le (by omega)]; rfl⟩
    · have step : ∀ d' : Nat, ∃ e r, skip_comments_loop2 (N := N) fuel cc src f ((d' : Int) + 1) ⟨s.start, s.current + 1⟩ = .ok (r, ⟨s.start, e⟩) ∧
          s.current + 1 ≤ e ∧ skipWs .code (src.drop e) = skipWs (.block d') (src.drop (s.current + 1)) := fun d' => by
        obtain ⟨e, r, h1, h2, h3⟩ := ih ⟨s.start, s.current + 1⟩ d' (by simp; omega)
        exact ⟨e, r, h1, by simp at h2; omega, h3⟩
      rw [skipWs_block_cons]
      simp only [Option.some.injEq, reduceCtorEq, if_false, Int.add_sub_cancel]
      split
      · exact step (d + 1)
      · split
        · cases d with
          | zero =>
            obtain ⟨f', rfl⟩ : ∃ f', f = f' + 1 := ⟨f - 1, by omega⟩
            exact ⟨s.current + 1, _, rfl, Nat.le_refl _, rfl⟩
          | succ d' => exact step d'
        · exact step d

/-- one `skip_comments()` at `//` or `{`: the whole comment is skipped, at least two characters -/
theorem skip_comments_true (s : SState)
    (h : (src[s.current]? = some '/' ∧ src[s.current + 1]? = some '/') ∨ src[s.current]? = some '{') :
    ∃ e, skip_comments (N := N) (src.length + 1) cc src s = .ok (true, ⟨s.start, e⟩) ∧ s.current + 2 ≤ e ∧
      skipWs .code (src.drop e) = skipWs .code (src.drop s.current) := by
  rcases h with ⟨h0, h1⟩ | h0
  · obtain ⟨hl, hd0⟩ := cursor_some h0
    obtain ⟨e, he1, hge, he2⟩ := line_loop (N := N) (src.length + 1) cc src src.length ⟨s.start, s.current + 1⟩ (by simp; omega)
    dsimp only at he1 hge he2
    refine ⟨e, ?_, by omega, by rw [he2, hd0, (cursor_some h1).2]; rfl⟩
    simp [skip_comments, skip_comments_loop1, bind, pure, h0, h1, he1]
  · obtain ⟨hl, hd0⟩ := cursor_some h0
    obtain ⟨e, r, he1, hge, he2⟩ := block_loop (N := N) (src.length + 1) cc src (src.length + 1) ⟨s.start, s.current + 1⟩ 0 (by simp; omega)
    dsimp only at he1 hge he2
    refine ⟨e, ?_, by omega, by rw [he2, hd0, skipWs_code_block]⟩
    have he1' : skip_comments_loop2 (N := N) (src.length + 1) cc src (src.length + 1) 1 ⟨s.start, s.current + 1⟩ = .ok (r, ⟨s.start, e⟩) := by
      simpa using he1
    simp [skip_comments, bind, pure, h0, he1']

theorem skip_comments_false (s : SState)
    (h : ¬ ((src[s.current]? = some '/' ∧ src[s.current + 1]? = some '/') ∨ src[s.current]? = some '{')) :
    skip_comments (N := N) (src.length + 1) cc src s = .ok (false, s) := by
  simp only [skip_comments, bind, pure, bind_apply, peek_ahead_apply, bindOut_ok, ite_app, Nat.add_zero, Bool.and_eq_true, beq_iff_eq,
    if_neg fun h' => h (.inl h'), if_neg fun h' => h (.inr h'), pure_apply]

theorem skipws_outer (f : Nat) : ∀ (s : SState), 0 < f → src.length + 2 - s.current ≤ 2 * f →
    ∃ e, skip_whitespace_loop1 (N := N) (src.length + 1) cc src f s = .ok ((), ⟨s.start, e⟩) ∧
      src.drop e = skipWs .code (src.drop s.current) := by
  induction f with
  | zero => intro s h; omega
  | succ f ih =>
    intro s _ hm
    simp only [skip_whitespace_loop1, bind, pure, bind_apply]
    rw [ws_loop _ cc src (src.length + 1) s (by omega), skipWs_code_dropWs, ← drop_adv]
    simp only [bindOut_ok]
    have hge := adv_ge isWs src s.current
    by_cases hcom : (src[adv isWs src s.current]? = some '/' ∧ src[adv isWs src s.current + 1]? = some '/') ∨
        src[adv isWs src s.current]? = some '{'
    · -- a comment is skipped: at least two characters, so one unit of fuel less suffices
      obtain ⟨e1, he1, hge1, hm1⟩ := skip_comments_true (N := N) cc src ⟨s.start, adv isWs src s.current⟩ hcom
      have hl : adv isWs src s.current < src.length := hcom.elim (fun h => (cursor_some h.1).1) fun h => (cursor_some h).1
      dsimp only at hge1
      obtain ⟨e, he, hme⟩ := ih ⟨s.start, e1⟩ (by omega) (by simp; omega)
      exact ⟨e, by simpa [he1] using he, by rw [hme, hm1]⟩
    · refine ⟨adv isWs src s.current, by simp [skip_comments_false (N := N) cc src ⟨s.start, adv isWs src s.current⟩ hcom], ?_⟩
      rcases cursor_cases src (adv isWs src s.current) with ⟨_, _, hd⟩ | ⟨d, h, _, hd⟩ <;> rw [hd]
      · rfl
      · refine (skipWs_noop d _ (adv_stops isWs src s.current d h) (fun hd => hcom (.inr (by rw [h, hd]))) ?_).symm
        rintro rfl r hr
        exact hcom (.inl ⟨h, by rw [← List.head?_drop, hr]; rfl⟩)

theorem skip_whitespace_apply (s : SState) :
    ∃ e, skip_whitespace (N := N) (src.length + 1) cc src s = .ok ((), ⟨s.start, e⟩) ∧
      src.drop e = skipWs .code (src.drop s.current) := by
  obtain ⟨e, he, hme⟩ := skipws_outer (N := N) cc src (src.length + 1) s (by omega) (by omega)
  exact ⟨e, by simp [skip_whitespace, bind, pure, he], hme⟩

def resOf : COut N (α × SState) → COut N α
  | .ok (a, _) => .ok a
  | .err e => .err e
  | .outOfFuel => .outOfFuel
  | .panic => .panic
/-- the loop of `tokenize` pushes onto the vector it was started with -/
def prependOut (acc : List (Token N)) : COut N (List (Token N)) → COut N (List (Token N))
  | .ok ts => .ok (acc ++ ts)
  | .err e => .err e
  | .outOfFuel => .outOfFuel
  | .panic => .panic

theorem tok_loop (f : Nat) : ∀ (tokens : List (Token N)) (s : SState), skipWs .code (src.drop s.current) = src.drop s.current →
    resOf (tokenize_body_loop1 (N := N) (src.length + 1) cc src f tokens s) = prependOut tokens (scanLoop (N := N) cc f (src.drop s.current)) := by
  induction f with
  | zero => intro tokens s _; simp [tokenize_body_loop1, scanLoop, resOf, prependOut]
  | succ f ih =>
    intro tokens s hsk
    simp only [tokenize_body_loop1, bind, pure, bind_apply, is_at_end_apply, bindOut_ok, ite_app, pure_apply]
    rw [scanLoop, hsk]
    rcases cursor_cases src s.current with ⟨_, hge, hd⟩ | ⟨ch, h, hl, hd⟩ <;> rw [hd]
    · simp [hge, resOf, prependOut]
    · have hnt := next_token_sim (N := N) cc src s ch h
      simp only [ge_iff_le, show ¬ src.length ≤ s.current by omega, decide_false, Bool.not_false, if_true]
      cases hm : nextToken (N := N) cc ch (src.drop (s.current + 1)) with
      | error err => rw [hm] at hnt; rw [hnt]; rfl
      | ok p =>
        obtain ⟨tok, rest⟩ := p
        rw [hm] at hnt
        obtain ⟨e, hnt, rfl⟩ := hnt
        obtain ⟨e2, hsw, hdrop⟩ := skip_whitespace_apply (N := N) cc src ⟨s.current, e⟩
        dsimp only at hsw hdrop
        simp only [hnt, bindOut_ok, bind_apply, hsw]
        rw [ih (tokens ++ [tok]) ⟨s.current, e2⟩ (by simp only; rw [hdrop, skipWs_idem])]
        simp only [hdrop, scanLoop_skip]
        cases scanLoop (N := N) cc f (src.drop e) <;> simp [prependOut]

omit [NumOps N] in
theorem prependOut_nil (o : COut N (List (Token N))) : prependOut [] o = o := by
  cases o <;> rfl

/-- `Scanner::tokenize` as translated from the current source IS the model's `scan`, for every text and every character classification -/
theorem scan_is_source : tokenize (N := N) (src.length + 1) cc src = scan (N := N) cc src := by
  obtain ⟨e, hsw, hdrop⟩ := skip_whitespace_apply (N := N) cc src ⟨0, 0⟩
  have hl := tok_loop (N := N) cc src (src.length + 1) [] ⟨0, e⟩ (by simp only; rw [hdrop, skipWs_idem])
  simp only [hdrop, List.drop_zero, scanLoop_skip, prependOut_nil] at hl
  simp only [tokenize, tokenize_body, run, bind, pure, bind_apply, hsw, bindOut_ok, scan, scanAll, ← hl]
  rcases tokenize_body_loop1 (N := N) (src.length + 1) cc src (src.length + 1) [] ⟨0, e⟩ with ⟨ts, s'⟩ | _ | _ | _
  · cases ts <;> rfl
  all_goals rfl

/-- hence the translated `Scanner::tokenize` never reaches the `usize` underflow of `get_content` / `next_char`, and none of its loops needs more than
    `length + 1` iterations, on any text -/
theorem tokenize_total : tokenize (N := N) (src.length + 1) cc src ≠ .panic ∧ tokenize (N := N) (src.length + 1) cc src ≠ .outOfFuel := by
  rw [scan_is_source]
  rcases Slac.Scanner.scan_total (N := N) cc src with ⟨ts, h⟩ | ⟨e, h⟩ <;> rw [h] <;> exact ⟨(by simp), (by simp)⟩

/-- the theorem has no hypotheses; an instance (ASCII character classes, toy numbers): the text `a >= 'it''s' // c` -/
example : tokenize (N := Int) 18 CharClass.ascii ['a', ' ', '>', '=', ' ', '\'', 'i', 't', '\'', '\'', 's', '\'', ' ', '/', '/', ' ', 'c'] =
    scan CharClass.ascii ['a', ' ', '>', '=', ' ', '\'', 'i', 't', '\'', '\'', 's', '\'', ' ', '/', '/', ' ', 'c'] := scan_is_source CharClass.ascii _

end Slac.C02Scanner
