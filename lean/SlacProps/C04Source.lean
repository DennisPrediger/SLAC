/-
  C04 — the translator leg of the tie for the tree-walking interpreter.  `SlacModel/Generated/SrcInterp.lean` is
  REGENERATED on every check run by /verif/tools/rs2lean.py from the current text of /repo/src/interpreter.rs
  (`TreeWalkingInterpreter`: expression, unary, binary, boolean, ternary, get_values, array, variable, call).  It is
  a monadic program in `W N = StateM (List (Event N))` (SlacModel/SrcPrelude.lean): the state is the log of the
  calls made on the `&dyn Environment` so far, `envVariable` / `envCall` append one event each.
  The theorems say that the hand-written, compositional model of SlacModel/Interp.lean is exactly the translated
  source, result AND event trace, for every number type `N`, every environment, every tree and EVERY initial log `t`:
    * `interp_is_source`     : `interp_expression env e t = ((evalT env e).1, t ++ (evalT env e).2)`
    * `get_values_is_source` : `get_values_each env es t = ((evalList env es).1, t ++ (evalList env es).2)`
    * `interp_both`          : the two statements above at once (the functions are mutually recursive)
    * `execute_is_source`    : `(interp_expression env e []).1 = evalR env e`          (`slac::execute`)
    * `trace_is_source`      : `(interp_expression env e []).2 = (evalT env e).2`      (the recorded environment calls)
  The proofs split data only (operator, `Except`, error kind, `Bool`) until both sides compute.  Nothing refers to a bound variable, temporary (`r3`, `a6`, `v2`, …) or generated hypothesis name, and nothing
  depends on the order of independent match arms of the generated file; only the two function names
  `interp_expression` and `get_values_each` are used.  A changed arm in interpreter.rs changes the generated file and
  breaks one of these proofs.
-/
import SlacModel.Generated.SrcInterp
import SlacProofs.InterpLemmas
set_option autoImplicit false
set_option linter.unusedSectionVars false
namespace Slac.C04Source
open Slac.Generated Slac.SrcPrelude
variable {N : Type} [NumOps N]

theorem run_pure {α : Type} (a : α) (t : List (Event N)) : (pure a : W N α) t = (a, t) := rfl

theorem run_bind {α β : Type} (x : W N α) (f : α → W N β) (t : List (Event N)) :
    (x >>= f) t = f (x t).1 (x t).2 := rfl

/-- `simp` normalises `x >>= fun a => pure (f a)` to `f <$> x` -/
theorem run_map {α β : Type} (f : α → β) (x : W N α) (t : List (Event N)) :
    (f <$> x) t = (f (x t).1, (x t).2) := rfl

/-- `self.environment.variable(name)`: the answer of the environment, one `lookup` event -/
theorem run_variable (env : Env N) (n : Str) (t : List (Event N)) :
    envVariable env n t = (env.var n, t ++ [.lookup n]) := rfl

/-- `self.environment.call(name, params)`: the answer of the environment, one `call` event -/
theorem run_call (env : Env N) (n : Str) (vs : List (Value N)) (t : List (Event N)) :
    envCall env n vs t = (env.call n vs, t ++ [.call n vs]) := rfl

theorem asBool_bool (b : Bool) : Value.asBool (.bool b : Value N) = b := rfl

/-- closes a goal in which every child result has been replaced by constructors: both sides compute; where the right
    operand was run, the source has appended its events to `t ++ tl`, the model `tl ++ tr` to `t` -/
local macro "finish" : tactic =>
  `(tactic| first | exact Prod.ext rfl (List.append_assoc _ _ _) | rfl)

/-- `finish`, after a case split on the kind of error if that is what is missing -/
local macro "finish_err" er:ident : tactic =>
  `(tactic| first | finish | (cases $er:ident <;> finish))

/-- run from any log `t`, the source returns the model's result and appends the model's events -/
abbrev Agrees (env : Env N) (e : Expr N) : Prop :=
  ∀ t : List (Event N), SrcInterp.interp_expression env e t = ((evalT env e).1, t ++ (evalT env e).2)
abbrev AgreesL (env : Env N) (es : List (Expr N)) : Prop :=
  ∀ t : List (Event N), SrcInterp.get_values_each env es t = ((evalList env es).1, t ++ (evalList env es).2)

/-- `TreeWalkingInterpreter::unary` -/
theorem unary_step (env : Env N) (r : Expr N) (op : Op)
    (ih : Agrees env r) :
    Agrees env (.unary r op) := by
  intro t
  simp only [SrcInterp.interp_expression, evalT, run_bind, ih]
  generalize evalT env r = p
  obtain ⟨res, tr⟩ := p
  cases res with
  | error e => rfl
  | ok v => cases op <;> rfl

/-- `TreeWalkingInterpreter::binary` and both instances of `boolean`: the left operand is run first; then the arm
    selected by (operator, left result) decides whether the right operand is run at all -/
theorem binary_step (env : Env N) (l r : Expr N) (op : Op)
    (ihl : Agrees env l)
    (ihr : Agrees env r) :
    Agrees env (.binary l r op) := by
  intro t
  simp only [SrcInterp.interp_expression, evalT, run_bind, ihl, funext ihr]
  generalize evalT env l = pl
  generalize evalT env r = pr
  obtain ⟨resl, tl⟩ := pl
  obtain ⟨resr, tr⟩ := pr
  -- first the data that selects the arm (left result, operator, truth value for `and`/`or`), which collapses the
  -- outer matches of both sides; the right result only where the arm runs the right operand
  cases resl with
  | ok lv =>
    -- with a left value the model is read class by class (`binModel_eq`): for a strict operator neither side looks
    -- at the kind of a right error
    rw [binModel_eq]
    cases op
    case and | or =>
      cases hb : Value.asBool lv <;> simp only [Op.cls, absorb, Opd.truthy, hb] <;>
        first | rfl | (cases resr with | ok rv => finish | error er => cases er <;> finish)
    case equal | notEqual =>
      simp only [Op.cls, absorb, Opd.eq, Bool.bne_false, Bool.bne_true]
      cases resr with
      | ok rv => finish
      | error er => cases er <;> finish
    all_goals
      dsimp only
      cases resr <;> finish
  | error el =>
    cases el with
    | undefinedVariable n =>
      cases op <;> first | rfl | (cases resr with | ok rv => finish | error er => finish_err er)
    | _ =>
      -- any other error of the left operand is the result on both sides, whatever the operator: the last arm
      rw [binModel_left_error op (by intro n h; cases h)]
      simp only [run_pure]

/-- `TreeWalkingInterpreter::ternary` -/
theorem ternary_step (env : Env N) (l m r : Expr N) (op : Op)
    (ihl : Agrees env l)
    (ihm : Agrees env m)
    (ihr : Agrees env r) :
    Agrees env (.ternary l m r op) := by
  intro t
  simp only [SrcInterp.interp_expression, evalT]
  cases op <;> try (simp only [ternModel, run_pure, List.append_nil]; done)
  simp only [run_bind, ihl]
  generalize evalT env l = pl
  obtain ⟨resl, tl⟩ := pl
  cases resl with
  | error el => rfl
  | ok lv =>
    cases hb : Value.asBool lv <;>
      simp only [ternModel, ihm, ihr, hb, List.append_assoc, Bool.false_eq_true, ↓reduceIte]

/-- `TreeWalkingInterpreter::array` -/
theorem array_step (env : Env N) (es : List (Expr N))
    (ih : AgreesL env es) :
    Agrees env (.array es) := by
  intro t
  simp only [SrcInterp.interp_expression, evalT, run_bind, ih]
  generalize evalList env es = p
  obtain ⟨res, tr⟩ := p
  cases res <;> rfl

theorem lit_step (env : Env N) (v : Value N) :
    Agrees env (.lit v) := by
  intro t
  simp only [SrcInterp.interp_expression, evalT, run_pure, List.append_nil]

/-- `TreeWalkingInterpreter::variable` -/
theorem var_step (env : Env N) (n : Str) :
    Agrees env (.var n) := by
  intro t
  simp only [SrcInterp.interp_expression, evalT, run_bind, run_variable]
  cases env.var n <;> rfl

/-- `TreeWalkingInterpreter::call` -/
theorem call_step (env : Env N) (n : Str) (ps : List (Expr N))
    (ih : AgreesL env ps) :
    Agrees env (.call n ps) := by
  intro t
  simp only [SrcInterp.interp_expression, evalT, run_bind, ih]
  generalize evalList env ps = p
  obtain ⟨res, tr⟩ := p
  cases res with
  | error er => rfl
  | ok vs =>
    simp only [run_bind, run_call, List.append_assoc]
    cases env.call n vs <;> rfl

/-- `get_values` on the empty slice -/
theorem nil_step (env : Env N) : AgreesL env [] := by
  intro t
  simp only [SrcInterp.get_values_each, evalList, run_pure, List.append_nil]

/-- `get_values`: one more element (`?` stops at the first error) -/
theorem cons_step (env : Env N) (e : Expr N) (es : List (Expr N))
    (ihe : Agrees env e)
    (ihes : AgreesL env es) :
    AgreesL env (e :: es) := by
  intro t
  simp only [SrcInterp.get_values_each, evalList, run_bind, ihe, funext ihes]
  generalize evalT env e = p
  generalize evalList env es = q
  obtain ⟨res, tr⟩ := p
  obtain ⟨resq, tq⟩ := q
  cases res with
  | error er => rfl
  | ok v => cases resq <;> finish

theorem interp_both (env : Env N) :
    (∀ (e : Expr N) (t : List (Event N)),
      SrcInterp.interp_expression env e t = ((evalT env e).1, t ++ (evalT env e).2)) ∧
    (∀ (es : List (Expr N)) (t : List (Event N)),
      SrcInterp.get_values_each env es t = ((evalList env es).1, t ++ (evalList env es).2)) :=
  Expr.rec_both (unary_step env) (binary_step env) (ternary_step env) (array_step env) (lit_step env) (var_step env)
    (call_step env) (nil_step env) (cons_step env)

/-- src/interpreter.rs `TreeWalkingInterpreter::expression`, started with the log `t` -/
theorem interp_is_source (env : Env N) (e : Expr N) (t : List (Event N)) :
    SrcInterp.interp_expression env e t = ((evalT env e).1, t ++ (evalT env e).2) := (interp_both env).1 e t

/-- src/interpreter.rs `TreeWalkingInterpreter::get_values`, started with the log `t` -/
theorem get_values_is_source (env : Env N) (es : List (Expr N)) (t : List (Event N)) :
    SrcInterp.get_values_each env es t = ((evalList env es).1, t ++ (evalList env es).2) :=
  (interp_both env).2 es t

/-- `slac::execute`: the result of the source is the result of the model -/
theorem execute_is_source (env : Env N) (e : Expr N) :
    (SrcInterp.interp_expression env e []).1 = evalR env e := by
  rw [interp_is_source]; rfl

/-- the calls the source makes on its environment, in order, are the trace of the model -/
theorem trace_is_source (env : Env N) (e : Expr N) :
    (SrcInterp.interp_expression env e []).2 = (evalT env e).2 := by
  rw [interp_is_source]; exact List.nil_append _

end Slac.C04Source
