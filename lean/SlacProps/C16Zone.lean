/-
  C16 (continued) — the four builtins of src/stdlib/time.rs that consult the HOST'S LOCAL TIME ZONE
  (`date_to_rfc3339`, `date_to_rfc2822` through `naive_to_fixed`; `date_from_rfc3339`, `date_from_rfc2822` through
  `fixed_to_naive`), with the zone as a parameter `z : Zone` of the model (SlacModel.TimeZone: what chrono 0.4.45's
  `Local` derives from the `TZ` environment variable; SlacModel.TimeRfc: `dateToRfc3339Z z`, …).
  Tie: `call` stream of the correspondence harness under `TZ='CET-1CEST,M3.5.0,M10.5.0/3'`, `TZ='EST5EDT,M3.2.0,M11.1.0'`
  and `TZ=UTC` against the driver with `SLAC_MODEL_TZ` set to the same string.

  L. `Zone.Lawful z`: the sanity conditions on a zone under which the theorems hold — offsets below 24 h and in whole
     minutes (what an RFC text can carry), and `localResult` CONFIRMED by `offsetFromUtc`: a reading with the single
     offset `off` is the instant `l − off`, and the zone's offset at that instant is `off` — EXCEPT possibly for the
     reading one second before a skipped reading; conversely the wall clock of every instant is mapped back to the
     instant's offset (alone, or as one of two inside a repeated hour).  The exception is forced by chrono: it attributes the first skipped
     second of a forward transition (02:00:00 on the last Sunday of March in Central Europe) to the old offset
     (`AlternateTime::find_local_time_type_from_local`: `local_time <= dst_start_transition_start`).
     `Zone.utc` and every fixed whole-minute zone are lawful (this section); so are the two POSIX zones of the correspondence
     runs (section P).
  U. The UTC builtins of SlacProps.C16Rfc are the `Zone.utc` instances.
  R. Round trips: for every lawful zone and every date-time of years 0–9999 whose local reading exists, is unambiguous
     and is not followed by a skipped second, `date_from_rfc3339 (date_to_rfc3339 x) = x` exactly (to the millisecond),
     and the RFC 2822 analogue at whole seconds.  At the excepted second the round trip FAILS in chrono and in the model
     (example `seam_roundtrip_fails`).
  E. `date_to_rfc3339/2822` answer the error value `CustomError("invalid datetime value")` exactly on readings that do
     not exist (gap) or exist twice (overlap); otherwise the text is the local fields followed by the offset of the
     reading, which is the zone's offset at that instant.  In the other direction (`dateToRfc3339Z_of_instant`): the
     wall clock of an instant is printed with that instant's offset or refused as ambiguous, nothing else.
  T. Totality: in a lawful zone each of the four builtins answers a value or an error value for every argument list;
     the model is silent (`none`: chrono panics in `Local::offset_from_utc_datetime(..).unwrap()`) exactly when the
     zone's offset at the parsed instant is 24 h or more — reachable with `TZ='AAA-23:30BBB,M3.5.0,M10.5.0'`.
-/
import SlacProps.C16Rfc
import SlacProofs.TimeZoneRound
import SlacProofs.TimeZoneNorth
set_option autoImplicit false
set_option linter.unusedSimpArgs false
namespace Slac.C16
open Slac.Time Slac.TimeRfc Slac.Stdlib

/-! ## L. Lawful zones -/

structure _root_.Slac.Time.Zone.Lawful (z : Zone) : Prop where
  /-- offsets from the UTC side are below 24 h (`FixedOffset::east_opt` succeeds) … -/
  utcBound : ∀ u, -86400 < z.offsetFromUtc u ∧ z.offsetFromUtc u < 86400
  /-- … and so are the offsets of unambiguous local readings -/
  localBound : ∀ l off, z.localResult l = .single off → -86400 < off ∧ off < 86400
  /-- offsets are whole minutes: the RFC texts print `±hh:mm`, chrono ROUNDS seconds away -/
  localMinutes : ∀ l off, z.localResult l = .single off → off % 60 = 0
  /-- an unambiguous local reading `l` with offset `off` is the instant `l − off`, and the zone's offset at that instant is
      `off` — unless the next second is a skipped reading -/
  confirmed : ∀ l off, z.localResult l = .single off → z.localResult (l + 1) ≠ .none → z.offsetFromUtc (l - off) = off
  /-- conversely the wall-clock reading `u + offset` of an instant `u` is mapped back to that offset: as the single
      candidate, or as one of the two candidates of a repeated reading — never to `none`, never to another offset -/
  complete : ∀ u, (z.localResult (u + z.offsetFromUtc u)).mentions (z.offsetFromUtc u)

/-- a zone without transitions -/
theorem Zone.fixed_lawful (off : Int) (h1 : -86400 < off) (h2 : off < 86400) (hm : off % 60 = 0) : (Zone.fixed off).Lawful := by
  refine ⟨fun _ => ⟨h1, h2⟩, ?_, ?_, ?_, fun _ => rfl⟩
  · intro l o h; simp only [Zone.fixed, LocalResult.single.injEq] at h; subst h; exact ⟨h1, h2⟩
  · intro l o h; simp only [Zone.fixed, LocalResult.single.injEq] at h; subst h; exact hm
  · intro l o h _; simp only [Zone.fixed, LocalResult.single.injEq] at h; subst h; rfl

theorem Zone.utc_lawful : Zone.utc.Lawful := Zone.fixed_lawful 0 (by decide) (by decide) (by decide)

example : (Zone.fixed 19800).Lawful := Zone.fixed_lawful _ (by decide) (by decide) (by decide)      -- +05:30

/-! ## U. the UTC builtins are the `Zone.utc` instances -/

/-- what `subOffset` returns is a `NaiveDateTime`: date in chrono's range, second of the day below 86400 -/
theorem subOffset_range {t u : NDT} {off : Int} (h : subOffset t off = some u) :
    yearInRange u.days = true ∧ u.time.secs < 86400 := by
  unfold subOffset at h
  simp only at h
  split at h
  · rename_i hy
    cases h
    refine ⟨hy, ?_⟩
    show (((t.time.secs : Int) - off) % 86400).toNat < 86400
    omega
  · cases h

theorem subOffset_zero {u : NDT} (h1 : yearInRange u.days = true) (h2 : u.time.secs < 86400) : subOffset u 0 = some u := by
  have e := shiftNDT_zero u h2
  rw [subOffset_shift u 0 (by rw [e]; exact h1), e]

theorem rfc3339Tail_range {date : Int} {h mi sec : Nat} {tail : Str} {u : NDT} (hu : rfc3339Tail date h mi sec tail = .ok u) :
    yearInRange u.days = true ∧ u.time.secs < 86400 := by
  -- every `.ok` leaf of the parser is a result of `subOffset`
  unfold rfc3339Tail at hu
  simp only [bind, Except.bind] at hu
  repeat' split at hu
  all_goals cases hu
  exact subOffset_range ‹_›

theorem rfc3339Utc_range {s : Str} {u : NDT} (hu : rfc3339Utc s = .ok u) : yearInRange u.days = true ∧ u.time.secs < 86400 := by
  unfold rfc3339Utc at hu
  split at hu
  · cases hu
  · simp only [bind, Except.bind] at hu
    repeat (split at hu; · cases hu)
    exact rfc3339Tail_range hu

theorem toDatetimeUtc_range {p : Parsed} {u : NDT} (hu : p.toDatetimeUtc = .ok u) : yearInRange u.days = true ∧ u.time.secs < 86400 := by
  unfold Parsed.toDatetimeUtc at hu
  repeat' split at hu
  all_goals cases hu
  exact subOffset_range ‹_›

theorem rfc2822Utc_range {s : Str} {u : NDT} (hu : rfc2822Utc s = .ok u) : yearInRange u.days = true ∧ u.time.secs < 86400 := by
  unfold rfc2822Utc at hu
  split at hu
  · cases hu
  · exact toDatetimeUtc_range hu
  · cases hu

section
variable {N : Type} [NumX N]

theorem finishZ_utc (r : PRes NDT) (hr : ∀ u, r = .ok u → yearInRange u.days = true ∧ u.time.secs < 86400) :
    (finishZ Zone.utc r : Option (Res N)) = some (Time.finish (r.map fun u => (fixedToNaive u).millis)) := by
  cases r with
  | error e => rfl
  | ok u =>
    obtain ⟨h1, h2⟩ := hr u rfl
    have hv : validOffset 0 = true := by decide
    simp [finishZ, fixedToNaiveZ, Zone.utc, Zone.fixed, hv, subOffset_zero h1 h2, Time.finish, Except.map, fixedToNaive]

/-- `date_from_rfc3339` of C16Rfc is the `Zone.utc` instance, on every argument list -/
theorem dateFromRfc3339Z_utc (ps : List (Value N)) : dateFromRfc3339Z Zone.utc ps = dateFromRfc3339 ps := by
  unfold dateFromRfc3339Z dateFromRfc3339
  split
  · rename_i s; exact finishZ_utc _ (fun u h => rfc3339Utc_range h)
  · rfl
  · rfl

theorem dateFromRfc2822Z_utc (ps : List (Value N)) : dateFromRfc2822Z Zone.utc ps = dateFromRfc2822 ps := by
  unfold dateFromRfc2822Z dateFromRfc2822
  split
  · rename_i s; exact finishZ_utc _ (fun u h => rfc2822Utc_range h)
  · rfl
  · rfl

/-- a decoded date-time number is a `NaiveDateTime`, so its reading in UTC has the offset 0 -/
theorem naiveToFixed_utc {v : Value N} {t : DT} (h : decode v = .ok t) : naiveToFixed Zone.utc t = some 0 := by
  unfold decode at h
  split at h
  · split at h
    · rename_i hm; cases h
      obtain ⟨_, h2, h3, h4⟩ := ofMillis_some hm
      have hs : subOffset (toNDT t) 0 = some (toNDT t) :=
        subOffset_zero (by simp [toNDT, yearInRange, h3, h4]) (by simp only [toNDT]; omega)
      simp [naiveToFixed, Zone.utc, Zone.fixed, (by decide : validOffset 0 = true), hs]
    · cases h
  · cases h

/-- `date_to_rfc3339` of C16Rfc is the `Zone.utc` instance, on every argument list -/
theorem dateToRfc3339Z_utc (ps : List (Value N)) : dateToRfc3339Z Zone.utc ps = dateToRfc3339 ps := by
  unfold dateToRfc3339Z dateToRfc3339
  split
  · rename_i v
    cases hd : decode v with
    | error e => rfl
    | ok t => simp only [naiveToFixed_utc hd, rfc3339At_zero]
  · rfl

theorem dateToRfc2822Z_utc (ps : List (Value N)) : dateToRfc2822Z Zone.utc ps = dateToRfc2822 ps := by
  unfold dateToRfc2822Z dateToRfc2822
  split
  · rename_i v
    cases hd : decode v with
    | error e => rfl
    | ok t => simp only [naiveToFixed_utc hd, rfc2822At_zero]
  · rfl

end

/-! ## R. Round trips in a lawful zone -/

theorem toNDT_timestamp (t : DT) : (toNDT t).timestamp = t.timestamp := rfl

/-- `naive_to_fixed` in a lawful zone: the offset of the local reading when there is exactly one (for years 0–9999 the
    UTC date-time is always in chrono's range) -/
theorem naiveToFixed_eq {z : Zone} (hz : z.Lawful) {t : DT} (h : Rfc t) :
    naiveToFixed z t = match z.localResult t.timestamp with | .single off => some off | _ => none := by
  unfold naiveToFixed
  cases hl : z.localResult t.timestamp with
  | single off =>
    obtain ⟨b1, b2⟩ := hz.localBound _ _ hl
    obtain ⟨d1, d2⟩ := dt_days_range t h.y0 h.y1
    have hms := h.ms
    have hv : validOffset off = true := by simp [validOffset]; omega
    have hs := subOffset_shift (toNDT t) off (yearInRange_near _ (by simp only [shiftNDT, toNDT]; omega) (by simp only [shiftNDT, toNDT]; omega))
    simp [hv, hs]
  | none => rfl
  | ambiguous a b => rfl

section
variable {N : Type} [NumX N]

/-- the heart of both round trips: a UTC date-time obtained by shifting a local one (`x`, with the date and second of
    `t`) by `−off` comes back as `x` when the zone confirms `off` at that instant -/
theorem finishZ_shift {z : Zone} (hz : z.Lawful) {t : DT} (h : Rfc t) {off : Int}
    (hl : z.localResult t.timestamp = .single off) (hn : z.localResult (t.timestamp + 1) ≠ .none)
    (x : NDT) (hx1 : x.days = t.days) (hx2 : x.time.secs = t.ms / 1000) :
    (finishZ z (.ok (shiftNDT x off)) : Option (Res N)) = some (.ok (encodeMs x.millis)) := by
  obtain ⟨b1, b2⟩ := hz.localBound _ _ hl
  obtain ⟨d1, d2⟩ := dt_days_range t h.y0 h.y1
  have hms := h.ms
  have hts : (shiftNDT x off).timestamp = t.timestamp - off := by
    rw [shiftNDT_timestamp]; simp only [NDT.timestamp, DT.timestamp, hx1, hx2]
  have hoff : z.offsetFromUtc (shiftNDT x off).timestamp = off := by rw [hts]; exact hz.confirmed _ _ hl hn
  have hv : validOffset off = true := by simp [validOffset]; omega
  have hs := subOffset_shift (shiftNDT x off) (-off)
    (yearInRange_near _ (by simp only [shiftNDT, hx1, hx2]; omega) (by simp only [shiftNDT, hx1, hx2]; omega))
  have hm : (shiftNDT (shiftNDT x off) (-off)).millis = x.millis := by rw [shiftNDT_millis, shiftNDT_millis]; omega
  simp only [finishZ, fixedToNaiveZ, hoff, hv, if_true, hs, hm]

/-- `date_from_rfc3339 (to_rfc3339 t) = t` in the zone `z`, no hypothesis about numbers -/
theorem dateFromRfc3339Z_rfc3339At {z : Zone} (hz : z.Lawful) (t : DT) (h : Rfc t) (off : Int)
    (hl : z.localResult t.timestamp = .single off) (hn : z.localResult (t.timestamp + 1) ≠ .none) :
    dateFromRfc3339Z z [(.str (rfc3339At off t) : Value N)] = some (.ok (encode t)) := by
  obtain ⟨b1, b2⟩ := hz.localBound _ _ hl
  rw [dateFromRfc3339Z, rfc3339Utc_rfc3339At off t h.ms h.y0 h.y1 b1 b2 (hz.localMinutes _ _ hl),
    finishZ_shift hz h hl hn (toNDT t) rfl rfl, toNDT_millis]
  rfl

/-- `date_from_rfc2822 (to_rfc2822 t)` in the zone `z` is `t` truncated to the whole second -/
theorem dateFromRfc2822Z_rfc2822At {z : Zone} (hz : z.Lawful) (t : DT) (h : Rfc t) (off : Int)
    (hl : z.localResult t.timestamp = .single off) (hn : z.localResult (t.timestamp + 1) ≠ .none) :
    dateFromRfc2822Z z [(.str (rfc2822At off t) : Value N)] = some (.ok (encode ⟨t.days, t.ms / 1000 * 1000⟩)) := by
  obtain ⟨b1, b2⟩ := hz.localBound _ _ hl
  rw [dateFromRfc2822Z, rfc2822Utc_rfc2822At off t h.ms h.y0 h.y1 b1 b2 (hz.localMinutes _ _ hl),
    finishZ_shift hz h hl hn ⟨t.days, ⟨t.ms / 1000, 0⟩⟩ rfl rfl, secondNDT_millis]
  rfl

end

section
variable {N : Type}

/-- what `date_to_rfc3339/2822` (printer `g`) answer by the kind of the local reading -/
def zoneText (lr : LocalResult) (g : Int → Str) : Res N :=
  match lr with
  | .single off => .ok (.str (g off))
  | _ => .error (custom "invalid datetime value")

theorem zoneText_error_iff (lr : LocalResult) (g : Int → Str) :
    (∃ e, (zoneText lr g : Res N) = .error e) ↔ (lr = .none ∨ ∃ a b, lr = .ambiguous a b) := by
  cases lr <;> simp [zoneText]

theorem zoneText_ok {lr : LocalResult} {g : Int → Str} {txt : Str} (h : (zoneText lr g : Res N) = .ok (.str txt)) :
    ∃ off, txt = g off ∧ lr = .single off := by
  cases lr <;> simp only [zoneText] at h
  · cases h
  · cases h; exact ⟨_, rfl, rfl⟩
  · cases h

end

section
variable {N : Type} [NumX N] [LawfulTimeNum N]

theorem dateToRfc3339Z_cases {z : Zone} (hz : z.Lawful) (t : DT) (h : Rfc t) :
    dateToRfc3339Z z [(encode t : Value N)] = zoneText (z.localResult t.timestamp) (rfc3339At · t) := by
  simp only [dateToRfc3339Z, Time.decode_encode t h.enc, naiveToFixed_eq hz h]
  cases z.localResult t.timestamp <;> rfl

theorem dateToRfc2822Z_cases {z : Zone} (hz : z.Lawful) (t : DT) (h : Rfc t) :
    dateToRfc2822Z z [(encode t : Value N)] = zoneText (z.localResult t.timestamp) (rfc2822At · t) := by
  have hy : 0 ≤ t.year ∧ t.year ≤ 9999 := ⟨h.y0, h.y1⟩
  simp only [dateToRfc2822Z, Time.decode_encode t h.enc, naiveToFixed_eq hz h, hy, and_self, if_true]
  cases z.localResult t.timestamp <;> rfl

/-- ROUND TRIP, RFC 3339, in every lawful zone: for every date-time number `x = encode t` exact to the millisecond in
    years 0–9999 for which `date_to_rfc3339` answers a text (the local reading exists and is unambiguous) and whose
    next second is not a skipped reading, `date_from_rfc3339 (date_to_rfc3339 x) = x` -/
theorem rfc3339_roundtrip_zone {z : Zone} (hz : z.Lawful) (t : DT) (h : Rfc t)
    (hn : z.localResult (t.timestamp + 1) ≠ .none) (txt : Str)
    (hp : dateToRfc3339Z z [(encode t : Value N)] = .ok (.str txt)) :
    dateFromRfc3339Z z [(.str txt : Value N)] = some (.ok (encode t)) := by
  rw [dateToRfc3339Z_cases hz t h] at hp
  obtain ⟨off, rfl, hl⟩ := zoneText_ok hp
  exact dateFromRfc3339Z_rfc3339At hz t h off hl hn

/-- … and RFC 2822: the millisecond of the second is dropped (truncation) -/
theorem rfc2822_roundtrip_zone_truncates {z : Zone} (hz : z.Lawful) (t : DT) (h : Rfc t)
    (hn : z.localResult (t.timestamp + 1) ≠ .none) (txt : Str)
    (hp : dateToRfc2822Z z [(encode t : Value N)] = .ok (.str txt)) :
    dateFromRfc2822Z z [(.str txt : Value N)] = some (.ok (encode ⟨t.days, t.ms / 1000 * 1000⟩)) := by
  rw [dateToRfc2822Z_cases hz t h] at hp
  obtain ⟨off, rfl, hl⟩ := zoneText_ok hp
  exact dateFromRfc2822Z_rfc2822At hz t h off hl hn

/-- ROUND TRIP, RFC 2822, at whole seconds -/
theorem rfc2822_roundtrip_zone {z : Zone} (hz : z.Lawful) (t : DT) (h : Rfc t) (hs : t.ms % 1000 = 0)
    (hn : z.localResult (t.timestamp + 1) ≠ .none) (txt : Str)
    (hp : dateToRfc2822Z z [(encode t : Value N)] = .ok (.str txt)) :
    dateFromRfc2822Z z [(.str txt : Value N)] = some (.ok (encode t)) := by
  rw [rfc2822_roundtrip_zone_truncates hz t h hn txt hp, (by omega : t.ms / 1000 * 1000 = t.ms)]

/-! ## E. errors exactly on gaps and overlaps; the printed offset -/

/-- `date_to_rfc3339` is an error EXACTLY when the local reading does not exist (gap) or exists twice (overlap) -/
theorem dateToRfc3339Z_error_iff {z : Zone} (hz : z.Lawful) (t : DT) (h : Rfc t) :
    (∃ e, dateToRfc3339Z z [(encode t : Value N)] = .error e) ↔
      (z.localResult t.timestamp = .none ∨ ∃ a b, z.localResult t.timestamp = .ambiguous a b) := by
  rw [dateToRfc3339Z_cases hz t h]; exact zoneText_error_iff _ _

theorem dateToRfc2822Z_error_iff {z : Zone} (hz : z.Lawful) (t : DT) (h : Rfc t) :
    (∃ e, dateToRfc2822Z z [(encode t : Value N)] = .error e) ↔
      (z.localResult t.timestamp = .none ∨ ∃ a b, z.localResult t.timestamp = .ambiguous a b) := by
  rw [dateToRfc2822Z_cases hz t h]; exact zoneText_error_iff _ _

/-- the error is `CustomError("invalid datetime value")`, nothing else -/
theorem dateToRfc3339Z_error_value {z : Zone} (hz : z.Lawful) (t : DT) (h : Rfc t) (e : NativeError)
    (he : dateToRfc3339Z z [(encode t : Value N)] = .error e) : e = custom "invalid datetime value" := by
  rw [dateToRfc3339Z_cases hz t h] at he
  cases hl : z.localResult t.timestamp <;> rw [hl] at he <;> cases he <;> rfl

/-- THE PRINTED OFFSET IS THE ZONE'S OFFSET AT THAT INSTANT: when `date_to_rfc3339` answers a text, the text is the local
    fields of `t` followed by `±hh:mm` of an offset `off`; `t` read at `off` is the instant `t.timestamp − off`, and the
    zone's offset at that instant (the UTC-side lookup that `date_from_*` uses) is `off` -/
theorem dateToRfc3339Z_offset {z : Zone} (hz : z.Lawful) (t : DT) (h : Rfc t) (hn : z.localResult (t.timestamp + 1) ≠ .none)
    (txt : Str) (hp : dateToRfc3339Z z [(encode t : Value N)] = .ok (.str txt)) :
    ∃ off, txt = rfc3339At off t ∧ z.localResult t.timestamp = .single off ∧ z.offsetFromUtc (t.timestamp - off) = off := by
  rw [dateToRfc3339Z_cases hz t h] at hp
  obtain ⟨off, e, hl⟩ := zoneText_ok hp
  exact ⟨off, e, hl, hz.confirmed _ _ hl hn⟩

theorem dateToRfc2822Z_offset {z : Zone} (hz : z.Lawful) (t : DT) (h : Rfc t) (hn : z.localResult (t.timestamp + 1) ≠ .none)
    (txt : Str) (hp : dateToRfc2822Z z [(encode t : Value N)] = .ok (.str txt)) :
    ∃ off, txt = rfc2822At off t ∧ z.localResult t.timestamp = .single off ∧ z.offsetFromUtc (t.timestamp - off) = off := by
  rw [dateToRfc2822Z_cases hz t h] at hp
  obtain ⟨off, e, hl⟩ := zoneText_ok hp
  exact ⟨off, e, hl, hz.confirmed _ _ hl hn⟩

/-- THE OTHER DIRECTION: let `t` be the wall-clock reading of an instant `u` in the zone (what `date_from_rfc3339/2822`
    return for a text denoting `u`).  Then `date_to_rfc3339 t` prints `t` with the zone's offset at `u` — the SAME
    instant — or refuses `t` as a repeated reading one of whose two offsets is that offset.  It never prints another
    offset and never claims that the reading does not exist. -/
theorem dateToRfc3339Z_of_instant {z : Zone} (hz : z.Lawful) (t : DT) (h : Rfc t) (u : Int)
    (hu : t.timestamp = u + z.offsetFromUtc u) :
    dateToRfc3339Z z [(encode t : Value N)] = .ok (.str (rfc3339At (z.offsetFromUtc u) t)) ∨
    (dateToRfc3339Z z [(encode t : Value N)] = .error (custom "invalid datetime value") ∧
      ∃ a b, z.localResult t.timestamp = .ambiguous a b ∧ (a = z.offsetFromUtc u ∨ b = z.offsetFromUtc u)) := by
  have hc := hz.complete u
  rw [← hu] at hc
  rw [dateToRfc3339Z_cases hz t h]
  cases hl : z.localResult t.timestamp with
  | none => rw [hl] at hc; exact hc.elim
  | single o => rw [hl] at hc; left; rw [show o = z.offsetFromUtc u from hc]; rfl
  | ambiguous a b => rw [hl] at hc; right; exact ⟨rfl, a, b, rfl, hc⟩

end

/-- the offset is the LAST part of the texts, after the local fields which do not depend on it -/
theorem rfc3339At_suffix (t : DT) : ∃ body : Str, ∀ off, rfc3339At off t = body ++ fmtOffset true off :=
  ⟨year3339 t.year ++ '-' :: two t.month ++ '-' :: two t.day ++ 'T' :: TimeRfc.hms t ++ autoSi t.milli, fun off => by
    simp only [rfc3339At, List.append_assoc, List.cons_append]⟩
theorem rfc2822At_suffix (t : DT) : ∃ body : Str, ∀ off, rfc2822At off t = body ++ fmtOffset false off :=
  ⟨weekdayName (weekday t.days) ++ ',' :: ' ' :: Nat.toDigits 10 t.day ++ ' ' :: monthName t.month ++ ' ' ::
    Time.pad 4 t.year.toNat ++ ' ' :: TimeRfc.hms t ++ [' '], fun off => by
    simp only [rfc2822At, List.append_assoc, List.cons_append, List.nil_append]⟩

/-! ## T. Totality -/
section
variable {N : Type} [NumX N]

theorem finishZ_none_iff (z : Zone) (r : PRes NDT) :
    (finishZ z r : Option (Res N)) = none ↔ ∃ u, r = .ok u ∧ validOffset (z.offsetFromUtc u.timestamp) = false := by
  cases r with
  | error e => simp [finishZ]
  | ok u =>
    cases hv : validOffset (z.offsetFromUtc u.timestamp)
    · simp [finishZ, fixedToNaiveZ, hv]
    · cases hs : subOffset u (-(z.offsetFromUtc u.timestamp)) <;> simp [finishZ, fixedToNaiveZ, hv, hs]

theorem finishZ_total {z : Zone} (hz : z.Lawful) (r : PRes NDT) : ∃ res : Res N, finishZ z r = some res := by
  refine Option.ne_none_iff_exists'.1 fun hn => ?_
  obtain ⟨u, -, hv⟩ := (finishZ_none_iff z r).1 hn
  obtain ⟨b1, b2⟩ := hz.utcBound u.timestamp
  simp [validOffset] at hv; omega

/-- in a lawful zone `date_from_rfc3339` / `date_from_rfc2822` answer a value or an error value for EVERY argument list -/
theorem dateFromRfc3339Z_total {z : Zone} (hz : z.Lawful) (ps : List (Value N)) : ∃ r : Res N, dateFromRfc3339Z z ps = some r := by
  unfold dateFromRfc3339Z; split
  · exact finishZ_total hz _
  · exact ⟨_, rfl⟩
  · exact ⟨_, rfl⟩
theorem dateFromRfc2822Z_total {z : Zone} (hz : z.Lawful) (ps : List (Value N)) : ∃ r : Res N, dateFromRfc2822Z z ps = some r := by
  unfold dateFromRfc2822Z; split
  · exact finishZ_total hz _
  · exact ⟨_, rfl⟩
  · exact ⟨_, rfl⟩

/-- all four local-zone builtins: no panic outcome in a lawful zone (`date_to_*` are total in ANY zone: a failing
    `FixedOffset::east_opt` on that side is `MappedLocalTime::None`, the error value) -/
theorem zoned_total {z : Zone} (hz : z.Lawful) (name : String) (f : List (Value N) → Option (Res N))
    (hf : zoned z name = some f) (ps : List (Value N)) : ∃ r : Res N, f ps = some r := by
  unfold zoned at hf
  split at hf
  · cases hf; exact ⟨_, rfl⟩
  · cases hf; exact ⟨_, rfl⟩
  · cases hf; exact dateFromRfc3339Z_total hz ps
  · cases hf; exact dateFromRfc2822Z_total hz ps
  · cases hf

/-- where the model is silent, for ANY zone: exactly when the text parses to a UTC date-time at which the zone's offset
    is 24 h or more (chrono: `FixedOffset::east_opt` fails, `Local::offset_from_utc_datetime` unwraps `None` and panics) -/
theorem dateFromRfc3339Z_none_iff (z : Zone) (ps : List (Value N)) :
    dateFromRfc3339Z z ps = none ↔
      ∃ s u, ps = [.str s] ∧ rfc3339Utc s = .ok u ∧ validOffset (z.offsetFromUtc u.timestamp) = false := by
  unfold dateFromRfc3339Z
  split
  · rw [finishZ_none_iff]; simp
  all_goals
    refine ⟨fun h => (by cases h), fun ⟨s, u, hps, _⟩ => ?_⟩
    simp_all

end

/-! ## P. the POSIX-rule zones

  chrono's own calendar helpers are correct for every year and instant (SlacProofs.TimeZonePosix:
  `daysSinceUnixEpoch_eq`, `utcYear_eq`), and EVERY northern-hemisphere `Mm.w.d` rule — standard time in winter, daylight
  time from a day of a month ≥ February to a day of a later month ≤ November, transition times within 0–24 h,
  `std < dst`, whole-minute offsets below 24 h (`Posix.Alt.northern`, a decidable check of the rule's numbers) — is a
  lawful zone, for all years, without any enumeration (SlacProofs.TimeZoneNorth: `Posix.Alt.northern_confirmed`,
  `Posix.Alt.northern_complete`).
  NOT proved: lawfulness of southern-hemisphere rules (`start` month after `end` month), reverse-DST rules
  (`dst < std`) and `Jn`/`n` rules; they are modelled and compared with the crate, not covered by `Lawful`. -/

theorem Zone.northern_lawful (a : Posix.Alt) (h : a.northern = true) : (Posix.Rule.alt a).zone.Lawful := by
  have N := a.north h
  have hmem : ∀ off, off = a.std ∨ off = a.dst → (-86400 < off ∧ off < 86400) ∧ off % 60 = 0 := by
    have := N.std_gt; have := N.lt; have := N.dst_lt
    rintro off (rfl | rfl)
    · exact ⟨⟨by omega, by omega⟩, N.std_min⟩
    · exact ⟨⟨by omega, by omega⟩, N.dst_min⟩
  exact ⟨fun u => (hmem _ (a.offsetFromUtc_mem u)).1, fun l off hl => (hmem _ (a.localResult_single_mem l off hl)).1,
    fun l off hl => (hmem _ (a.localResult_single_mem l off hl)).2, a.northern_confirmed N, a.northern_complete N⟩

/-- `TZ='CET-1CEST,M3.5.0,M10.5.0/3'` and `TZ='EST5EDT,M3.2.0,M11.1.0'` are lawful zones: all years, all readings -/
theorem Zone.cet_lawful : Zone.cet.Lawful := Zone.northern_lawful Zone.cetAlt (by decide)
theorem Zone.est_lawful : Zone.est.Lawful := Zone.northern_lawful Zone.estAlt (by decide)

/-- what the rule strings denote (the parser of SlacModel.TimeZone) -/
example : Zone.ofPosix Zone.cetText = some Zone.cet := by
  have : Zone.ruleOfTz Zone.cetText = some (.alt Zone.cetAlt) := by decide
  simp only [Zone.ofPosix, this]; rfl
example : Zone.ofPosix Zone.estText = some Zone.est := by
  have : Zone.ruleOfTz Zone.estText = some (.alt Zone.estAlt) := by decide
  simp only [Zone.ofPosix, this]; rfl
/-- other members of the class: Western Europe, US Pacific -/
example : (⟨0, 3600, .monthWeekday 3 5 0, 3600, .monthWeekday 10 5 0, 7200⟩ : Posix.Alt).northern = true := by decide
example : Zone.ruleOfTz "PST8PDT,M3.2.0,M11.1.0".toList = some (.alt ⟨-28800, -25200, .monthWeekday 3 2 0, 7200, .monthWeekday 11 1 0, 7200⟩) ∧
    (⟨-28800, -25200, .monthWeekday 3 2 0, 7200, .monthWeekday 11 1 0, 7200⟩ : Posix.Alt).northern = true := by decide +kernel
/-- not members: New Zealand (southern), Ireland (winter time is the "daylight" type) -/
example : (⟨43200, 46800, .monthWeekday 9 5 0, 7200, .monthWeekday 4 1 0, 10800⟩ : Posix.Alt).northern = false := by decide
example : (⟨3600, 0, .monthWeekday 10 5 0, 7200, .monthWeekday 3 5 0, 3600⟩ : Posix.Alt).northern = false := by decide

/-- the date-time `y-m-d h:mi:s.ml` -/
def dtOf (y : Int) (m d h mi s ml : Nat) : DT := ⟨daysFromCivil y m d, ((h * 60 + mi) * 60 + s) * 1000 + ml⟩

/-- 2021-03-28 02:15 does not exist in Central Europe, 2021-10-31 02:15 exists twice, 2021-07-01 12:00 is +02:00 -/
example : Zone.cet.localResult (dtOf 2021 3 28 2 15 0 0).timestamp = .none := by decide +kernel
example : Zone.cet.localResult (dtOf 2021 10 31 2 15 0 0).timestamp = .ambiguous 3600 7200 := by decide +kernel
example : Zone.cet.localResult (dtOf 2021 7 1 12 0 0 0).timestamp = .single 7200 ∧
    Zone.cet.localResult ((dtOf 2021 7 1 12 0 0 0).timestamp + 1) ≠ .none := by decide +kernel
example : Zone.est.localResult (dtOf 2021 3 14 2 30 0 0).timestamp = .none ∧
    Zone.est.localResult (dtOf 2021 11 7 1 30 0 0).timestamp = .ambiguous (-18000) (-14400) := by decide +kernel
example : Rfc (dtOf 2021 3 28 2 15 0 0) ∧ Rfc (dtOf 2021 10 31 2 15 0 0) ∧ Rfc (dtOf 2021 7 1 12 0 0 1) := by
  refine ⟨⟨?_, ?_, ?_⟩, ⟨?_, ?_, ?_⟩, ⟨?_, ?_, ?_⟩⟩ <;> decide +kernel

/-- instances of the theorems in the rational model of the number class: the gap is an error, the overlap is an error,
    the summer reading round-trips to the millisecond -/
example : ∃ e, @dateToRfc3339Z ℚ Toy.numX Zone.cet [@encode ℚ Toy.numX (dtOf 2021 3 28 2 15 0 0)] = .error e :=
  (@dateToRfc3339Z_error_iff ℚ Toy.numX Toy.lawful _ Zone.cet_lawful _ ⟨by decide +kernel, by decide +kernel, by decide +kernel⟩).2
    (Or.inl (by decide +kernel))
example : ∃ e, @dateToRfc2822Z ℚ Toy.numX Zone.cet [@encode ℚ Toy.numX (dtOf 2021 10 31 2 15 0 0)] = .error e :=
  (@dateToRfc2822Z_error_iff ℚ Toy.numX Toy.lawful _ Zone.cet_lawful _ ⟨by decide +kernel, by decide +kernel, by decide +kernel⟩).2
    (Or.inr ⟨3600, 7200, by decide +kernel⟩)
example : @dateFromRfc3339Z ℚ Toy.numX Zone.cet [.str (rfc3339At 7200 (dtOf 2021 7 1 12 0 0 1))] =
    some (.ok (@encode ℚ Toy.numX (dtOf 2021 7 1 12 0 0 1))) :=
  @dateFromRfc3339Z_rfc3339At ℚ Toy.numX _ Zone.cet_lawful _ ⟨by decide +kernel, by decide +kernel, by decide +kernel⟩ 7200
    (by decide +kernel) (by decide +kernel)
/-- the other direction: 2021-10-31 00:30:00Z is 02:30 CEST, a repeated reading: refused, with +02:00 among its two offsets;
    2021-07-01 10:00:00Z is 12:00 CEST: printed with +02:00 -/
example : (dtOf 2021 10 31 2 30 0 0).timestamp = Time.at_ 2021 10 31 0 30 0 + Zone.cet.offsetFromUtc (Time.at_ 2021 10 31 0 30 0) ∧
    Zone.cet.localResult (dtOf 2021 10 31 2 30 0 0).timestamp = .ambiguous 3600 7200 := by decide +kernel
example : @dateToRfc3339Z ℚ Toy.numX Zone.cet [@encode ℚ Toy.numX (dtOf 2021 7 1 12 0 0 0)] =
    .ok (.str (rfc3339At (Zone.cet.offsetFromUtc (Time.at_ 2021 7 1 10 0 0)) (dtOf 2021 7 1 12 0 0 0))) := by
  rcases @dateToRfc3339Z_of_instant ℚ Toy.numX Toy.lawful _ Zone.cet_lawful (dtOf 2021 7 1 12 0 0 0)
    ⟨by decide +kernel, by decide +kernel, by decide +kernel⟩ (Time.at_ 2021 7 1 10 0 0) (by decide +kernel) with h | ⟨_, a, b, hab, _⟩
  · exact h
  · have hs : Zone.cet.localResult (dtOf 2021 7 1 12 0 0 0).timestamp = .single 7200 := by decide +kernel
    rw [hs] at hab; cases hab
example : rfc3339At 7200 (dtOf 2021 7 1 12 0 0 1) = "2021-07-01T12:00:00.001+02:00".toList := by decide +kernel
example : rfc2822At (-14400) (dtOf 2021 7 1 12 0 0 1) = "Thu, 1 Jul 2021 12:00:00 -0400".toList := by decide +kernel

/-- THE SEAM (why `Lawful.confirmed` and the round trips except the second before a skipped reading): chrono reads
    2021-03-28 02:00:00 Central European time — the first second that the clocks skip — as `single +01:00`;
    `date_to_rfc3339` prints `2021-03-28T02:00:00+01:00`, which is the instant 01:00:00Z = 03:00:00+02:00, and
    `date_from_rfc3339` returns 03:00:00: the round trip is off by one hour, in the crate and in the model alike
    (on binary64, the driver's numbers) -/
theorem seam_roundtrip_fails :
    Zone.cet.localResult (dtOf 2021 3 28 2 0 0 0).timestamp = .single 3600 ∧
    Zone.cet.localResult ((dtOf 2021 3 28 2 0 0 0).timestamp + 1) = .none ∧
    Zone.cet.offsetFromUtc ((dtOf 2021 3 28 2 0 0 0).timestamp - 3600) = 7200 ∧
    okStr? (dateToRfc3339Z Zone.cet [encode (dtOf 2021 3 28 2 0 0 0)]) = some "2021-03-28T02:00:00+01:00".toList ∧
    okNum? (dateFromRfc3339Z Zone.cet [.str "2021-03-28T02:00:00+01:00".toList]) =
      (match (encode (dtOf 2021 3 28 3 0 0 0) : Value Float) with | .num x => some x | _ => none) := by
  refine ⟨?_, ?_, ?_, ?_, ?_⟩ <;> decide +kernel

end Slac.C16
