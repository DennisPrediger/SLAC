/-
  C14 (second sentence) — what the two impure builtins may answer.  With the OS random word explicit
  (SlacModel/Nondet.lean): `choice` answers a member of its (unpacked) argument list, every member is a possible
  answer, it fails exactly on the empty list, and the finitely many words `w < length` already produce every possible
  answer (so the driver's membership test by enumeration is complete); `random` is defined on exactly the argument
  lists `default_number` accepts, and is 0 for the range 0.
-/
import SlacModel.Nondet
set_option autoImplicit false
set_option linter.unusedSectionVars false
namespace Slac.C14
open Slac.Nondet Slac.Stdlib
variable {N : Type} [NumX N]

theorem randomInt_lt (w max : Nat) (h : 0 < max) : randomInt w max < max := by
  unfold randomInt; rw [if_neg (by omega)]; exact Nat.mod_lt _ h

/-- `choice` answers a member of the unpacked argument list -/
theorem choice_member (w : Nat) (ps : List (Value N)) (v : Value N) (h : choiceWith w ps = .ok v) : v ∈ smartVec ps := by
  unfold choiceWith at h
  simp only at h
  split at h
  · rename_i x hx; cases h; exact List.mem_of_getElem? hx
  · cases h

/-- every member is a possible answer -/
theorem choice_every_member (ps : List (Value N)) (i : Nat) (h : i < (smartVec ps).length) :
    choiceWith i ps = .ok ((smartVec ps)[i]) := by
  unfold choiceWith randomInt
  simp only
  have : ¬ (smartVec ps).length = 0 := by omega
  rw [if_neg this, Nat.mod_eq_of_lt h, List.getElem?_eq_getElem h]

/-- `choice` fails exactly when there is nothing to choose from -/
theorem choice_error_iff (w : Nat) (ps : List (Value N)) :
    (∃ e, choiceWith w ps = .error e) ↔ smartVec ps = [] := by
  constructor
  · rintro ⟨e, h⟩
    cases hl : smartVec ps with
    | nil => rfl
    | cons a as =>
      have hlt : randomInt w (smartVec ps).length < (smartVec ps).length := randomInt_lt _ _ (by rw [hl]; simp)
      unfold choiceWith at h
      simp only at h
      rw [List.getElem?_eq_getElem hlt] at h
      cases h
  · intro h
    refine ⟨.wrongParameterType, ?_⟩
    unfold choiceWith; simp [h]

/-- the words below the list length already produce every possible answer (completeness of the enumeration) -/
theorem choice_small_words (w : Nat) (ps : List (Value N)) :
    ∃ w', w' < max 1 (smartVec ps).length ∧ choiceWith w' ps = choiceWith w ps := by
  by_cases h : (smartVec ps).length = 0
  · refine ⟨0, by omega, ?_⟩
    unfold choiceWith randomInt; simp [h]
  · refine ⟨randomInt w (smartVec ps).length, ?_, ?_⟩
    · have := randomInt_lt w _ (Nat.pos_of_ne_zero h); omega
    · unfold choiceWith
      simp only
      have : randomInt (randomInt w (smartVec ps).length) (smartVec ps).length = randomInt w (smartVec ps).length := by
        unfold randomInt; rw [if_neg h, if_neg h, Nat.mod_mod]
      rw [this]

/-- `random` accepts exactly no argument or a Number first argument -/
theorem random_domain (u : Nat) (ps : List (Value N)) :
    (∃ x, randomWith u ps = .ok (.num x)) ↔ (ps = [] ∨ ∃ m rest, ps = .num m :: rest) := by
  unfold randomWith defaultNumber
  cases ps with
  | nil => simp
  | cons a rest => cases a <;> simp

/-- an empty range gives 0, whatever the random word -/
theorem random_zero_range (u : Nat) (m : N) (h : NumOps.beq m (NumOps.zero : N) = true) (rest : List (Value N)) :
    randomWith u (.num m :: rest) = .ok (.num NumOps.zero) := by
  simp [randomWith, defaultNumber, randomFloat, h]

/-- non-vacuity: a concrete choice -/
example : choiceWith (N := Float) 7 [.arr [.bool true, .str ['a'], .bool false]] = .ok (.str ['a']) := rfl

end Slac.C14
