/-
  C07 (parser half) — `Compiler::compile_ast` is total: for any token list it returns a tree or an error value; it
  never panics and never loops.

  Model: `Slac.Parser.parse` (SlacModel.Parser), which runs the fuel-indexed mutual functions with fuel
  `parseFuel n = 4 * n + 4`.  The model has two crash outcomes, `outOfFuel` (non-termination within the fuel) and
  `panic`; the theorems say neither is ever the outcome:
    * never loops: every recursive call of the Rust parser works on a strictly shorter token suffix or descends from
      `parse_precedence` to `do_prefix`/`do_infix`/`expression_list`, so a call tree of depth `3 * n + 1` is enough
      (`parse_fuel_sufficient`), whatever the tokens are;
    * never panics: the only panic site of compiler.rs is the `self.current - 1` underflow in `previous()` (and its
      `PreviousTokenNotFound` error); `previous()` is only called after an `advance()` that moved the cursor
      (`parse_precedence` returns `Err(Eof)` *before* advancing at end of input), so the model never
      produces `.panic` — here that is the statement `parse toks ≠ .panic`.
  Without that test at the head of `parse_precedence` the first statement would be false: `[Minus]` would recurse forever.
-/
import SlacProofs.ParserTotal
import SlacProofs.ParserDepth
import SlacProofs.ParserNest
set_option autoImplicit false
namespace Slac.C07
open Slac.Parser
variable {N : Type}

/-- fuel linear in the token count suffices, for every start precedence and every token list -/
theorem parse_fuel_sufficient (p : Nat) (toks : List (Token N)) :
    (∃ r, parsePrec (3 * toks.length + 1) p toks = .ok r) ∨ (∃ err, parsePrec (3 * toks.length + 1) p toks = .err err) :=
  fine_iff.1 (parsePrec_fine (Nat.le_refl _))

/-- `compile_ast` returns `Ok(tree)` or `Err(error)`: never out of fuel (loops), never a panic -/
theorem parse_total (toks : List (Token N)) : (∃ e, parse toks = .ok e) ∨ (∃ err, parse toks = .err err) :=
  fine_iff.1 (parse_fine toks)

theorem parse_ne_outOfFuel (toks : List (Token N)) : parse toks ≠ .outOfFuel := (fine_ne (parse_fine toks)).2

theorem parse_ne_panic (toks : List (Token N)) : parse toks ≠ .panic := (fine_ne (parse_fine toks)).1

/-- the answer does not depend on the fuel once it is at least `3 * n + 1`: `parse` is the fuel-free function -/
theorem parse_fuel_irrelevant (toks : List (Token N)) (f : Nat) (hf : 3 * toks.length + 1 ≤ f) :
    finish (parsePrec f 1 toks) = parse toks := (parse_eq_finish hf).symm

/-- more fuel never changes an `Ok`/`Err` outcome of any run (fuel monotonicity) -/
theorem parsePrec_fuel_mono {f f' p : Nat} {toks : List (Token N)} (hle : f ≤ f')
    (h : (∃ r, parsePrec f p toks = .ok r) ∨ (∃ err, parsePrec f p toks = .err err)) :
    parsePrec f' p toks = parsePrec f p toks := parsePrec_stable (fine_iff.2 h) hle

/-- recursion depth: at most `length + 1` activations of `parse_precedence` (the only recursive entry point, at most 5
    Rust frames apart) are ever on the stack, for every run — see SlacProofs.ParserDepth for the instrumentation.
    (The fuel bound above is the same fact for the model's own call tree, where loop iterations nest: depth ≤ 3n+1.) -/
theorem parse_depth (toks : List (Token N)) : dPrec (parseFuel toks.length) 1 toks ≤ toks.length + 1 :=
  dPrec_le _ _ _

/-- … and the depth does not grow with the length of the input at all, only with the number of opening tokens
    (`(`, `[`, `not`, `-`): a nested activation that does not follow an opening token is the right operand of a binary
    operator and runs at a strictly higher precedence than its parent, which can happen at most 7 times in a row (levels 1 … 8). -/
theorem parse_depth_openers (toks : List (Token N)) :
    dPrec (parseFuel toks.length) 1 toks ≤ 9 * (1 + openers toks) :=
  dPrec_nest_le _ _

section tests
private abbrev ta : Token Nat := .identifier ['a']

/- both disjuncts of `parse_total` occur -/
example : ∃ e, parse [ta, .plus, ta] = .ok e := ⟨_, rfl⟩
example : ∃ err, parse [ta, .plus] = .err err := ⟨_, rfl⟩
/- inputs ending in a prefix operator end in `Eof` -/
example : parse ([.minus] : List (Token Nat)) = .err .eof := rfl
example : parse ([.not, .minus, .not] : List (Token Nat)) = .err .eof := rfl
example : parse [.leftParen, ta, .minus] = .err .eof := rfl
/- the depth bound is attained: `- - - -` has 4 tokens and 5 nested activations (the last one returns Eof) -/
example : dPrec (parseFuel 4) 1 ([.minus, .minus, .minus, .minus] : List (Token Nat)) = 5 := by decide
/- the precedence ladder `a or a and a xor a = a < a + a * a` reaches 8 frames without any opening token -/
example : dPrec (parseFuel 15) 1 [ta, .or, ta, .and, ta, .xor, ta, .equal, ta, .less, ta, .plus, ta, .star, ta] = 8 := by
  decide
/- a flat expression stays shallow -/
example : dPrec (parseFuel 7) 1 [ta, .plus, ta, .plus, ta, .plus, ta] = 2 := by decide
/- the fuel bound is tight up to the constant: nested brackets `[[[` need fuel exactly 9 = 3 * 3 -/
example : parsePrec 8 1 ([.leftBracket, .leftBracket, .leftBracket] : List (Token Nat)) = .outOfFuel := rfl
example : parsePrec 9 1 ([.leftBracket, .leftBracket, .leftBracket] : List (Token Nat)) = .err .eof := rfl
end tests

end Slac.C07
