/-
  SlacProps.C09Source — the hand-written models of the parameter-dispatch builtins and of the index helpers ARE the
  functions that tools/rs2lean_stdlib.py translates from the current text of src/stdlib/mod.rs, src/stdlib/common.rs
  and src/value.rs (SlacModel/Generated/SrcStdlib.lean).  Every theorem is an equation for all arguments (and both
  string offsets).  These are the functions the theorems of C09 (index arithmetic), C10 (parameter-count arms),
  C13 (between / compare), C15 (at / length / all / any) and C17 are stated about; C16Source and C18Source build on
  the equations of the two `default_*` helpers.
  An argument is split exactly where an arm of the model still looks at it: every leaf then computes.
-/
import SlacModel.Stdlib
import SlacModel.StdOrder
import SlacModel.Generated.SrcStdlib
import SlacProps.C15
set_option autoImplicit false
set_option linter.unusedSectionVars false
namespace Slac.C09Source
open Slac Slac.Generated
variable {N : Type} [NumX N]

theorem valueLen_is_source (v : Value N) : Stdlib.valueLen v = SrcStdlib.value_len v := by
  cases v <;> rfl

theorem getIndex_is_source (x : N) : Stdlib.getIndex x = SrcStdlib.get_index x := rfl

theorem getStringIndex_is_source (off : Nat) (x : N) : Stdlib.getStringIndex off x = SrcStdlib.get_string_index off x := by
  unfold Stdlib.getStringIndex SrcStdlib.get_string_index
  rw [getIndex_is_source]
  cases SrcStdlib.get_index x with
  | error e => rfl
  | ok i => simp only [bind, Except.bind]; split <;> rfl

theorem defaultString_is_source (ps : List (Value N)) (i : Nat) (d : Str) : Stdlib.defaultString ps i d = SrcStdlib.default_string ps i d := by
  unfold Stdlib.defaultString SrcStdlib.default_string
  cases ps[i]? with
  | none => rfl
  | some v => cases v <;> rfl

theorem defaultNumber_is_source (ps : List (Value N)) (i : Nat) (d : N) : Stdlib.defaultNumber ps i d = SrcStdlib.default_number ps i d := by
  unfold Stdlib.defaultNumber SrcStdlib.default_number
  cases ps[i]? with
  | none => rfl
  | some v => cases v <;> rfl

theorem smartVec_is_source (ps : List (Value N)) : Stdlib.smartVec ps = SrcStdlib.smart_vec ps := by
  unfold Stdlib.smartVec SrcStdlib.smart_vec
  split <;> simp

theorem smartVec_order_is_source (ps : List (Value N)) : StdOrder.smartVec ps = SrcStdlib.smart_vec ps := by
  unfold StdOrder.smartVec SrcStdlib.smart_vec
  split <;> simp

theorem at_is_source (off : Nat) (ps : List (Value N)) : Stdlib.at_ off ps = SrcStdlib.at_ off ps := by
  rcases ps with _ | ⟨a, _ | ⟨b, _ | ⟨c, r⟩⟩⟩
  · rfl
  · cases a <;> rfl
  · cases a with
    | str s | arr s => cases b with
      | num i =>
        simp only [Stdlib.at_, SrcStdlib.at_, getStringIndex_is_source, getIndex_is_source, bind, Except.bind]
        split <;> simp only [*] <;> rfl
      | _ => rfl
    | _ => rfl
  · cases a with
    | str s | arr s => cases b <;> rfl
    | _ => rfl

theorem between_is_source (ps : List (Value N)) : StdOrder.between ps = SrcStdlib.between ps := by
  rcases ps with _ | ⟨a, _ | ⟨b, _ | ⟨c, _ | ⟨d, r⟩⟩⟩⟩ <;> rfl
theorem compare_is_source (ps : List (Value N)) : StdOrder.compare ps = SrcStdlib.compare ps := by
  rcases ps with _ | ⟨a, _ | ⟨b, _ | ⟨c, r⟩⟩⟩ <;> rfl
theorem bool_is_source (ps : List (Value N)) : Stdlib.bool ps = SrcStdlib.bool ps := by
  rcases ps with _ | ⟨a, _ | ⟨b, r⟩⟩ <;> rfl
theorem empty_is_source (ps : List (Value N)) : Stdlib.empty ps = SrcStdlib.empty ps := by
  rcases ps with _ | ⟨a, _ | ⟨b, r⟩⟩ <;> rfl
theorem length_is_source (ps : List (Value N)) : Stdlib.length ps = SrcStdlib.length ps := by
  rcases ps with _ | ⟨a, _ | ⟨b, r⟩⟩
  · rfl
  · simp only [Stdlib.length, SrcStdlib.length, valueLen_is_source]
  · rfl
theorem all_is_source (ps : List (Value N)) : Stdlib.all ps = SrcStdlib.all ps := by
  unfold Stdlib.all SrcStdlib.all; rw [smartVec_is_source]
theorem any_is_source (ps : List (Value N)) : Stdlib.any ps = SrcStdlib.any ps := by
  unfold Stdlib.any SrcStdlib.any; rw [smartVec_is_source]
theorem ifThen_is_source (ps : List (Value N)) : Stdlib.ifThen ps = SrcStdlib.if_then ps := by
  rcases ps with _ | ⟨a, _ | ⟨b, _ | ⟨c, r⟩⟩⟩
  · rfl
  all_goals cases a <;> rfl

theorem max_is_source (ps : List (Value N)) : StdOrder.max ps = SrcStdlib.max ps := by
  unfold StdOrder.max SrcStdlib.max
  rw [smartVec_order_is_source]
  cases ps with
  | nil => rfl
  | cons a r => simp only [List.isEmpty_cons, Bool.false_eq_true, if_false]; cases StdOrder.maxV (SrcStdlib.smart_vec (a :: r)) <;> rfl
theorem min_is_source (ps : List (Value N)) : StdOrder.min ps = SrcStdlib.min ps := by
  unfold StdOrder.min SrcStdlib.min
  rw [smartVec_order_is_source]
  cases ps with
  | nil => rfl
  | cons a r => simp only [List.isEmpty_cons, Bool.false_eq_true, if_false]; cases StdOrder.minV (SrcStdlib.smart_vec (a :: r)) <;> rfl

theorem reverse_is_source (ps : List (Value N)) : Stdlib.reverse ps = SrcStdlib.reverse ps := by
  rcases ps with _ | ⟨a, _ | ⟨b, r⟩⟩
  · rfl
  all_goals cases a <;> rfl
theorem float_is_source (ps : List (Value N)) : Stdlib.float ps = SrcStdlib.float ps := by
  rcases ps with _ | ⟨a, _ | ⟨b, r⟩⟩
  · rfl
  · cases a
    case str s => simp only [Stdlib.float, SrcStdlib.float, bind, Except.bind]; cases NumOps.parse (N := N) s <;> rfl
    all_goals rfl
  · cases a <;> rfl
theorem int_is_source (ps : List (Value N)) : Stdlib.int ps = SrcStdlib.int ps := by
  unfold Stdlib.int SrcStdlib.int
  rw [float_is_source]
  cases SrcStdlib.float ps with
  | error e => rfl
  | ok v => cases v <;> rfl

theorem isEven_is_source (x : N) : Stdlib.isEven x = SrcStdlib.is_even x := rfl
theorem even_is_source (ps : List (Value N)) : Stdlib.even ps = SrcStdlib.even ps := by
  rcases ps with _ | ⟨a, _ | ⟨b, r⟩⟩
  · rfl
  all_goals cases a <;> rfl
theorem odd_is_source (ps : List (Value N)) : Stdlib.odd ps = SrcStdlib.odd ps := by
  rcases ps with _ | ⟨a, _ | ⟨b, r⟩⟩
  · rfl
  all_goals cases a <;> rfl
/-- the ten wrappers `generate_std_math_functions!` generates (the translator performs the macro_rules substitution): each is `num1` of the registered
    `f64` method (Registry.builtin binds exactly these: `"abs" ↦ num1 NumX.abs`, …) -/
theorem num1_cases (f : N → N) (g : List (Value N) → Except NativeError (Value N))
    (h0 : g [] = .error (.wrongParameterCount 1)) (h1 : ∀ a, g [a] = match a with | .num x => .ok (.num (f x)) | _ => .error .wrongParameterType)
    (h2 : ∀ a b r, g (a :: b :: r) = .error (.wrongParameterCount 1)) (ps : List (Value N)) : Stdlib.num1 f ps = g ps := by
  rcases ps with _ | ⟨a, _ | ⟨b, r⟩⟩
  · rw [h0]; rfl
  · rw [h1]; cases a <;> rfl
  · rw [h2]; cases a <;> rfl
theorem abs_is_source (ps : List (Value N)) : Stdlib.num1 NumX.abs ps = SrcStdlib.abs ps :=
  num1_cases _ _ rfl (fun a => by cases a <;> rfl) (fun a b r => by cases a <;> rfl) ps
theorem arcTan_is_source (ps : List (Value N)) : Stdlib.num1 NumX.atan ps = SrcStdlib.arc_tan ps :=
  num1_cases _ _ rfl (fun a => by cases a <;> rfl) (fun a b r => by cases a <;> rfl) ps
theorem cos_is_source (ps : List (Value N)) : Stdlib.num1 NumX.cos ps = SrcStdlib.cos ps :=
  num1_cases _ _ rfl (fun a => by cases a <;> rfl) (fun a b r => by cases a <;> rfl) ps
theorem exp_is_source (ps : List (Value N)) : Stdlib.num1 NumX.exp ps = SrcStdlib.exp ps :=
  num1_cases _ _ rfl (fun a => by cases a <;> rfl) (fun a b r => by cases a <;> rfl) ps
theorem frac_is_source (ps : List (Value N)) : Stdlib.num1 NumX.fract ps = SrcStdlib.frac ps :=
  num1_cases _ _ rfl (fun a => by cases a <;> rfl) (fun a b r => by cases a <;> rfl) ps
theorem ln_is_source (ps : List (Value N)) : Stdlib.num1 NumX.ln ps = SrcStdlib.ln ps :=
  num1_cases _ _ rfl (fun a => by cases a <;> rfl) (fun a b r => by cases a <;> rfl) ps
theorem round_is_source (ps : List (Value N)) : Stdlib.num1 NumX.round ps = SrcStdlib.round ps :=
  num1_cases _ _ rfl (fun a => by cases a <;> rfl) (fun a b r => by cases a <;> rfl) ps
theorem sin_is_source (ps : List (Value N)) : Stdlib.num1 NumX.sin ps = SrcStdlib.sin ps :=
  num1_cases _ _ rfl (fun a => by cases a <;> rfl) (fun a b r => by cases a <;> rfl) ps
theorem sqrt_is_source (ps : List (Value N)) : Stdlib.num1 NumX.sqrt ps = SrcStdlib.sqrt ps :=
  num1_cases _ _ rfl (fun a => by cases a <;> rfl) (fun a b r => by cases a <;> rfl) ps
theorem trunc_is_source (ps : List (Value N)) : Stdlib.num1 NumOps.trunc ps = SrcStdlib.trunc ps :=
  num1_cases _ _ rfl (fun a => by cases a <;> rfl) (fun a b r => by cases a <;> rfl) ps
theorem intToHex_is_source (ps : List (Value N)) : Stdlib.intToHex ps = SrcStdlib.int_to_hex ps := by
  rcases ps with _ | ⟨a, _ | ⟨b, r⟩⟩
  · rfl
  all_goals cases a <;> rfl
theorem pow_is_source (ps : List (Value N)) : Stdlib.pow ps = SrcStdlib.pow ps := by
  unfold Stdlib.pow SrcStdlib.pow
  rw [defaultNumber_is_source]
  cases SrcStdlib.default_number ps 1 (NumX.ofNat 2 : N) with
  | error e => rfl
  | ok ex =>
    rcases ps with _ | ⟨a, r⟩
    · rfl
    · cases a <;> rfl

theorem copy_is_source (off : Nat) (ps : List (Value N)) : Stdlib.copy off ps = SrcStdlib.copy off ps := by
  rcases ps with _ | ⟨a, _ | ⟨b, _ | ⟨c, _ | ⟨d, r⟩⟩⟩⟩
  · rfl
  · cases a <;> rfl
  · cases a with
    | str s | arr s => cases b <;> rfl
    | _ => rfl
  · cases a with
    | str s | arr s => cases b with
      | num i => cases c with
        | num n =>
          simp only [Stdlib.copy, SrcStdlib.copy, getStringIndex_is_source, getIndex_is_source, bind, Except.bind]
          split <;> simp only [*] <;> rfl
        | _ => rfl
      | _ => rfl
    | _ => rfl
  · cases a with
    | str s | arr s => cases b with
      | num i => cases c <;> rfl
      | _ => rfl
    | _ => rfl
theorem count_is_source (ps : List (Value N)) : Stdlib.count ps = SrcStdlib.count ps := by
  rcases ps with _ | ⟨a, _ | ⟨b, _ | ⟨c, r⟩⟩⟩
  · rfl
  · cases a <;> rfl
  all_goals
    cases a with
    | str h => cases b <;> rfl
    | _ => rfl
theorem find_is_source (off : Nat) (ps : List (Value N)) : Stdlib.find off ps = SrcStdlib.find off ps := by
  rcases ps with _ | ⟨a, _ | ⟨b, _ | ⟨c, r⟩⟩⟩
  · rfl
  · cases a <;> rfl
  · cases a with
    | str h => cases b with
      | str n => simp only [Stdlib.find, SrcStdlib.find]; cases Seq.findSeq n h <;> rfl
      | _ => rfl
    | arr h => simp only [Stdlib.find, SrcStdlib.find]; cases Stdlib.findIdx? (fun v => Value.eq v b) h <;> rfl
    | _ => rfl
  · cases a with
    | str h => cases b <;> rfl
    | _ => rfl
theorem replace_is_source (ps : List (Value N)) : Stdlib.replace ps = SrcStdlib.replace ps := by
  rcases ps with _ | ⟨a, _ | ⟨b, r⟩⟩
  · rfl
  · cases a <;> rfl
  · cases a with
    | str v => cases b with
      | str frm =>
        simp only [Stdlib.replace, SrcStdlib.replace, defaultString_is_source, bind, Except.bind]
        cases SrcStdlib.default_string (N := N) _ 2 [] <;> rfl
      | _ => rfl
    | _ => rfl

theorem lowercase_is_source (cm : Stdlib.CaseMap) (ps : List (Value N)) : Stdlib.lowercase cm ps = SrcStdlib.lowercase cm ps := by
  rcases ps with _ | ⟨a, _ | ⟨b, r⟩⟩
  · rfl
  all_goals cases a <;> rfl
theorem uppercase_is_source (cm : Stdlib.CaseMap) (ps : List (Value N)) : Stdlib.uppercase cm ps = SrcStdlib.uppercase cm ps := by
  rcases ps with _ | ⟨a, _ | ⟨b, r⟩⟩
  · rfl
  all_goals cases a <;> rfl
theorem trim_is_source (ps : List (Value N)) : Stdlib.trim ps = SrcStdlib.trim ps := by
  rcases ps with _ | ⟨a, _ | ⟨b, r⟩⟩
  · rfl
  all_goals cases a <;> rfl
theorem trimLeftF_is_source (ps : List (Value N)) : Stdlib.trimLeftF ps = SrcStdlib.trim_left ps := by
  rcases ps with _ | ⟨a, _ | ⟨b, r⟩⟩
  · rfl
  all_goals cases a <;> rfl
theorem trimRightF_is_source (ps : List (Value N)) : Stdlib.trimRightF ps = SrcStdlib.trim_right ps := by
  rcases ps with _ | ⟨a, _ | ⟨b, r⟩⟩
  · rfl
  all_goals cases a <;> rfl
theorem sameText_is_source (cm : Stdlib.CaseMap) (ps : List (Value N)) : Stdlib.sameText cm ps = SrcStdlib.same_text cm ps := by
  rcases ps with _ | ⟨a, _ | ⟨b, _ | ⟨c, r⟩⟩⟩
  · rfl
  · cases a <;> rfl
  all_goals
    cases a with
    | str h => cases b <;> rfl
    | _ => rfl

theorem contains_is_source (ps : List (Value N)) : Stdlib.contains ps = SrcStdlib.contains ps := by
  rcases ps with _ | ⟨a, _ | ⟨b, _ | ⟨c, r⟩⟩⟩
  · rfl
  · cases a <;> rfl
  all_goals
    cases a with
    | str h => cases b <;> rfl
    | _ => rfl
theorem insert_is_source (off : Nat) (ps : List (Value N)) : Stdlib.insert off ps = SrcStdlib.insert off ps := by
  rcases ps with _ | ⟨a, _ | ⟨b, _ | ⟨c, _ | ⟨d, r⟩⟩⟩⟩
  · rfl
  · cases a <;> rfl
  · cases a with
    | str t => cases b <;> rfl
    | _ => rfl
  · cases a with
    | str t => cases b with
      | str s => cases c with
        | num i =>
          simp only [Stdlib.insert, SrcStdlib.insert, getStringIndex_is_source, bind, Except.bind]
          split <;> simp_all [List.append_assoc]
        | _ => rfl
      | _ => rfl
    | arr vs => cases c with
      | num i =>
        simp only [Stdlib.insert, SrcStdlib.insert, getIndex_is_source, bind, Except.bind]
        split <;> simp_all
      | _ => rfl
    | _ => rfl
  · cases a with
    | str t => cases b with
      | str s => cases c <;> rfl
      | _ => rfl
    | arr vs => cases c <;> rfl
    | _ => rfl
theorem unique_is_source (ps : List (Value N)) : Stdlib.unique ps = SrcStdlib.unique ps := by
  rcases ps with _ | ⟨a, _ | ⟨b, r⟩⟩
  · rfl
  · cases a
    case arr vs =>
      have hf : (fun (acc : List (Value N)) (v : Value N) => if acc.any (fun r => Value.eq r v) then acc else acc ++ [v]) =
          (fun result value => if !(List.any result (fun r => Value.eq r value)) then result ++ [value] else result) := by
        funext acc v; cases acc.any (fun r => Value.eq r v) <;> rfl
      simp only [Stdlib.unique, SrcStdlib.unique, Stdlib.dedup, hf]
    all_goals rfl
  · cases a <;> rfl
theorem split_is_source (ps : List (Value N)) : Stdlib.split ps = SrcStdlib.split ps := by
  rcases ps with _ | ⟨a, _ | ⟨b, _ | ⟨c, r⟩⟩⟩
  · rfl
  · cases a <;> rfl
  all_goals
    cases a with
    | str h => cases b <;> rfl
    | _ => rfl

theorem sort_is_source (ps : List (Value N)) : StdOrder.sort ps = SrcStdlib.sort ps := by
  rcases ps with _ | ⟨a, _ | ⟨b, r⟩⟩
  · rfl
  all_goals cases a <;> rfl
/-- `rfl` would run the UTF-8 decoder on the literal -/
theorem custom_ofList (cs : List Char) : Stdlib.custom (String.ofList cs) = .custom cs := by
  simp [Stdlib.custom]

theorem chr_is_source (ps : List (Value N)) : Stdlib.chr ps = SrcStdlib.chr ps := by
  rcases ps with _ | ⟨a, _ | ⟨b, r⟩⟩
  · rfl
  · cases a
    case num o =>
      simp only [Stdlib.chr, SrcStdlib.chr]; split
      · rfl
      · exact congrArg _ (custom_ofList _)
    all_goals rfl
  · cases a <;> rfl
theorem ord_is_source (ps : List (Value N)) : Stdlib.ord ps = SrcStdlib.ord ps := by
  rcases ps with _ | ⟨a, _ | ⟨b, r⟩⟩
  · rfl
  · cases a
    case str s =>
      rcases s with _ | ⟨c, _ | ⟨d, t⟩⟩
      · exact congrArg _ (custom_ofList _)
      · simp only [Stdlib.ord, SrcStdlib.ord, List.length_singleton, beq_self_eq_true, if_true, List.all_cons, List.all_nil, Bool.and_true, List.head?_cons, Option.getD_some]
        by_cases hc : c.toNat < 128
        · simp [hc, Nat.mod_eq_of_lt (show c.toNat < 256 by omega)]
        · simp only [hc, decide_false, Bool.false_eq_true, if_false]; exact congrArg _ (custom_ofList _)
      · simp only [Stdlib.ord, SrcStdlib.ord, List.length_cons]
        rw [if_neg (by simp)]; exact congrArg _ (custom_ofList _)
    all_goals rfl
  · cases a
    case str s => rcases s with _ | ⟨c, _ | ⟨d, t⟩⟩ <;> rfl
    all_goals rfl

section positions
variable [LawfulIdx N] (off : Nat)

/-- `at(s, first + i)` of the SOURCE function enumerates the characters of `s` -/
theorem at_enumerates_source (s : Str) (hs : off + s.length < 2^53) (i : Nat) (hi : i < s.length) :
    SrcStdlib.at_ off [.str s, .num (NumX.ofNat (off + i) : N)] = .ok (.str [s[i]]) := by
  rw [← at_is_source]; exact C15.at_enumerates off s hs i hi

/-- `copy(s, find(s, x), length(x)) = x` for the SOURCE functions, for every substring `x` of every string `s` -/
theorem copy_find_source (s x : Str) (hs : off + s.length < 2^53) (h : x <:+: s) :
    ∃ p l : N, SrcStdlib.find off [.str s, .str x] = .ok (.num p) ∧ SrcStdlib.length [.str x] = .ok (.num l) ∧
      SrcStdlib.copy off [.str s, .num p, .num l] = .ok (.str x) := by
  simp only [← find_is_source, ← length_is_source, ← copy_is_source]; exact C15.copy_find off s x hs h
end positions

end Slac.C09Source
