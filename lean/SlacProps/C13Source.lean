/-
  C13 — the translator leg of the tie for the ordering of values.  `SlacModel/Generated/SrcOrder.lean` is REGENERATED
  on every check run by /verif/tools/rs2lean.py from the current text of /repo/src/value.rs (`Ord::cmp` with its
  `partial_ord` match and the `unwrap_or(ordinal.cmp(ordinal))` fallback, `PartialEq::eq`, `ordinal`, `empty`,
  `is_empty`, `as_bool`).  The theorems say that the hand-written model of SlacModel/Value.lean is exactly the
  translated source:
    `Value.ordinal = ordinal`, `Value.cmp = cmp`, `Value.cmpList = cmpList`, `Value.eq = eq`, `Value.eqList = eqList`,
    `Value.empty = empty`, `Value.isEmpty = is_empty`, `Value.asBool = as_bool`.
  The model writes the fallback of the mixed text/number arms as the literal `.lt` / `.gt`; the source computes it as
  `cmpNat (ordinal self) (ordinal other)` (`cmpNat 1 2 = .lt`, `cmpNat 2 1 = .gt`): the proofs split on the parse and
  on the partial comparison.  A changed arm in value.rs changes the generated file and breaks one of these proofs.
-/
import SlacModel.Generated.SrcOrder
import SlacProofs.InterpLemmas
set_option autoImplicit false
set_option linter.unusedSectionVars false
namespace Slac.C13Source
open Slac.Generated
variable {N : Type} [NumOps N]

theorem ordinal_is_source (v : Value N) : Value.ordinal v = SrcOrder.ordinal v := by
  cases v <;> rfl

theorem empty_is_source (v : Value N) : Value.empty v = SrcOrder.empty v := by
  cases v <;> rfl

/-- `Ord::cmp` and the slice comparison it uses, at once -/
theorem cmp_both :
    (∀ a b : Value N, Value.cmp a b = SrcOrder.cmp a b) ∧
    (∀ as bs : List (Value N), Value.cmpList as bs = SrcOrder.cmpList as bs) := by
  -- per pair of kinds the arms are the same text, except text against number: there the model writes the fallback
  -- `.lt` / `.gt` where the source computes `cmpNat (ordinal _) (ordinal _)`; the two agree once the parse and the
  -- partial comparison are split (`split`)
  refine Value.rec_both ?_ ?_ ?_ ?_ ?_ ?_
  · intro x b
    cases b <;> simp [Value.cmp, SrcOrder.cmp, Value.ordinal, SrcOrder.ordinal, cmpNat]
  · intro x b
    cases b <;> simp [Value.cmp, SrcOrder.cmp, Value.ordinal, SrcOrder.ordinal, cmpNat] <;>
      (try split) <;> simp_all
  · intro x b
    cases b <;> simp [Value.cmp, SrcOrder.cmp, Value.ordinal, SrcOrder.ordinal, cmpNat] <;>
      (try split) <;> simp_all
  · intro xs ih b
    cases b <;> simp [Value.cmp, SrcOrder.cmp, Value.ordinal, SrcOrder.ordinal, cmpNat, ih]
  · intro bs
    cases bs <;> simp [Value.cmpList, SrcOrder.cmpList]
  · intro x xs ihx ihxs bs
    cases bs <;> simp [Value.cmpList, SrcOrder.cmpList, ihx, ihxs] <;> (try split) <;> simp_all

/-- src/value.rs `impl Ord for Value`: `cmp` -/
theorem cmp_is_source (a b : Value N) : Value.cmp a b = SrcOrder.cmp a b := cmp_both.1 a b

/-- `<[Value] as PartialOrd>::partial_cmp` -/
theorem cmpList_is_source (as bs : List (Value N)) : Value.cmpList as bs = SrcOrder.cmpList as bs :=
  cmp_both.2 as bs

/-- `PartialEq::eq` and the slice equality it uses, at once -/
theorem eq_both :
    (∀ a b : Value N, Value.eq a b = SrcOrder.eq a b) ∧
    (∀ as bs : List (Value N), Value.eqList as bs = SrcOrder.eqList as bs) := by
  refine Value.rec_both ?_ ?_ ?_ ?_ ?_ ?_
  · intro x b; cases b <;> simp [Value.eq, SrcOrder.eq, cmp_is_source]
  · intro x b; cases b <;> simp [Value.eq, SrcOrder.eq, cmp_is_source]
  · intro x b; cases b <;> simp [Value.eq, SrcOrder.eq, cmp_is_source]
  · intro xs ih b; cases b <;> simp [Value.eq, SrcOrder.eq, cmp_is_source, ih]
  · intro bs; cases bs <;> simp [Value.eqList, SrcOrder.eqList]
  · intro x xs ihx ihxs bs; cases bs <;> simp [Value.eqList, SrcOrder.eqList, ihx, ihxs]

/-- src/value.rs `impl PartialEq for Value`: `eq` -/
theorem eq_is_source (a b : Value N) : Value.eq a b = SrcOrder.eq a b := eq_both.1 a b

/-- `<[Value] as PartialEq>::eq` -/
theorem eqList_is_source (as bs : List (Value N)) : Value.eqList as bs = SrcOrder.eqList as bs :=
  eq_both.2 as bs

/-- src/value.rs `is_empty` -/
theorem isEmpty_is_source (v : Value N) : Value.isEmpty v = SrcOrder.is_empty v := by
  simp only [Value.isEmpty, SrcOrder.is_empty, eq_is_source, empty_is_source]

/-- src/value.rs `as_bool` -/
theorem asBool_is_source (v : Value N) : Value.asBool v = SrcOrder.as_bool v := by
  cases v <;> simp [Value.asBool, SrcOrder.as_bool, isEmpty_is_source]

end Slac.C13Source
