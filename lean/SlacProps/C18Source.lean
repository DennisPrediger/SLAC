/-
  SlacProps.C18Source — the four regex wrappers of SlacModel/Regex.lean (the functions the C18 theorems are stated
  about) ARE what tools/rs2lean_stdlib.py translates from the current text of src/stdlib/regex.rs
  (SlacModel/Generated/SrcRegex.lean), for EVERY engine (regex-lite itself stays behind the `Engine` interface: its
  agreement with the engine model is the differential tie of C18).
-/
import SlacModel.Regex
import SlacModel.Generated.SrcRegex
import SlacProps.C09Source
set_option autoImplicit false
set_option linter.unusedSectionVars false
namespace Slac.C18Source
open Slac Slac.Generated
variable {N : Type} [NumX N] {Re : Type} (E : Regex.Engine Re)

theorem isMatch_is_source (ps : List (Value N)) : Regex.isMatch E ps = SrcRegex.is_match E ps := by
  rcases ps with _ | ⟨a, _ | ⟨b, _ | ⟨c, r⟩⟩⟩
  · rfl
  · cases a <;> rfl
  · cases a with
    | str h => cases b with
      | str p =>
        simp only [Regex.isMatch, SrcRegex.is_match, Regex.withRe, bind, Except.bind]
        cases E.compile p <;> rfl
      | _ => rfl
    | _ => rfl
  · cases a with
    | str h => cases b <;> rfl
    | _ => rfl

theorem find_is_source (ps : List (Value N)) : Regex.find E ps = SrcRegex.find E ps := by
  rcases ps with _ | ⟨a, _ | ⟨b, _ | ⟨c, r⟩⟩⟩
  · rfl
  · cases a <;> rfl
  · cases a with
    | str h => cases b with
      | str p =>
        simp only [Regex.find, SrcRegex.find, Regex.withRe, bind, Except.bind]
        cases E.compile p <;> rfl
      | _ => rfl
    | _ => rfl
  · cases a with
    | str h => cases b <;> rfl
    | _ => rfl

theorem capture_is_source (ps : List (Value N)) : Regex.capture E ps = SrcRegex.capture E ps := by
  rcases ps with _ | ⟨a, _ | ⟨b, _ | ⟨c, r⟩⟩⟩
  · rfl
  · cases a <;> rfl
  · cases a with
    | str h => cases b with
      | str p =>
        simp only [Regex.capture, SrcRegex.capture, SrcRegex.get_capture_groups, Regex.withRe, bind, Except.bind]
        cases E.compile p with
        | error m => rfl
        | ok re => simp only []; cases E.captures re h <;> rfl
      | _ => rfl
    | _ => rfl
  · cases a with
    | str h => cases b <;> rfl
    | _ => rfl

theorem replace_is_source (ps : List (Value N)) : Regex.replace E ps = SrcRegex.replace E ps := by
  unfold Regex.replace SrcRegex.replace
  rw [C09Source.defaultString_is_source, C09Source.defaultNumber_is_source]
  cases SrcStdlib.default_string ps 2 [] with
  | error e => rfl
  | ok repl =>
    simp only [bind, Except.bind]
    cases SrcStdlib.default_number ps 3 (NumOps.zero : N) with
    | error e => rfl
    | ok lim =>
      simp only []
      rcases ps with _ | ⟨a, _ | ⟨b, r⟩⟩
      · rfl
      · cases a <;> rfl
      · cases a with
        | str h => cases b with
          | str p => simp only [Regex.withRe]; cases E.compile p <;> rfl
          | _ => cases r <;> rfl
        | _ => cases r <;> rfl

end Slac.C18Source
